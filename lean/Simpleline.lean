-- Root of the `Simpleline` library: the executable model. The property files `Simpleline/Props/Cxx.lean` (each importing its
-- own lemma files) are built through the library's glob `Simpleline.+` (see lakefile.toml); they are checked file by file: a few
-- declarations exist twice under one name in lemma files that are never imported together (DESIGN.md section 11).
import Simpleline.Model.Chars
import Simpleline.Model.Text
import Simpleline.Model.Grid
import Simpleline.Model.Widgets
import Simpleline.Model.KeyPattern
import Simpleline.Model.Prompt
import Simpleline.Model.Paging
import Simpleline.Model.Machine
import Simpleline.Model.Threads
import Simpleline.Model.GLoop
