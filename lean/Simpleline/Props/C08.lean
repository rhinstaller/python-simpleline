/-
  C08 — Screen lifecycle: set up once, refreshed before every draw, closed once.

  A callback `cb` of screen `scr` is invoked by the instruction `callScr scr cb arg key`; executing
  it logs `Ev.cb scr cb arg key`. `(c.A.scr scr).ready` is the screen's `screen_ready` flag. The trace
  has `.refresh e` / `.show e` when the scheduler is about to refresh / draw stack entry `e`, and
  `.stackOp "close" _` for every pop by `close_screen`.
-/
import Simpleline.Lemmas.SchedExamples

namespace Simpleline

/-- Callbacks, `drawScreen` and the refresh step run as soon as they are pushed: in a reachable
configuration they occur nowhere but at the head of the pending code. -/
theorem C08_callbacks_run_at_once (P : Prog) (c0 c : Cfg) (h0 : Started c0) (hr : Reach P c0 c) :
    ∀ i ∈ c.code.tail, i.immediate = false :=
  hr.imm h0

/-- The complete table of callback invocations: if after a machine step of an execution the callback
`cb` of `scr` is about to be invoked with `arg`/`key`, then that step was
* `setup` — `_process_screen` finding `top` on top of the stack with a screen that is not ready, and
  the call is `top.screen.setup(top.args)`;
* `refresh` — the refresh step for an entry `top`: `top.screen.refresh(top.args)`, the arguments the
  entry was scheduled with;
* `show` — `drawScreen top`: `top.screen.show_all()`;
* `prompt` — an input request `getInput scr arg`;
* `input` — `process_input` of `scr` for a received line, with the arguments of its last request;
* `closed` — `close_screen(frm)` popping entry `e`: `e.screen.closed()`, and the request was made either
  without a requester (`frm = none`) or on behalf of that very screen (a refused request — `frm` names
  another screen — pops nothing and notifies nobody: `C08_close_refused`). No other instruction — in
  particular neither `replace_screen` nor the discarding of a failed screen — invokes `closed`. -/
theorem C08_who_calls (P : Prog) (c0 c c' : Cfg) (h0 : Started c0) (hr : Reach P c0 c) (h : StepTo P c c')
    (scr : Nat) (cb : Cb) (arg : Option Nat) (key : Option Str)
    (hh : c'.code.head? = some (.callScr scr cb arg key)) :
    match cb with
    | .setup => ∃ top rest, c.code = .processScreen :: rest ∧ c.A.stack.getLast? = some top ∧
        (c.A.scr top.screen).ready = false ∧ scr = top.screen ∧ arg = top.args ∧ key = none
    | .refresh => ∃ top rest, c.code = .afterSetup2 top :: rest ∧ scr = top.screen ∧ arg = top.args ∧ key = none
    | .show => ∃ top rest, c.code = .drawScreen top :: rest ∧ scr = top.screen ∧ arg = none ∧ key = none
    | .prompt => ∃ rest, c.code = .getInput scr arg :: rest ∧ key = none
    | .input => ∃ k rest, c.code = .processInput scr k :: rest ∧ arg = (c.A.scr scr).inputArgs ∧ key = some k
    | .closed => ∃ frm e rest, c.code = .closeScreen frm :: rest ∧ c.A.stack.getLast? = some e ∧
        (frm = none ∨ frm = some (.scr e.screen)) ∧ scr = e.screen ∧ arg = none ∧ key = none := by
  rcases hc : c.code with _ | ⟨ins, rest⟩
  · rw [h.eq, Machine.step_nil hc, sOutCfg_error, hc] at hh; cases hh
  · rw [h.eq] at hh
    cases head_imm_after (hr.imm h0) hc hh rfl with
    | closed he hacc => exact ⟨_, _, rest, rfl, he, hacc, rfl, rfl, rfl⟩
    | setup ht hrd => exact ⟨_, rest, rfl, ht, hrd, rfl, rfl, rfl⟩
    | refresh => exact ⟨_, rest, rfl, rfl, rfl, rfl⟩
    | «show» => exact ⟨_, rest, rfl, rfl, rfl, rfl⟩
    | prompt => exact ⟨rest, rfl, rfl⟩
    | input => exact ⟨_, rest, rfl, rfl, rfl⟩

/-- a log entry of a callback is written by the step of its `callScr` instruction and by nothing else -/
theorem C08_logged_by_call (P : Prog) (c c' : Cfg) (h : Trans P c c') (s : Nat) (cb : Cb) (a : Option Nat)
    (k : Option Str) (hm : .cb s cb a k ∈ newLog c c') : ∃ rest, c.code = .callScr s cb a k :: rest := by
  have hm' : Ev.cb s cb a k ∈ cbLog (newLog c c') := by simp [cbLog, hm]
  rcases h.eff with ⟨_, he⟩ | ⟨_, hf, _⟩
  · rw [he.cbLog_new] at hm'
    unfold Cfg.cbEvs at hm'
    split at hm'
    next hc =>
      simp at hm'
      obtain ⟨rfl, rfl, rfl, rfl⟩ := hm'
      exact ⟨_, hc⟩
    · cases hm'
  · rw [hf.cbLog_new] at hm'; cases hm'

/-- The ready flag is never reset, and it is set only by the return of the screen's own `setup` with a
value other than "failed before the base method ran". -/
theorem C08_ready_only_by_setup (P : Prog) (c c' : Cfg) (h : Trans P c c') (s : Nat) :
    (c'.A.scr s).ready = (c.A.scr s).ready ∨
    ((c'.A.scr s).ready = true ∧ ∃ ret key rest, c.code = .scrRet s .setup ret key :: rest ∧ ret ≠ .failBefore) := by
  rcases h.eff with ⟨hs, _⟩ | ⟨_, hf, _⟩
  · exact hs.eq ▸ ready_of_step c s
  · exact .inl (by rw [hf.scr])

/-- Once a screen is ready it stays ready, whatever happens to it afterwards (closing, replacing, a failing
later callback). -/
theorem C08_ready_stays (P : Prog) (c c' : Cfg) (h : Trans P c c') (s : Nat) (hr : (c.A.scr s).ready = true) :
    (c'.A.scr s).ready = true := by
  rcases C08_ready_only_by_setup P c c' h s with h' | h'
  · rw [h', hr]
  · exact h'.1

/-- `setup` never runs again once it has succeeded: from a reachable configuration in which screen `s`
is ready, no transition logs an invocation of `s.setup` — and by `C08_ready_stays` none ever will. -/
theorem C08_setup_once (P : Prog) (c0 c c' : Cfg) (h0 : Started c0) (hr : Reach P c0 c) (h : Trans P c c')
    (s : Nat) (hrd : (c.A.scr s).ready = true) (a : Option Nat) (k : Option Str) :
    .cb s .setup a k ∉ newLog c c' := by
  intro hm
  obtain ⟨rest, hc⟩ := C08_logged_by_call P c c' h s .setup a k hm
  have := (hr.headInv h0).setup s a k (by simp [hc])
  simp [this] at hrd

/- Finding. "`setup` runs at most once successfully" is *not* a theorem of the model (nor of the
   library): the ready flag is set when `setup` returns, so a `setup` callback that itself processes
   signals (`process_signals()`) while a second render request is pending makes the scheduler start a
   second `setup` of the same screen — before the first has returned, hence not excluded by
   `C08_setup_once`, which needs no extra hypothesis. Both invocations succeed. The counterexample: -/

open Ex in
/-- two `setup` invocations of the same screen, the second nested in the first; both return success -/
example : cbs (runFuel P5 300 c5).1 =
    [.cb 0 .setup none none, .cb 0 .setup none none, .cb 0 .refresh none none, .cb 0 .show none none,
     .cb 0 .refresh none none, .cb 0 .show none none] ∧
    (P5.screenScript 0 .setup 0).ret = .dflt ∧ (P5.screenScript 0 .setup 1).ret = .dflt := by
  decide +kernel

open Ex in
/-- … the second one is about to start (step 17) while the first has not returned, the screen being
not ready yet -/
example : ∃ c, Reach P5 c5 c ∧ headSetup c 0 = true ∧ (c.A.scr 0).ready = false ∧
    (c.log.filter (Ev.isCbOf 0 .setup)).length = 1 :=
  reach_of_run 17 (by decide +kernel)

/-- `setup` runs before the first `refresh`: in the log of every reachable configuration (newest
first), every invocation of `refresh` of a screen has an earlier invocation of `setup` of that screen. -/
theorem C08_setup_before_refresh (P : Prog) (c0 c : Cfg) (h0 : Started c0) (hr : Reach P c0 c) (s : Nat)
    (a : Option Nat) (k : Option Str) (l1 l2 : List Ev) (h : c.log = l1 ++ .cb s .refresh a k :: l2) :
    ∃ a' k', Ev.cb s .setup a' k' ∈ l2 := by
  obtain ⟨c1, rest, hr1, hc, hlog⟩ := hr.cb_emitted h0 h
  have := SetupSeen_cbLog.2 ((hr1.setupInv h0).refresh s a k (by simp [hc]))
  rw [hlog] at this
  exact SetupSeen_cbLog.1 this

/-- The result of `setup` is looked at right after it returns, for the entry that was set up: the
return instruction `scrRet scr .setup ret key` is directly followed by `afterSetup top` with
`top.screen = scr`; the step sets the ready flag unless `ret` is "failed before", and the result
register to "succeeded" iff `ret` is neither failure. -/
theorem C08_setup_result_is_tested (P : Prog) (c0 c : Cfg) (h0 : Started c0) (hr : Reach P c0 c) (scr : Nat)
    (ret : Ret) (key : Option Str) (rest : List Instr) (hc : c.code = .scrRet scr .setup ret key :: rest) :
    ∃ top rest', rest = .afterSetup top :: rest' ∧ top.screen = scr ∧
      step P c = .ok (if ret = .failBefore then { c with code := rest, retSetup := false }
        else { c with code := rest, A := c.A.setScr scr fun s => { s with ready := true },
                      L := { c.L with queues := listSet c.L.queues c.L.active (addSource · (.scr scr)) },
                      retSetup := decide (ret ≠ .failAfter) }) := by
  have hs := hr.shape h0
  rw [hc] at hs
  obtain ⟨j, r, rfl, top, rfl, h1⟩ := hs.bound_next rfl
  refine ⟨top, r, rfl, h1, ?_⟩
  simp only [step, hc]
  split <;> rfl

/-- On the trace of every reachable configuration (newest first): every draw event `.show e` has an
earlier refresh event `.refresh e` of the same entry — same screen, same arguments. -/
theorem C08_refresh_before_show (P : Prog) (c0 c : Cfg) (h0 : Started c0) (hr : Reach P c0 c) (e : Entry)
    (l1 l2 : List Tr) (h : c.tr = l1 ++ .show e :: l2) : .refresh e ∈ l2 := by
  obtain ⟨c1, hr1, hm, htr⟩ := hr.sched_emitted h0 (t := .show e) rfl h
  obtain ⟨rest, hc⟩ := drawScreen_of_show hm
  have := (hr1.refInv h0).pending e (.inr (by simp [hc]))
  rw [htr] at this
  exact (mem_schedTr rfl).1 this

/-- the same on the log of callback invocations: every `show` of a screen has an earlier `refresh` of
that screen -/
theorem C08_refresh_before_show_log (P : Prog) (c0 c : Cfg) (h0 : Started c0) (hr : Reach P c0 c) (s : Nat)
    (a : Option Nat) (k : Option Str) (l1 l2 : List Ev) (h : c.log = l1 ++ .cb s .show a k :: l2) :
    ∃ args, Ev.cb s .refresh args none ∈ l2 := by
  obtain ⟨c1, rest, hr1, hc, hlog⟩ := hr.cb_emitted h0 h
  obtain ⟨args, h'⟩ := (hr1.drawLogInv h0).show s a k (by simp [hc])
  exact ⟨args, (mem_cbLog rfl).1 (hlog ▸ (mem_cbLog rfl).2 h')⟩

/-- `drawScreen top` is pushed only by the identity check of the same entry … -/
theorem C08_draw_after_check (P : Prog) (c0 c c' : Cfg) (h0 : Started c0) (hr : Reach P c0 c) (h : StepTo P c c')
    (top : Entry) (hh : c'.code.head? = some (.drawScreen top)) : ∃ rest, c.code = .identCheck top :: rest := by
  rcases hc : c.code with _ | ⟨ins, rest⟩
  · rw [h.eq, Machine.step_nil hc, sOutCfg_error, hc] at hh; cases hh
  · rw [h.eq] at hh
    cases head_imm_after (hr.imm h0) hc hh rfl with
    | draw => exact ⟨rest, rfl⟩

/-- … and the identity check of `top` stands directly behind the `refresh` callback of `top.screen`
(while it runs: behind its return instruction), followed by the catcher of `_process_screen`: between
the return of `refresh` and the draw there is nothing but the comparison of `top` with the top of the
stack. -/
theorem C08_check_after_refresh (P : Prog) (c0 c : Cfg) (h0 : Started c0) (hr : Reach P c0 c) (scr : Nat)
    (ret : Ret) (key : Option Str) (pre post : List Instr) (hc : c.code = pre ++ .scrRet scr .refresh ret key :: post) :
    ∃ top rest, post = .identCheck top :: .catchPS :: rest ∧ top.screen = scr := by
  have hs := hr.shape h0
  rw [hc] at hs
  obtain ⟨j, r, rfl, top, rfl, h1⟩ := hs.at (i := .scrRet scr .refresh ret key) rfl
  have hs' : Shape ((pre ++ [.scrRet scr .refresh ret key]) ++ .identCheck top :: r) := by simpa using hs
  obtain ⟨j, r', rfl, hj⟩ := hs'.at (i := .identCheck top) rfl
  simp only [Instr.needs] at hj
  subst hj
  exact ⟨top, r', rfl, h1⟩

/-- the refresh step pushes exactly: the `refresh` callback with the entry's arguments, the identity
check, the catcher -/
theorem C08_refresh_step (P : Prog) (c : Cfg) (top : Entry) (rest : List Instr) (hc : c.code = .afterSetup2 top :: rest) :
    ∃ c', step P c = .ok c' ∧
      c'.code = .callScr top.screen .refresh top.args none :: .identCheck top :: .catchPS :: rest ∧
      c'.tr = .refresh top :: c.tr ∧ c'.A = c.A ∧ c'.log = c.log := by
  simp only [step, hc]
  exact ⟨_, rfl, rfl, rfl, rfl, rfl⟩

/-- When the result of `setup` is failure, the top entry `e` of the stack is discarded
(`Cfg.discarded`: popped, `.stackOp "discard"` traced) and this activation of `_process_screen` is
over — no refresh step, draw or input request is pushed; the next screen gets its turn through one
render request (`e` not modal), or, for a modal `e`, its nested loop is closed (and the application
ends if the stack is now empty). -/
theorem C08_failed_setup_discarded (P : Prog) (c : Cfg) (top e : Entry) (rest : List Instr)
    (hc : c.code = .afterSetup top :: rest) (hrs : c.retSetup = false) (he : c.A.stack.getLast? = some e) :
    step P c =
      .ok (if e.modal then push (c.discarded rest) [.closeLoop, .afterSetupFail e] else (c.discarded rest).redraw) := by
  cases hm : e.modal <;> simp [step, hc, hrs, he, hm, Cfg.discarded]

/-- what `redraw` is: one render request of the scheduler, nothing else the scheduler sees -/
theorem C08_redraw (c : Cfg) :
    ∃ t, c.redraw.tr = t :: c.tr ∧ t.isRedraw = true ∧ c.redraw.A = c.A ∧ c.redraw.code = c.code ∧
      c.redraw.log = c.log :=
  ⟨_, redraw_tr c, by simp [enqEv_isRedraw, renderSig], redraw_A c, redraw_code c, redraw_log c⟩

/- Finding. The entry that is discarded is the one on top of the stack when `setup` has returned —
   `_process_screen` pops without looking. Normally that is the entry `top` whose screen failed; but a
   failing `setup` that pushed another screen gets the pushed screen discarded and is itself set up
   again at the next rendering (example `P7` below). -/

open Ex in
/-- the set-up of the top screen fails: it is discarded without refresh, draw or prompt; the screen
beneath is processed instead -/
example : cbs (runFuel P6 300 c6).1 =
      [.cb 1 .setup none none, .cb 0 .setup none none, .cb 0 .refresh none none, .cb 0 .show none none] ∧
    sched (runFuel P6 300 c6).1 =
      [.stackOp "schedule" [e 0 1], .stackOp "schedule" [e 1 0, e 0 1], .stackOp "discard" [e 1 0],
       .refresh (e 1 0), .show (e 1 0)] := by
  decide +kernel

open Ex in
/-- a reachable configuration satisfying the hypotheses of `C08_failed_setup_discarded` -/
example : ∃ c, Reach P6 c6 c ∧ c.retSetup = false ∧ c.A.stack.getLast? = some (e 0 1) ∧
    (match c.code with | .afterSetup t :: _ => t == e 0 1 | _ => false) = true :=
  reach_of_run 12 (by decide +kernel)

open Ex in
/-- the finding: the failing `setup` of screen 0 pushed screen 1 — screen 1 is discarded, never set
up, and screen 0 is set up a second time -/
example : cbs (runFuel P7 300 c7).1 =
      [.cb 0 .setup none none, .cb 0 .setup none none, .cb 0 .refresh none none, .cb 0 .show none none,
       .cb 0 .refresh none none, .cb 0 .show none none] ∧
    (sched (runFuel P7 300 c7).1).take 3 =
      [.stackOp "schedule" [e 0 0], .stackOp "push" [e 0 0, e 1 1], .stackOp "discard" [e 0 0]] := by
  decide +kernel

/-- In every reachable configuration the number of `closed` callbacks invoked so far, plus one if one
is about to be invoked (`pendClosed`: a `callScr _ .closed` at the head of the code), equals the number
of pops by `close_screen` (`.stackOp "close"` events): one `closed` per close, none for anything else. -/
theorem C08_closed_once (P : Prog) (c0 c : Cfg) (h0 : Started c0) (hr : Reach P c0 c) :
    (c.log.filter Ev.isClosed).length + pendClosed c.code = (c.tr.filter (Tr.isOp "close")).length :=
  hr.closedCount h0

/-- the `close_screen(frm)` step when the request is accepted — no requester given, or the requester is
the screen on top: pops the top `e`, traces the operation, and pushes exactly the `closed` callback of
`e.screen` followed by the rest of `close_screen` for `e`. (Since `close_screen` checks `closed_from`
against the top *before* popping, the hypothesis `hacc` is needed: see `C08_close_refused` for the
other case.) -/
theorem C08_close_step (P : Prog) (c : Cfg) (frm : Option Src) (e : Entry) (rest : List Instr)
    (hc : c.code = .closeScreen frm :: rest) (he : c.A.stack.getLast? = some e)
    (hacc : frm = none ∨ frm = some (.scr e.screen)) :
    ∃ c', step P c = .ok c' ∧
      c'.code = .callScr e.screen .closed none none :: .closeScreen2 e frm :: rest ∧
      c'.A.stack = c.A.stack.dropLast ∧ c'.tr = .stackOp "close" c.A.stack.dropLast :: c.tr ∧ c'.log = c.log := by
  have hrf : ¬ (frm ≠ none ∧ frm ≠ some (.scr e.screen)) := fun h => hacc.elim h.1 h.2
  simp only [step, hc, he, hrf, if_false]
  exact ⟨_, rfl, rfl, rfl, rfl, rfl⟩

/-- the `close_screen(frm)` step when `frm` names anything but the screen on top: `RenderUnexpectedError`
is raised at once — nothing is popped and no `closed` callback is pushed (what raising does to the rest
of the configuration: `C04_refused_close_keeps_stack`) -/
theorem C08_close_refused (P : Prog) (c : Cfg) (frm : Option Src) (e : Entry) (rest : List Instr)
    (hc : c.code = .closeScreen frm :: rest) (he : c.A.stack.getLast? = some e)
    (hrf : frm ≠ none ∧ frm ≠ some (.scr e.screen)) :
    step P c = ({ c with code := rest } : Cfg).raise .err := by
  simp only [step, hc, he]
  rw [if_pos hrf]

open Ex in
/-- two closes (a modal dialog, then the screen): two `closed` callbacks, for the popped screens, in order -/
example : (cbs (runFuel (P4 (fun _ => .dflt) (some 1)) 3000 (c4 ["q", "c"])).1).filter Ev.isClosed =
      [.cb 1 .closed none none, .cb 0 .closed none none] ∧
    ((runFuel (P4 (fun _ => .dflt) (some 1)) 3000 (c4 ["q", "c"])).1.tr.filter (Tr.isOp "close")).length = 2 := by
  decide +kernel

open Ex in
/-- a replace is not a close: no `closed` callback -/
example : (cbs (runFuel P2 300 c2).1).filter Ev.isClosed = [.cb 3 .closed none none] ∧
    ((runFuel P2 300 c2).1.tr.filter (Tr.isOp "replace")).length = 1 := by
  decide +kernel

end Simpleline
