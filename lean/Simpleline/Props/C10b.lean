/-
  C10b — the `TicketMachine` object (`simpleline/event_loop/ticket_machine.py`) under ARBITRARY sequences of
  calls of its public methods `take_ticket`, `check_ticket`, `mark_line_to_go`: the dictionary of dictionaries
  `_lines` refines the flat ticket list of the abstract machine (`Model/Machine.lean`: `LoopSt.tickets`,
  `LoopSt.tcounter`, `mark`, the `procWait`/`waitCheck` instructions) and obeys the user-level laws.

  Property theorems only. Model: `Simpleline/Model/Objects.lean` (`TM κ`, generic in the type `κ` of line ids,
  validated against the Python class); spec vocabulary (`FlatTM`, `TM.get`, `TM.Abs`, `TM.WF`, `ideal`,
  `PendingSince`, `MarkedBetween`): `Simpleline/Spec/ObjectsSpec.lean`; lemmas: `Simpleline/Lemmas/Objects*.lean`.

  `check_ticket` has three results: `ready` (Python returns `True` and pops the ticket), `wait` (`False`),
  `keyError` (Python raises `KeyError`: unknown line, or unknown ticket in a known line; the event loop never
  issues such a check, the object model says what happens if a user does).

  Abstraction relation (`TM.Abs`), CHOICE: up to order — same counter, and `_lines[l][t]` exists with value `b`
  iff `(l, t, b)` is in the flat list (the flat list is in take order, the dictionaries group by line).
-/
import Simpleline.Lemmas.ObjectsFlat
import Simpleline.Lemmas.ObjectsLaws
import Simpleline.Lemmas.ObjectsHistLaw
import Simpleline.Model.Machine

namespace Simpleline.Objects

variable {κ : Type} [DecidableEq κ]

/-- The representation invariant (line keys distinct, ticket keys inside a line distinct, every ticket id below
the counter, a ticket id in at most one line) holds for a fresh `TicketMachine()`, is preserved by every method
call, hence holds after every sequence of calls. -/
theorem C10b_wf :
    TM.WF ({} : TM κ) ∧ (∀ (m : TM κ) (op : TMOp κ), m.WF → (m.step op).2.WF) ∧
    (∀ ops : List (TMOp κ), (({} : TM κ).run ops).2.WF) :=
  ⟨TM.WF.empty, fun _ op h => h.step op, fun ops => TM.WF.empty.run ops⟩

/-- The ticket returned by a `take_ticket` is the number of `take_ticket` calls before it (whatever the lines);
so the tickets of a session are strictly increasing, in particular pairwise distinct and never reused; and the
counter moves only by takes: after a session it is the number of takes. -/
theorem C10b_tickets_fresh (ops : List (TMOp κ)) :
    (∀ (i : Nat) (l : κ), ops[i]? = some (TMOp.take l) →
        (({} : TM κ).run ops).1[i]? = some (TMOut.ticket (ticketAt ops i))) ∧
    (∀ (i j : Nat) (l l' : κ) (t t' : Nat), i < j →
        ops[i]? = some (TMOp.take l) → ops[j]? = some (TMOp.take l') →
        (({} : TM κ).run ops).1[i]? = some (TMOut.ticket t) →
        (({} : TM κ).run ops).1[j]? = some (TMOut.ticket t') → t < t') ∧
    (({} : TM κ).run ops).2.counter = ops.countP TMOp.isTake ∧
    (∀ (m : TM κ) (op : TMOp κ), (m.step op).2.counter = m.counter + if op.isTake then 1 else 0) := by
  refine ⟨fun i l h => ?_, fun i j l l' t t' hij hi hj hti htj => ?_,
    by simpa using TM.run_counter ({} : TM κ) ops, TM.step_counter⟩
  · rw [TM.run_getElem?, h]
    simp [TM.step, TM.take_fst, TM.run_counter, ticketAt]
  · -- the answer to a take is the counter at that moment: the number of takes before it
    rw [TM.run_getElem?, hi] at hti
    rw [TM.run_getElem?, hj] at htj
    simp only [Option.map_some, TM.step, TM.take_fst, TM.run_counter, Option.some.injEq, TMOut.ticket.injEq]
      at hti htj
    subst hti
    subst htj
    exact Nat.add_lt_add_left (ticketAt_lt_of_take ops l hi hij) _

/-- One method call refines one step of the flat machine: from related states (`m` well-formed) the results
are equal and the states are related again. (take ↔ append an unmarked ticket numbered by the counter,
mark ↔ `Machine.mark`, check ↔ the `any … marked` test and the `filter`.) -/
theorem C10b_refines_flat_step (m : TM κ) (f : FlatTM κ) (h : m.Abs f) (hwf : m.WF) (op : TMOp κ) :
    (m.step op).1 = (f.step op).1 ∧ (m.step op).2.Abs (f.step op).2 :=
  h.step hwf op

/-- For every sequence of calls from a fresh object: the same results as the flat machine, and related final
states. -/
theorem C10b_refines_flat (ops : List (TMOp κ)) :
    (({} : TM κ).run ops).1 = (({} : FlatTM κ).run ops).1 ∧
    (({} : TM κ).run ops).2.Abs (({} : FlatTM κ).run ops).2 :=
  TM.Abs.run ⟨rfl, fun l t b => by simp [TM.get, alookup]⟩ TM.WF.empty ops

/-- What the three results of `check_ticket` mean on the flat list (for related states): ready iff the
machine's test `any (line = l ∧ id = t ∧ marked)` succeeds — and then exactly that ticket is filtered out;
wait iff the ticket is there unmarked; `KeyError` iff the ticket is not outstanding in that line (a case the
abstract machine and the real loop never produce). -/
theorem C10b_check_vs_flat (m : TM κ) (f : FlatTM κ) (h : m.Abs f) (hwf : m.WF) (l : κ) (t : Nat) :
    ((m.check l t).1 = .ready ↔ f.tickets.any (fun k => k.1 = l ∧ k.2.1 = t ∧ k.2.2) = true) ∧
    ((m.check l t).1 = .ready → (m.check l t).2.Abs
        { f with tickets := f.tickets.filter fun k => ¬ (k.1 = l ∧ k.2.1 = t) }) ∧
    ((m.check l t).1 = .wait ↔ (l, t, false) ∈ f.tickets) ∧
    ((m.check l t).1 = .keyError ↔ ∀ b, (l, t, b) ∉ f.tickets) ∧
    ((m.check l t).1 ≠ .ready → (m.check l t).2 = m) := by
  refine ⟨?_, fun hr => ?_, ?_, ?_, fun hr => ?_⟩
  · rw [TM.check_ready_iff, h.2, FlatTM.any_marked_iff]
  · have h1 := h.check hwf l t
    rwa [FlatTM.check_eq, if_pos ((h.2 ..).1 ((TM.check_ready_iff ..).1 hr))] at h1
  · rw [TM.check_wait_iff, h.2]
  · rw [TM.check_keyError_iff, Option.eq_none_iff_forall_ne_some]
    exact forall_congr' fun b => not_congr (h.2 l t b)
  · exact TM.check_snd_of_not_ready m l t (fun e => hr ((TM.check_ready_iff m l t).2 e))

/-- a flat triple as a `Machine.Ticket` -/
def toTicket (k : Cls × Nat × Bool) : Ticket := { line := k.1, id := k.2.1, marked := k.2.2 }

/-- Anchor to the abstract machine: at line type `Cls` the flat machine of the spec IS the ticket component of
`Model/Machine.lean` — `take` is the update of `procWait` (append `{line, id := tcounter, marked := false}`,
counter + 1), `mark` is `Simpleline.mark`, and the test and the filter of `check` are those of `waitCheck`
(`toTicket` turns a triple into a `Machine.Ticket`). -/
theorem C10b_flat_is_machine (f : FlatTM Cls) (c : Cls) (t : Nat) :
    ((f.take c).1 = f.counter ∧ (f.take c).2.counter = f.counter + 1 ∧
      (f.take c).2.tickets.map toTicket
        = f.tickets.map toTicket ++ [({ line := c, id := f.counter, marked := false } : Ticket)]) ∧
    ((f.mark c).tickets.map toTicket = Simpleline.mark (f.tickets.map toTicket) c) ∧
    (f.tickets.any (fun k => k.1 = c ∧ k.2.1 = t ∧ k.2.2)
      = (f.tickets.map toTicket).any (fun k => k.line = c ∧ k.id = t ∧ k.marked)) ∧
    ((f.tickets.filter fun k => ¬ (k.1 = c ∧ k.2.1 = t)).map toTicket
      = (f.tickets.map toTicket).filter fun k => ¬ (k.line = c ∧ k.id = t)) := by
  refine ⟨by simp [FlatTM.take, toTicket], ?_, ?_, ?_⟩
  · simp only [FlatTM.mark, Simpleline.mark, List.map_map]
    apply List.map_congr_left
    intro k _
    simp only [Function.comp, toTicket]
    by_cases h : k.1 = c <;> simp [h]
  · simp only [List.any_map, Function.comp_def, toTicket]
    congr 1
  · rw [List.filter_map]
    rfl

/-- History form I: the results of a whole session are those of the reference `ideal`, which computes every
answer by looking back into the operations issued so far (a take answers the number of takes before it; a check
of `(l, t)` looks for the take that issued `t` on line `l`, for a `mark l` after it, and for a `check l t` after
such a mark). No state is involved in `ideal`. -/
theorem C10b_run_eq_ideal (ops : List (TMOp κ)) : (({} : TM κ).run ops).1 = ideal ops := by
  apply List.ext_getElem?
  intro i
  rw [TM.run_getElem?, ideal, List.getElem?_mapIdx]
  cases ops[i]? with
  | none => rfl
  | some op => exact congrArg some ((Hist.empty.run (ops.take i)).step op).1

/-- History form II, the user-level law, on a session `ops` and the answers `outs` it got: a `check l t` at
position `i` answers ready iff there is `j < i` with `ops[j] = take l` that returned `t`, no check of `(l, t)`
between `j` and `i` answered ready, and some `mark l` lies strictly between `j` and `i`; it answers wait iff
there is such a `j` (not yet answered ready) with no `mark l` in between; it answers `KeyError` iff there is no
such `j` at all (never taken on that line, or already answered ready). -/
theorem C10b_ready_iff_marked_since (ops : List (TMOp κ)) (i : Nat) (l : κ) (t : Nat)
    (h : ops[i]? = some (.check l t)) :
    ((({} : TM κ).run ops).1[i]? = some (.checked .ready) ↔
      ∃ j, PendingSince ops (({} : TM κ).run ops).1 i j l t ∧ MarkedBetween ops j i l) ∧
    ((({} : TM κ).run ops).1[i]? = some (.checked .wait) ↔
      ∃ j, PendingSince ops (({} : TM κ).run ops).1 i j l t ∧ ¬ MarkedBetween ops j i l) ∧
    ((({} : TM κ).run ops).1[i]? = some (.checked .keyError) ↔
      ¬ ∃ j, PendingSince ops (({} : TM κ).run ops).1 i j l t) := by
  -- the answer is that of the object after the first `i` calls, which holds the tickets outstanding then
  have hh := Hist.empty.run (ops.take i)
  rw [List.nil_append] at hh
  rw [C10b_run_eq_ideal]
  simp only [ideal_check ops i l t _ h, ← hh.check_eq, TM.check_ready_iff, TM.check_wait_iff, TM.check_keyError_iff,
    hh.get_none, hh.2.2, out_take, true_iff, Bool.false_eq_true, false_iff, true_and]
  refine ⟨fun hn ⟨j, hp⟩ => ?_, fun hn b ⟨j, hp, _⟩ => hn ⟨j, hp⟩⟩
  by_cases hm : MarkedBetween ops j i l
  · exact hn true ⟨j, hp, by simp [hm]⟩
  · exact hn false ⟨j, hp, by simp [hm]⟩

/-- `mark_line_to_go(l)` changes the answer of no check on another line (any state, no invariant needed). -/
theorem C10b_mark_only_own_line (m : TM κ) (l l' : κ) (t : Nat) (h : l' ≠ l) :
    ((m.mark l).check l' t).1 = (m.check l' t).1 := by
  rw [TM.check_fst, TM.check_fst, TM.get_mark, if_neg h]

/-- A released ticket is consumed exactly once: after `check_ticket(l, t)` answered ready, whatever calls
follow (ids are never reused), every later `check_ticket(l, t)` raises `KeyError`. -/
theorem C10b_ready_once (m : TM κ) (hwf : m.WF) (l : κ) (t : Nat) (h : (m.check l t).1 = .ready)
    (ops : List (TMOp κ)) : (((m.check l t).2.run ops).2.check l t).1 = .keyError := by
  rw [TM.check_ready_iff] at h
  rw [TM.check_keyError_iff]
  have hwf' : (m.check l t).2.WF := hwf.step (.check l t)
  refine TM.gone_run hwf' ?_ ?_ ops
  · rw [hwf.get_check, if_pos ⟨rfl, rfl, h⟩]
  · rw [TM.check_counter]; exact hwf.get_lt h

/-- … the same on a session from a fresh object: `pre`, the check that answers ready, `mid`, the check again. -/
theorem C10b_ready_once_run (pre mid : List (TMOp κ)) (l : κ) (t : Nat)
    (h : (({} : TM κ).run (pre ++ [.check l t])).1[pre.length]? = some (.checked .ready)) :
    (({} : TM κ).run (pre ++ [.check l t] ++ mid ++ [.check l t])).1[pre.length + 1 + mid.length]?
      = some (.checked .keyError) := by
  rw [TM.run_out_at] at h
  have hk := C10b_ready_once _ (TM.WF.empty.run pre) l t (by simpa [TM.step] using h) mid
  rw [show pre.length + 1 + mid.length = (pre ++ [TMOp.check l t] ++ mid).length by simp; omega, TM.run_out_at]
  simp only [List.append_assoc, TM.run_append, TM.run, TM.step, hk]

/-- One `mark_line_to_go(l)` releases every waiter of the line: every ticket for which a check would not raise
`KeyError` answers ready right after the mark. -/
theorem C10b_all_waiters (m : TM κ) (l : κ) (t : Nat) (h : (m.check l t).1 ≠ .keyError) :
    ((m.mark l).check l t).1 = .ready := by
  rw [TM.check_ready_iff, TM.get_mark, if_pos rfl]
  cases hg : m.get l t with
  | none => exact absurd ((TM.check_keyError_iff m l t).2 hg) h
  | some b => rfl

/- Non-vacuity: a concrete session with two lines (`0`, `1`), an unknown line (`2`), three tickets;
ready, wait and both kinds of `KeyError` occur -/

/-- the session used below -/
def c10bDemo : List (TMOp Nat) :=
  [.take 0, .take 1, .take 0, .check 0 0, .mark 0, .check 0 0, .check 0 0, .check 1 1, .check 0 2,
   .check 1 5, .check 2 0, .mark 1, .check 1 1, .check 1 0]

example :
    (({} : TM Nat).run c10bDemo).1 =
      [.ticket 0, .ticket 1, .ticket 2, .checked .wait, .unit, .checked .ready, .checked .keyError,
       .checked .wait, .checked .ready, .checked .keyError, .checked .keyError, .unit, .checked .ready,
       .checked .keyError] := by decide

/-- the emptied dictionaries stay behind (as in Python) -/
example : (({} : TM Nat).run c10bDemo).2 = { lines := [(0, []), (1, [])], counter := 3 } := by decide

example : (({} : FlatTM Nat).run c10bDemo).1 = (({} : TM Nat).run c10bDemo).1 := by decide

example : ideal c10bDemo = (({} : TM Nat).run c10bDemo).1 := by decide

/-- an intermediate state with outstanding tickets in two lines; it is well-formed, and related to the flat list -/
example :
    (({} : TM Nat).run (c10bDemo.take 6)).2 = { lines := [(0, [(2, true)]), (1, [(1, false)])], counter := 3 } ∧
    (({} : FlatTM Nat).run (c10bDemo.take 6)).2 = { tickets := [(1, 1, false), (0, 2, true)], counter := 3 } ∧
    (({} : TM Nat).run (c10bDemo.take 6)).2.WF := by decide

/-- the hypotheses of `C10b_ready_iff_marked_since` on the demo: the check at position 5 is pending since the
take at 0 and marked in between (position 4); the check at 3 is pending and not marked -/
example :
    PendingSince c10bDemo (({} : TM Nat).run c10bDemo).1 5 0 0 0 ∧ MarkedBetween c10bDemo 0 5 0 ∧
    PendingSince c10bDemo (({} : TM Nat).run c10bDemo).1 3 0 0 0 ∧ ¬ MarkedBetween c10bDemo 0 3 0 := by
  refine ⟨⟨by decide, by decide, by decide, ?_⟩, ⟨4, by decide, by decide, by decide⟩,
    ⟨by decide, by decide, by decide, ?_⟩, ?_⟩
  · intro k h1 h2; have : k = 1 ∨ k = 2 ∨ k = 3 ∨ k = 4 := by omega
    rcases this with rfl | rfl | rfl | rfl <;> decide
  · intro k h1 h2; have : k = 1 ∨ k = 2 := by omega
    rcases this with rfl | rfl <;> decide
  · rintro ⟨k, h1, h2, h3⟩; have : k = 1 ∨ k = 2 := by omega
    rcases this with rfl | rfl <;> revert h3 <;> decide

/-- `TM.WF` is a real restriction: a hand-made object with a duplicated ticket key is not well-formed, and on it
a ready check does not consume the ticket (`C10b_ready_once` fails without `WF`) -/
example :
    let m : TM Nat := { lines := [(0, [(0, true), (0, true)])], counter := 1 }
    ¬ m.WF ∧ (m.check 0 0).1 = .ready ∧ ((m.check 0 0).2.check 0 0).1 = .ready := by decide

end Simpleline.Objects
