/-
  C19 — Signals may be submitted from any thread: none lost, duplicated or reordered.

  The property theorems; the invariants they are read off are in `Simpleline/Lemmas/Thread*.lean`, the vocabulary in
  `Simpleline/Spec/ThreadSpec.lean`, the model in `Simpleline/Model/Threads.lean`.

  Reading guide.  The model is a labelled transition system at the granularity of single shared accesses (finer
  than source lines): `tstep s t e = some s'` = thread `t` performs access `e`; `run s0 sched` folds it over a
  schedule `sched : List (thread × access)`.  Thread 0 is the loop thread (dispatching with `get`/`putBack`,
  `register_signal_source`, `execute_new_loop`, `close_loop`); every other thread only runs `enqueue_signal`.
  "Every interleaving" = every schedule accepted by `run` from `initState src0`; `TReach src0 s` = `s` is the
  state after some accepted schedule.  All theorems hold for any number of threads and any schedule length.
  `s.levels` is `MainLoop._event_queues` (indices into the store `s.queues` of all `EventQueue` objects ever
  created — objects are never deleted, a closed level's queue stays in the store), `s.active` is `_active_queue`,
  `s.pc t` is the code position of thread `t`, `s.dispatched` the (queue, id) pairs handed to the dispatcher
  (newest first), `s.completed` the ids whose `enqueue_signal` has returned.

  What the property's sentences become:
  * "each dispatched exactly once … none lost, duplicated": `C19_ids_conserved` (the multiset law),
    `C19_no_dup`, `C19_exactly_once`, `C19_conserve`, `C19_conserve_put_done`, `C19_stored_stable`, and the exact
    effect of `put`/`get`/`putBack` (`C19_put_adds_one`, `C19_get_takes_min`, `C19_putBack_undoes_get`).  These are safety
    statements: a submitted signal is always accounted for (in a thread's hands, waiting, or dispatched), never
    twice; that the loop thread eventually gets to it is liveness of the dispatch loop, not of the interleaving;
  * "signals of equal priority submitted by one thread are dispatched in that thread's submission order":
    `C19_thread_fifo` (history form, per thread) and `C19_fifo_dispatch` (per queue, any threads; its hypothesis of
    distinct ids is needed: `C19_fifo_dispatch_needs_distinct`), on top of the state form `C19_fifo_state` and of
    `C19_get_fifo` (what `get` returns);
  * "registering sources and opening or closing nested loops … never corrupts the loop": `C19_mutex`,
    `C19_mutex_exclusive`, `C19_structure`, `C19_levels_written_under_lock`, `C19_levels_stable_while_locked`,
    `C19_snapshot`, `C19_sources_only_grow`;
  * "… or misroutes a signal whose source belongs to a loop level that stays open": `C19_routing_found`; the
    fallback path (source owned by no level) is characterised by `C19_routing_fallback` and is outside the claim.
    `C19_put_is_routed` says that every `put` is one of these two cases; `C19_lvIter_reads_levels`,
    `C19_activeRead_reads_active`, `C19_contains_answers` that the reads the two theorems speak of return the
    current values.
-/
import Simpleline.Lemmas.ThreadOrder

namespace Simpleline.Threads

/-! ### 1. lock discipline -/

/-- **Mutual exclusion, as an invariant of every reachable state.**  The main lock (`MainLoop._lock`) is held by
thread `t` exactly when `t` is at a code position inside a `with self._lock:` block (`PC.holdsMain`: the level
search of `enqueue_signal` up to and including a `put` on the found path, the `append` of `execute_new_loop`,
the `pop`/re-read of `close_loop`); likewise every queue's `_lock` (`holdsSrc`: asking `contains_source`, or
`add_source`) and `_order_lock` (`holdsOrd`: the `put` and the counter increment). -/
theorem C19_mutex (src0 : List Nat) (s : TState) (hr : TReach src0 s) :
    (∀ t, s.mainLock = some t ↔ (s.pc t).holdsMain = true) ∧
    (∀ q, q < s.queues.length → ∀ t, (s.q q).srcLock = some t ↔ (s.pc t).holdsSrc q = true) ∧
    (∀ q, q < s.queues.length → ∀ t, (s.q q).ordLock = some t ↔ (s.pc t).holdsOrd q = true) :=
  ⟨(tinv_reach hr).main, fun q _ => (tinv_reach hr).src q, fun q _ => (tinv_reach hr).ord q⟩

/-- hence at most one thread is inside each critical section at any moment -/
theorem C19_mutex_exclusive (src0 : List Nat) (s : TState) (hr : TReach src0 s) (t1 t2 : Nat) :
    ((s.pc t1).holdsMain = true → (s.pc t2).holdsMain = true → t1 = t2) ∧
    (∀ q, q < s.queues.length → (s.pc t1).holdsSrc q = true → (s.pc t2).holdsSrc q = true → t1 = t2) ∧
    (∀ q, q < s.queues.length → (s.pc t1).holdsOrd q = true → (s.pc t2).holdsOrd q = true → t1 = t2) := by
  have h := tinv_reach hr
  exact ⟨fun h1 h2 => Option.some.inj (((h.main t1).2 h1).symm.trans ((h.main t2).2 h2)),
    fun q _ h1 h2 => Option.some.inj (((h.src q t1).2 h1).symm.trans ((h.src q t2).2 h2)),
    fun q _ h1 h2 => Option.some.inj (((h.ord q t1).2 h1).symm.trans ((h.ord q t2).2 h2))⟩

/-! ### 2. the level list and `_active_queue` are never corrupted -/

/-- **Structure invariant.**  In every reachable state: only thread 0 is ever at a loop-thread code position;
every queue index a thread works with exists; every level is an existing queue, no queue is a level twice;
`_active_queue` is an existing queue and it is (`PC.activeOK`, by the code position of the loop thread) the
queue just created by `execute_new_loop` and not yet appended (`nlRead`/`nlAppend`: not a level yet), or the
level just popped by `close_loop` whose replacement has not been written yet (`clPopped`/`clSetActive`: not a
level any more), or otherwise the top level — unless the last level has been popped (`levels = []`, the loop is
over). -/
theorem C19_structure (src0 : List Nat) (s : TState) (hr : TReach src0 s) :
    (∀ t, t ≠ 0 → (s.pc t).isSub = true) ∧
    (∀ t, (s.pc t).valid s.queues.length) ∧
    (∀ q ∈ s.levels, q < s.queues.length) ∧ s.levels.Nodup ∧
    s.active < s.queues.length ∧ (s.pc 0).activeOK s.levels s.active :=
  let h := tinv_reach hr
  ⟨h.sub, h.valid, h.lvValid, h.lvNodup, h.actValid, h.act⟩

/-- `MainLoop._event_queues` changes only in `lvAppend` / `lvPop` steps, and these are taken only by the loop
thread while it holds the main lock. -/
theorem C19_levels_written_under_lock (src0 : List Nat) (s s' : TState) (hr : TReach src0 s) (t : Nat) (e : Ev)
    (hs : tstep s t e = some s') :
    (e.isLevelWrite = false → s'.levels = s.levels) ∧
    (e.isLevelWrite = true → s.mainLock = some t ∧ t = 0) := by
  rcases levels_cases (tstep_sound hs) with ⟨he, hl⟩ | ⟨he, hm, hpc⟩
  · exact ⟨fun _ => hl, fun he' => absurd (he.symm.trans he') Bool.false_ne_true⟩
  · refine ⟨fun he' => absurd (he'.symm.trans he) Bool.false_ne_true, fun _ => ⟨hm, (tinv_reach hr).eq_zero ?_⟩⟩
    rcases hpc with ⟨_, _, hpc, _⟩ | ⟨hpc, _⟩ <;> rw [hpc] <;> rfl

/-- so while a submitter holds the main lock nobody else changes the level list -/
theorem C19_levels_stable_while_locked (src0 : List Nat) (s s' : TState) (hr : TReach src0 s) (t t' : Nat)
    (e : Ev) (hl : s.mainLock = some t) (hne : t' ≠ t) (hs : tstep s t' e = some s') : s'.levels = s.levels := by
  rcases levels_cases (tstep_sound hs) with ⟨_, h⟩ | ⟨_, hm, _⟩
  · exact h
  · exact absurd (Option.some.inj (hm.symm.trans hl)) hne

/-- **The snapshot a submitter iterates over stays the truth** (`PC.snapOK`): while thread `t` is in the level
search (`iter sg todo` / `asking sg q todo` / `asked sg q todo _`), the levels it has already asked followed by
those still to ask are exactly the current `reversed(self._event_queues)`; and a level it found under the lock
(`putAcq/putDo/putRel _ q true`) is still a level. -/
theorem C19_snapshot (src0 : List Nat) (s : TState) (hr : TReach src0 s) (t : Nat) : (s.pc t).snapOK s.levels :=
  let ⟨_, hr'⟩ := hr; snapOK_of_route (route_run hr' t)

/-- registered sources are never removed by any step of any thread (and `add_source` runs under the queue's own
lock: `C19_mutex`) -/
theorem C19_sources_only_grow (s s' : TState) (t : Nat) (e : Ev) (hs : tstep s t e = some s') (q n : Nat)
    (h : n ∈ (s.q q).sources) : n ∈ (s'.q q).sources :=
  sources_step (tstep_sound hs) q n h

/-! ### 3. nothing is duplicated -/

/-- **Conservation of signal ids, as multisets.**  After every accepted schedule the ids whose submission has
begun (`submit` / `newLoop` events) are exactly — with multiplicities — the ids still in the hands of a thread
that has not reached its `put` yet (`preIds`), the ids waiting in the queues (`entryIds`, all queue objects
ever created) and the ids dispatched.  No hypothesis on the ids. -/
theorem C19_ids_conserved (src0 : List Nat) (sched : List (Nat × Ev)) (s : TState)
    (hr : run (initState src0) sched = some s) :
    (s.preIds ++ s.entryIds ++ s.dispatchedIds).Perm (submitted sched) := by
  rw [List.perm_iff_count]
  intro a
  rw [List.count_append, List.count_append]
  exact cnt_run hr a

/-- **No duplication.**  If the submitted ids are pairwise distinct, then at every moment the ids in flight, in
all queues and in `dispatched` are pairwise distinct: no signal is in two queues, or twice in a queue, or
dispatched twice, or dispatched while still waiting. -/
theorem C19_no_dup (src0 : List Nat) (sched : List (Nat × Ev)) (s : TState)
    (hr : run (initState src0) sched = some s) (hd : DistinctIds sched) :
    (s.preIds ++ s.entryIds ++ s.dispatchedIds).Nodup :=
  (C19_ids_conserved src0 sched s hr).nodup_iff.2 hd

/-- the hypothesis is needed: with a repeated id the lists are of course not duplicate-free (two threads submit
id 5; the multiset law `C19_ids_conserved` still holds) -/
example : (run (initState []) [(1, .submit ⟨5, none, 0⟩), (2, .submit ⟨5, none, 0⟩)]).map
    (fun s => decide (s.preIds ++ s.entryIds ++ s.dispatchedIds).Nodup) = some false := by
  decide +kernel

/-- **Exactly once.**  With distinct ids, a signal whose `enqueue_signal` has returned is at exactly one place,
exactly once: waiting in one queue or dispatched once — and no thread still holds it. -/
theorem C19_exactly_once (src0 : List Nat) (sched : List (Nat × Ev)) (s : TState)
    (hr : run (initState src0) sched = some s) (hd : DistinctIds sched) (id : Nat) (hc : id ∈ s.completed) :
    List.count id (s.entryIds ++ s.dispatchedIds) = 1 ∧ id ∉ s.preIds :=
  by
  have h1 := cnt_run hr id
  have h2 := List.nodup_iff_count.1 hd id
  have h3 := (stored_iff_count s id).1 ((qcinv_reach ⟨sched, hr⟩).2.compl id hc)
  rw [List.count_append]
  exact ⟨by omega, fun hp => by have := List.count_pos_iff.2 hp; omega⟩

/-- a `put` step adds exactly one entry — the acting thread's signal with the queue's arrival counter, which it
increments — to exactly one queue, and nothing else changes in the queues or in `dispatched` -/
theorem C19_put_adds_one (src0 : List Nat) (s s' : TState) (hr : TReach src0 s) (t q sid : Nat) (prio : Int)
    (o : Nat) (hs : tstep s t (.put q sid prio o) = some s') :
    o = (s.q q).seq ∧ (s'.q q).entries = (prio, o, sid) :: (s.q q).entries ∧ (s'.q q).seq = o + 1 ∧
      (∀ q', q' ≠ q → s'.q q' = s.q q') ∧ s'.dispatched = s.dispatched := by
  have hv := (tinv_reach hr).valid t
  cases tstep_sound hs with
  | put sg _ f hpc =>
    rw [hpc] at hv
    exact ⟨rfl, congrArg TQ.entries (setQ_q_self s q _ hv), congrArg TQ.seq (setQ_q_self s q _ hv),
      fun q' hne => setQ_q_ne s q _ hne, rfl⟩

/-- a `get` step (loop thread, active queue) removes exactly one entry, one that is minimal in
(priority, arrival number) among all entries of the queue, and records it as dispatched -/
theorem C19_get_takes_min (src0 : List Nat) (s s' : TState) (hr : TReach src0 s) (t q sid : Nat)
    (hs : tstep s t (.get q sid) = some s') :
    t = 0 ∧ q = s.active ∧ ∃ m, minEntry (s.q q).entries = some m ∧ m.2.2 = sid ∧ m ∈ (s.q q).entries ∧
      (∀ e ∈ (s.q q).entries, entryLe m e = true) ∧
      (s'.q q).entries = (s.q q).entries.erase m ∧ ((s.q q).entries).Perm (m :: (s'.q q).entries) ∧
      (∀ q', q' ≠ q → s'.q q' = s.q q') ∧ s'.dispatched = (q, sid) :: s.dispatched := by
  cases tstep_sound hs with
  | get m hpc ht hm =>
    -- a queue that does not exist has no entries
    have ha : s.active < s.queues.length := Decidable.byContradiction fun h => by
      rw [q_of_not_lt s h] at hm; cases hm
    have he := congrArg TQ.entries (setQ_q_self s _ (fun x => { x with entries := x.entries.erase m }) ha)
    exact ⟨ht, rfl, m, hm, rfl, minEntry_mem hm, minEntry_le hm, he, he ▸ List.perm_cons_erase (minEntry_mem hm),
      fun q' hne => setQ_q_ne s _ _ hne, rfl⟩

/-- `putBack` undoes exactly the last `get`: the entry taken goes back into its queue and leaves `dispatched` -/
theorem C19_putBack_undoes_get (src0 : List Nat) (s s' : TState) (hr : TReach src0 s) (t q sid : Nat)
    (hs : tstep s t (.putBack q sid) = some s') :
    t = 0 ∧ ∃ m, s.lastTaken = some (q, m) ∧ m.2.2 = sid ∧ s.dispatched = (q, sid) :: s'.dispatched ∧
      (s'.q q).entries = m :: (s.q q).entries ∧ (∀ q', q' ≠ q → s'.q q' = s.q q') := by
  cases tstep_sound hs with
  | putBack _ m d ds hpc ht hlt hd =>
    obtain ⟨hq, ⟨ds', hds⟩, _⟩ := (qcinv_reach hr).1.taken q m hlt
    obtain rfl : ds' = ds := (List.cons.inj (hds.symm.trans hd)).2
    exact ⟨ht, m, hlt, rfl, hds, congrArg TQ.entries (setQ_q_self s q _ hq), fun q' hne => setQ_q_ne s q _ hne⟩

/-! ### 4. nothing is lost -/

/-- **No loss.**  Every signal whose `enqueue_signal` has returned (`completed`) is waiting in some queue of the
store or has been dispatched (`TState.stored`).  The queue may be a level that has since been closed — leftovers
of a closed level stay in its queue object, which is the single-threaded semantics too; what the interleaving
cannot do is make a submitted signal vanish.  (`putBack` moves an id from `dispatched` back to its queue, so
"dispatched" alone is not monotone; "stored" is: `C19_stored_stable`.) -/
theorem C19_conserve (src0 : List Nat) (s : TState) (hr : TReach src0 s) :
    ∀ id ∈ s.completed, s.stored id :=
  (qcinv_reach hr).2.compl

/-- the same already between the `put` and the return of `enqueue_signal` -/
theorem C19_conserve_put_done (src0 : List Nat) (s : TState) (hr : TReach src0 s) (t : Nat) :
    ∀ id ∈ (s.pc t).postId, s.stored id :=
  (qcinv_reach hr).2.post t

/-- no step of any thread makes a stored id disappear -/
theorem C19_stored_stable (src0 : List Nat) (s s' : TState) (hr : TReach src0 s) (t : Nat) (e : Ev)
    (hs : tstep s t e = some s') (id : Nat) (h : s.stored id) : s'.stored id :=
  stored_of_qeff (qeff (tinv_reach hr) (qcinv_reach hr).1 (tstep_sound hs)) id h

/-! ### 5. routing -/

/-- **Routing on the found path.**  Suppose the schedule `pre` is accepted and leads to `s`, and thread `t` is
about to `put` into `q` inside the main lock (`putDo sg q true`; the `put q sg.sid sg.prio _` step is the only
step it can take).  Then: `t` holds the main lock; `q` is an open level at this very moment; the signal has a
source and `q` has it registered; and the history is `pre = pre0 ++ (t, lvIter s.levels) :: mid` where the
`lvIter` event read exactly the current level list, nobody has written the level list since (`NoLevelWrite mid`),
and `t`'s own accesses since are, for the levels `above` `q` (innermost first): lock it, ask, get the answer
"not mine", unlock it — then lock `q`, ask, get "mine", unlock, take `q`'s order lock.  So the signal goes into
the innermost level that answered "mine" when asked under that level's own lock during this one critical
section of the main lock, and that level cannot have been closed in between.  (A source registered in an inner
level *after* that level was asked is legitimately missed: the answers are those of the moments of asking.) -/
theorem C19_routing_found (src0 : List Nat) (pre : List (Nat × Ev)) (s : TState) (t : Nat) (sg : TSig) (q : Nat)
    (hr : run (initState src0) pre = some s) (hpc : s.pc t = .putDo sg q true) :
    s.mainLock = some t ∧ q ∈ s.levels ∧ (∃ n, sg.src = some n ∧ n ∈ (s.q q).sources) ∧
      ∃ above below, s.levels.reverse = above ++ q :: below ∧
        CritSec t pre s.levels (above.flatMap (askNo sg.src) ++ askYes sg.src q ++ [.acqO q]) := by
  have h := tinv_reach ⟨pre, hr⟩
  have h3 := found_reach ⟨pre, hr⟩ t
  have h4 := route_run hr t
  have h2 := snapOK_of_route h4
  rw [hpc] at h2 h3 h4
  exact ⟨(h.main t).2 (by rw [hpc]; rfl), h2 rfl, h3 rfl, h4.1 rfl⟩

/-- **Routing on the fallback path** (`putDo sg q false`: no level owns the source).  The history is
`pre = pre0 ++ (t, lvIter lv) :: mid1 ++ (t, relMain) :: mid2`: `t` read the level list `lv`, nobody wrote it
while `t` asked *every* level of it (innermost first) and got "not mine" from each, `t` released the main lock,
then read `_active_queue` (the `activeRead q` event: `q` was the active queue at that moment,
`C19_activeRead_reads_active`) and took `q`'s order lock.  Between that read and the `put` the loop thread may
close level `q`: then the signal lands in a closed level (see the last example at the end of this file).  This
is outside the property's claim, which is about sources owned by a level that stays open. -/
theorem C19_routing_fallback (src0 : List Nat) (pre : List (Nat × Ev)) (s : TState) (t : Nat) (sg : TSig)
    (q : Nat) (hr : run (initState src0) pre = some s) (hpc : s.pc t = .putDo sg q false) :
    Fallback t pre sg.src [.activeRead q, .acqO q] := by
  have h := route_run hr t
  rw [hpc] at h
  exact h.2 rfl

/-- every accepted `put` step is one of the two cases above, and puts the thread's own signal -/
theorem C19_put_is_routed (s s' : TState) (t q sid : Nat) (prio : Int) (o : Nat)
    (hs : tstep s t (.put q sid prio o) = some s') :
    ∃ sg found, s.pc t = .putDo sg q found ∧ sg.sid = sid ∧ sg.prio = prio ∧ o = (s.q q).seq := by
  cases tstep_sound hs with
  | put sg _ f hpc => exact ⟨sg, f, hpc, rfl, rfl, rfl⟩

/-- The events the routing theorems talk about carry the truth (this and the next two theorems): an accepted
`lvIter lv` read the current level list. -/
theorem C19_lvIter_reads_levels (s s' : TState) (t : Nat) (lv : List Nat)
    (hs : tstep s t (.lvIter lv) = some s') : lv = s.levels := by
  have := tstep_sound hs; cases this; rfl

/-- an accepted `activeRead q` of a submitter on the fallback path read the current `_active_queue` -/
theorem C19_activeRead_reads_active (s s' : TState) (t q : Nat) (sg : TSig) (hpc : s.pc t = .fallback sg)
    (hs : tstep s t (.activeRead q) = some s') : q = s.active := by
  have := tstep_sound hs
  cases this <;> simp_all

/-- an accepted `contains q src res` got the current answer of queue `q` to `contains_source(src)` -/
theorem C19_contains_answers (s s' : TState) (t q : Nat) (src : Option Nat) (res : Bool)
    (hs : tstep s t (.contains q src res) = some s') :
    res = match (generalizing := false) src with | some n => (s.q q).sources.contains n | none => false := by
  have := tstep_sound hs
  clear hs
  cases this
  assumption

/-! ### 6. FIFO among equal priorities -/

/-- **State form.**  In every reachable state, within one queue all entries have pairwise distinct arrival
numbers, all below the queue's counter.  Together with `C19_put_adds_one` (a `put` uses the counter and increments
it: of two puts into one queue the later has the larger number) and `C19_get_takes_min` (`get` takes an entry
minimal in (priority, arrival number)), a queue is FIFO among equal priorities: `C19_get_fifo`. -/
theorem C19_fifo_state (src0 : List Nat) (s : TState) (hr : TReach src0 s) (q : Nat) :
    (∀ e ∈ (s.q q).entries, e.2.1 < (s.q q).seq) ∧ ((s.q q).entries.map (·.2.1)).Nodup :=
  ⟨(qcinv_reach hr).1.arrLt q, (qcinv_reach hr).1.arrNodup q⟩

/-- the entry `get` returns has the smallest arrival number among the waiting entries of its priority -/
theorem C19_get_fifo (l : List (Int × Nat × Nat)) (m : Int × Nat × Nat) (h : minEntry l = some m) :
    m ∈ l ∧ (∀ e ∈ l, entryLe m e = true) ∧ ∀ e ∈ l, e.1 = m.1 → m.2.1 ≤ e.2.1 :=
  ⟨minEntry_mem h, minEntry_le h, minEntry_fifo h⟩

/-- **History form, per queue.**  Let the submitted ids be distinct.  If signal `a` was put into queue `q` before
signal `b` was (put records in schedule order: `puts sched = P1 ++ (q,a,p,oa) :: P2 ++ (q,b,p,ob) :: P3`), both
with priority `p`, by whatever threads, and `b` has been dispatched, then `a` got the smaller arrival number and
has been dispatched before `b` (it is further back in the newest-first list `dispatched`) — whatever the
interleaving, including `putBack`s. -/
theorem C19_fifo_dispatch (src0 : List Nat) (sched : List (Nat × Ev)) (s : TState)
    (hr : run (initState src0) sched = some s) (hd : DistinctIds sched)
    (q a b : Nat) (p : Int) (oa ob : Nat) (P1 P2 P3 : List (Nat × Nat × Int × Nat))
    (hp : puts sched = P1 ++ (q, a, p, oa) :: (P2 ++ (q, b, p, ob) :: P3))
    (hb : (q, b) ∈ s.dispatched) :
    oa < ob ∧ ∃ l1 l2, s.dispatched = l1 ++ (q, b) :: l2 ∧ (q, a) ∈ l2 :=
  fifo_dispatch hr hd (p := p) (P := P1 ++ [(q, a, p, oa)]) (Q := P2 ++ (q, b, p, ob) :: P3) (by rw [hp]; simp) (by simp) (by simp) hb

/-- `DistinctIds` is needed in `C19_fifo_dispatch`: in `dupSchedule` thread 1 submits id 5 twice, both are put into
queue 0 with priority 0, one is dispatched — "the earlier put is further back in `dispatched`" cannot hold for
the pair (5, 5). -/
theorem C19_fifo_dispatch_needs_distinct :
    ¬ ∀ (sched : List (Nat × Ev)) (s : TState), run (initState []) sched = some s →
      ∀ (q a b : Nat) (p : Int) (oa ob : Nat) (P1 P2 P3 : List (Nat × Nat × Int × Nat)),
        puts sched = P1 ++ (q, a, p, oa) :: (P2 ++ (q, b, p, ob) :: P3) → (q, b) ∈ s.dispatched →
        oa < ob ∧ ∃ l1 l2, s.dispatched = l1 ++ (q, b) :: l2 ∧ (q, a) ∈ l2 := by
  intro h
  have hd : (run (initState []) dupSchedule).map (·.dispatched) = some [(0, 5)] := by decide +kernel
  cases hrun : run (initState []) dupSchedule with
  | none => rw [hrun] at hd; simp at hd
  | some s =>
    rw [hrun] at hd
    simp only [Option.map_some, Option.some.injEq] at hd
    obtain ⟨_, l1, l2, hl, hm⟩ := h dupSchedule s hrun 0 5 5 0 0 1 [] [] [] (by decide +kernel) (by simp [hd])
    rw [hd] at hl
    cases l1 with
    | nil => simp at hl; subst hl; simp at hm
    | cons x l1 => simp at hl

/-- **History form, per thread: a thread's submission order is its dispatch order.**  Let the submitted ids be
distinct.  If thread `t` called `enqueue_signal(a)` and later `enqueue_signal(b)`
(`sched = A ++ (t, submit a) :: B ++ (t, submit b) :: C`), both signals were put into the same queue `q` with
the same priority `p` (the `put` events are in the schedule), and `b` has been dispatched, then `a` has been
dispatched before `b` — whatever other submitters and the loop thread did in between.  (The second call begins
only after the first one's `put`: code-position discipline, proved on the history.) -/
theorem C19_thread_fifo (src0 : List Nat) (sched : List (Nat × Ev)) (s : TState)
    (hr : run (initState src0) sched = some s) (hd : DistinctIds sched)
    (t : Nat) (A B C : List (Nat × Ev)) (a b : TSig)
    (hsub : sched = A ++ (t, .submit a) :: (B ++ (t, .submit b) :: C))
    (ta tb q : Nat) (p : Int) (oa ob : Nat)
    (hpa : (ta, Ev.put q a.sid p oa) ∈ sched) (hpb : (tb, Ev.put q b.sid p ob) ∈ sched)
    (hdisp : (q, b.sid) ∈ s.dispatched) :
    oa < ob ∧ ∃ l1 l2, s.dispatched = l1 ++ (q, b.sid) :: l2 ∧ (q, a.sid) ∈ l2 :=
  thread_fifo hr hd hsub hpa hpb hdisp

/-! ### 7. non-vacuity: concrete schedules -/

/-- it is accepted, its ids are distinct, and it ends with all three signals dispatched (newest first), all three
submissions returned, level 0 active again -/
example :
    (run (initState [7]) demoSchedule).map (fun s => (s.dispatched, s.completed, s.levels, s.active)) =
      some ([(0, 11), (0, 10), (1, 99)], [99, 11, 10], [0], 0) ∧ DistinctIds demoSchedule := by
  decide +kernel

/-- a non-trivial reachable state on the found path (thread 2 about to put into level 0, having asked the
nested level 1 first) -/
example : (run (initState [7]) (demoSchedule.take 26)).map (fun s => (s.pc 2, s.levels, s.mainLock)) =
    some (.putDo ⟨11, some 7, 0⟩ 0 true, [0, 1], some 2) := by
  decide +kernel

/-- the hypotheses of `C19_thread_fifo` are satisfiable: in `fifoSchedule` thread 1 submits 10 then 11, both are
put into queue 0 with priority 0, both are dispatched — 10 first (it is further back in `dispatched`) -/
example :
    (run (initState []) fifoSchedule).map (·.dispatched) = some [(0, 11), (0, 10)] ∧ DistinctIds fifoSchedule ∧
      fifoSchedule = [] ++ (1, .submit ⟨10, none, 0⟩) ::
        ((fifoSchedule.drop 1).take 10 ++ (1, .submit ⟨11, none, 0⟩) :: fifoSchedule.drop 12) ∧
      (1, Ev.put 0 10 0 0) ∈ fifoSchedule ∧ (1, Ev.put 0 11 0 1) ∈ fifoSchedule := by
  decide +kernel

/-- rejected: appending a level without holding the main lock -/
example : run (initState [7]) [(0, .newLoop ⟨99, none, 0⟩), (0, .activeWrite 1), (0, .lvAppend 1)] = none := by
  decide +kernel

/-- rejected: the loop thread taking the main lock while a submitter holds it (index 22 of this prefix) -/
example : (replay (initState [7]) (demoSchedule.take 22 ++ [(0, .acqMain)]) 0).2 = some 22 := by
  decide +kernel

/-- The fallback path can land in a closed level (outside the property's claim): the signal is stored (not lost)
in queue 1, which is no longer a level. -/
example :
    (run (initState [7]) closedLevelSchedule).map (fun s => (s.levels, s.active, s.completed)) =
        some ([0], 0, [20, 99]) ∧
      (run (initState [7]) closedLevelSchedule).map (fun s => (s.q 1).entries.map (·.2.2)) = some [20, 99] := by
  decide +kernel

end Simpleline.Threads
