/-
  C14 — The number shown next to an item is the number that selects it.

  `kp.label i` is what `KeyPattern.get_widget_label(i)` displays, `processKey cc kp cbs key` is
  `Container.process_user_input(key)` for a container whose items have / do not have a callback
  (`cbs`), `key = none` standing for a key that is not a `str`, `kp = none` for numbering switched off.
  `pyInt` is Python's `int(str)`.
-/
import Simpleline.Lemmas.KeyPattern

namespace Simpleline

/-- What the theorems need to know about the digits of a `CharClass`: ASCII digits have their
values and neither they nor the minus sign are stripped or misread. (True of Python.) -/
structure CharClass.Decimal (cc : CharClass) : Prop where
  digit : ∀ d, d < 10 → cc.digitVal (digitChar d) = some d
  digit_not_space : ∀ d, d < 10 → cc.isIntSpace (digitChar d) = false
  minus_not_space : cc.isIntSpace '-' = false
  minus_not_digit : cc.digitVal '-' = none

theorem asciiClass_decimal : asciiClass.Decimal :=
  ⟨by decide, by decide, by decide, by decide⟩

/-- the label of item `i` is the pattern around the decimal form of `i + offset` -/
theorem C14_display (kp : KeyPat) (i : Nat) :
    kp.label i = kp.pre ++ intRepr ((i : Int) + kp.offset) ++ kp.post := rfl

/-- reading back the decimal form gives the number -/
theorem C14_roundtrip (cc : CharClass) (hd : cc.Decimal) (z : Int) : pyInt cc (intRepr z) = some z :=
  pyInt_intRepr cc hd.digit hd.digit_not_space hd.minus_not_space z

/-- a key is reported as handled exactly when it reads (as `int()` reads it) as the displayed
number of an existing item -/
theorem C14_select_iff (cc : CharClass) (kp : KeyPat) (cbs : List Bool) (k : List Char) :
    (processKey cc (some kp) cbs (some k)).handled = true ↔
      ∃ i, i < cbs.length ∧ pyInt cc k = some ((i : Int) + kp.offset) := by
  rw [processKey_some]
  constructor
  · intro h
    cases hp : pyInt cc k with
    | none => simp [hp] at h
    | some z =>
      simp only [hp] at h
      split at h
      · next hc => exact ⟨(z - kp.offset).toNat, hc.2, by congr 1; omega⟩
      · simp at h
  · rintro ⟨i, hi, hk⟩
    simp [hk, hi]

/-- … and then exactly that item's callback position is reached (once; the callback is invoked iff
the item has one), and no other -/
theorem C14_fired (cc : CharClass) (kp : KeyPat) (cbs : List Bool) (k : List Char) (i : Nat)
    (hi : i < cbs.length) (hk : pyInt cc k = some ((i : Int) + kp.offset)) :
    processKey cc (some kp) cbs (some k) =
      { handled := true, fired := if cbs.getD i false then some i else none } := by
  rw [processKey_some, hk]
  have h1 : (i : Int) + kp.offset - kp.offset = i := by omega
  simp [h1, hi]

/-- typing exactly the displayed number of item `i` selects item `i` -/
theorem C14_displayed_number_selects (cc : CharClass) (hd : cc.Decimal) (kp : KeyPat) (cbs : List Bool)
    (i : Nat) (hi : i < cbs.length) :
    processKey cc (some kp) cbs (some (intRepr ((i : Int) + kp.offset))) =
      { handled := true, fired := if cbs.getD i false then some i else none } :=
  C14_fired cc kp cbs _ i hi (C14_roundtrip cc hd _)

/-- input that is not a number is not handled and invokes nothing -/
theorem C14_not_a_number (cc : CharClass) (kp : KeyPat) (cbs : List Bool) (k : List Char)
    (hk : pyInt cc k = none) :
    processKey cc (some kp) cbs (some k) = { handled := false, fired := none } := by
  rw [processKey_some, hk]

/-- a number that is no item's displayed number (zero / negative / too large relative to the
offset) is not handled and invokes nothing -/
theorem C14_out_of_range (cc : CharClass) (kp : KeyPat) (cbs : List Bool) (k : List Char) (z : Int)
    (hk : pyInt cc k = some z) (hz : z - kp.offset < 0 ∨ (cbs.length : Int) ≤ z - kp.offset) :
    processKey cc (some kp) cbs (some k) = { handled := false, fired := none } := by
  rw [processKey_some, hk]
  simp only
  rw [if_neg]
  omega

/-- nothing is invoked unless the key is handled -/
theorem C14_unhandled_fires_nothing (cc : CharClass) (kp : Option KeyPat) (cbs : List Bool)
    (key : Option (List Char)) (h : (processKey cc kp cbs key).handled = false) :
    (processKey cc kp cbs key).fired = none := by
  cases kp with
  | none => rfl
  | some kp =>
    cases key with
    | none => rfl
    | some k =>
      rw [processKey_some] at h ⊢
      split
      · next z hz =>
        rw [hz] at h
        simp only at h
        split
        · next hc => rw [if_pos hc] at h; cases h
        · rfl
      · rfl

/-- with numbering switched off nothing is ever selected -/
theorem C14_numbering_off (cc : CharClass) (cbs : List Bool) (key : Option (List Char)) :
    processKey cc none cbs key = { handled := false, fired := none } := by
  unfold processKey; rfl

/-- a key that is not a string selects nothing -/
theorem C14_non_string (cc : CharClass) (kp : Option KeyPat) (cbs : List Bool) :
    processKey cc kp cbs none = { handled := false, fired := none } := by
  unfold processKey; cases kp <;> rfl

/-- an item without a callback is handled but nothing is invoked -/
theorem C14_no_callback (cc : CharClass) (kp : KeyPat) (cbs : List Bool) (k : List Char) (i : Nat)
    (hi : i < cbs.length) (hk : pyInt cc k = some ((i : Int) + kp.offset)) (hcb : cbs.getD i false = false) :
    processKey cc (some kp) cbs (some k) = { handled := true, fired := none } := by
  rw [C14_fired cc kp cbs k i hi hk, hcb]; rfl

/-! Non-vacuity: offset 5, three items, the key "6" selects item 1; "1" selects nothing. -/
example : processKey asciiClass (some { offset := 5 }) [true, true, false] (some "6".toList) =
    { handled := true, fired := some 1 } := by decide +kernel
example : processKey asciiClass (some { offset := 5 }) [true, true, false] (some "1".toList) =
    { handled := false, fired := none } := by decide +kernel
example : ({ offset := 5 } : KeyPat).label 1 = "6) ".toList := by decide +kernel

end Simpleline
