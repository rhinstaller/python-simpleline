/-
  C20c — the clauses of the other properties anchored in `glib_event_loop.py` (C02, C09, C10, C03), stated on the GLib
  machine (`Model/GMachine.lean`) and each either PROVED or REFUTED by a kernel-checked run of a small concrete program —
  so that the known divergences between the two loops (G2 handler exception, G3 exit / close with a running batch, G4
  waiting calls) are precise statements about the machine.

  Property theorems only; lemmas in `Lemmas/GMcUnwind.lean` (+ `Lemmas/GM*.lean`), vocabulary in `Spec/GMSpec.lean`.

  Replaying a counterexample on the real code: the JSON case next to it is in the driver's case format; run it with
      from harness.props.session import with_cc; from harness.impl.app import run_real
      run_real(with_cc(case), "glib")      # GLibEventLoop over the stand-in        run_real(with_cc(case))   # MainLoop
  Common fields of every case below:
      "op": "gmachine", "mode": "loop", "width": 80, "screens": [], "stdin": [], "quit_screen": null, "run_empty": true, "deliver_at": []
-/
import Simpleline.Lemmas.GMcUnwind

namespace Simpleline.G

def mkProg (f : Nat → Nat → List Act) : Prog := { cc := asciiClass, runEmpty := true, handlerScript := f }

theorem prefix_getElem? {α} {l1 l2 : List α} (h : l1 <+: l2) {k : Nat} {x : α} (hk : l1[k]? = some x) : l2[k]? = some x := by
  obtain ⟨t, rfl⟩ := h
  obtain ⟨hlt, _⟩ := List.getElem?_eq_some_iff.1 hk
  rw [List.getElem?_append_left hlt, hk]

theorem handlersOf_prefix {L L' : GSt} (h : L.handlers <+: L'.handlers) (cls : Cls) : handlersOf L cls <+: handlersOf L' cls :=
  handlers_prefix h cls

/-! ### 1. C02 on GLib -/

/-- **(a) Within one dispatch the handlers are called in list order, without gaps, up to the point where the chain ends.**
For every transition of every execution:
* registrations are only appended: the `k`-th handler registered for a class stays the `k`-th;
* a handler-call instruction enters the pending code only from the handler loop of its own signal at some position `k`
  (`gCall s .live k` at the head), it is the `k`-th entry of the list registered for the exact class of `s` at that
  moment, and what is pending next is that call followed by the same loop at position `k + 1`;
* a handler-loop position enters the pending code only as position `0` (from `_run_handlers` of that source, `runH`) or
  as the successor `k₀ + 1` of the position `k₀` at the head.
So the positions a chain visits are `0, 1, 2, …` and at position `k` the `k`-th registered handler is called; the chain ends
(`dispatched s k`) at the end of the list, at a force-quit (`C20b_force_quit_breaks_handler_loop`), or by an exception
(clause (b)). -/
theorem C20c_handlers_in_registration_order (P : Prog) (c c' : Cfg) (ht : Trans P c c') :
    (∀ (cls : Cls) (k : Nat) (x : HRef × Option Nat), (handlersOf c.L cls)[k]? = some x → (handlersOf c'.L cls)[k]? = some x) ∧
    (∀ h d s, Instr.callH h d s ∈ c'.code → Instr.callH h d s ∉ c.code →
      ∃ k, c.code.head? = some (.gCall s .live k) ∧ (handlersOf c.L s.cls)[k]? = some (h, d) ∧
        c'.code = .callH h d s :: .gCall s .live (k + 1) :: c.code.tail) ∧
    (∀ s hs k, Instr.gCall s hs k ∈ c'.code → Instr.gCall s hs k ∉ c.code →
      (∃ k0, c.code.head? = some (.gCall s hs k0) ∧ k = k0 + 1) ∨
      (∃ q g, c.code.head? = some (.runH q g) ∧ g.sig = s ∧ g.hs = hs ∧ k = 0)) :=
  ⟨fun cls _ _ hx => prefix_getElem? (handlersOf_prefix (trans_handlers ht) cls) hx,
   fun _ _ _ hm hn => (trans_pushed ht hm hn rfl).1,
   fun _ _ _ hm hn => (trans_pushed ht hm hn rfl).imp id fun ⟨q, g, h2, h3, h4, _, h5⟩ => ⟨q, g, h2, h3, h4, h5⟩⟩

/-- … and the end of the list ends the chain: the dispatch is complete after `k` handlers. -/
theorem C20c_chain_ends_at_end_of_list (P : Prog) (c : Cfg) (s : Sig) (k : Nat) (rest : List Instr)
    (hc : c.code = .gCall s .live k :: rest) (hn : (handlersOf c.L s.cls)[k]? = none) :
    step P c = .ok { c with code := rest, tr := .m (.dispatched s k) :: c.tr } :=
  step_gCall_end P hc (.inr (.inr ⟨rfl, hn⟩))

def exOrderHandlers : List (Cls × HRef × Option Nat) :=
  [(.user 0, .user 1, some 1), (.user 1, .user 9, none), (.user 0, .user 2, none), (.user 0, .user 1, some 2)]

/-- non-vacuity: one signal of class U0; its three handlers (one callback registered twice with different data, a
handler of another class registered in between) are called in registration order -/
example :
    let r := runFuel (mkProg fun _ _ => []) 100 (initCfg [.enq (.user 0) 0 .none 7] exOrderHandlers none [])
    r.2 = .blocked ∧ r.1.log.reverse = [.h 1 7 (some 1) 1, .hret 1, .h 2 7 none 1, .hret 2, .h 1 7 (some 2) 1, .hret 1] ∧
    Tr.m (.dispatched { id := 7, cls := .user 0, prio := 0, src := .none } 3) ∈ r.1.tr := by
  decide +kernel

/-! #### (b) failure containment -/

def exFail : Prog := mkProg fun hid n => if hid = 0 ∧ n = 0 then [.raiseErr] else []
def exFailHandlers : List (Cls × HRef × Option Nat) := [(.user 0, .user 0, none), (.user 0, .user 1, none), (.exception, .exc, none)]
def exFailInit : List Act := [.enq (.user 0) 0 .none 7, .enq (.user 0) 0 .none 8]
def sig7 : Sig := { id := 7, cls := .user 0, prio := 0, src := .none }
def sig8 : Sig := { id := 8, cls := .user 0, prio := 0, src := .none }

/-- **REFUTED on GLib (G2): "a failing handler does not keep the other handlers of the signal from being called"**
(C02's containment clause, `C02_failure_contained` on `MainLoop`).  Two handlers for class U0, the first raises an ordinary
exception at its first invocation; the application handles `ExceptionSignal` itself.  On the GLib machine the second
handler is never called for signal 7 (one `try` around the whole list); on the `MainLoop` machine it is.

    "handlers": [{"cls": "U0", "hid": 0, "data": null, "scripts": [[["raise_err"]]]}, {"cls": "U0", "hid": 1, "data": null, "scripts": []}],
    "init": [["enq", "U0", 0, null, 7], ["enq", "U0", 0, null, 8]], "exc_handler": true, "quit_cb": null
    GLib log:     H 0 7 | H 0 8, h< 0, H 1 8, h< 1 | EXC-handled          MainLoop log: H 0 7, H 1 7, h< 1 | EXC-handled | H 0 8, h< 0, H 1 8, h< 1 -/
theorem C20c_failure_skips_remaining_handlers :
    let g := runFuel exFail 200 (initCfg exFailInit exFailHandlers none [])
    let m := Simpleline.runFuel exFail 200 (Simpleline.initCfg exFailInit exFailHandlers none [])
    -- GLib: handler 1 is never called for signal 7
    Tr.m (.call (.user 1) none sig7) ∉ g.1.tr ∧ Tr.m (.call (.user 0) none sig7) ∈ g.1.tr ∧
    g.1.log.reverse = [.h 0 7 none 1, .h 0 8 none 1, .hret 0, .h 1 8 none 1, .hret 1, .note "EXC-handled"] ∧
    -- MainLoop: it is
    Simpleline.Tr.call (.user 1) none sig7 ∈ m.1.tr ∧
    m.1.log.reverse = [.h 0 7 none 1, .h 1 7 none 1, .hret 1, .note "EXC-handled", .h 0 8 none 1, .hret 0, .h 1 8 none 1, .hret 1] := by
  decide +kernel

/-- **What is true instead: the failure is contained per signal.**  `_run_handlers` puts the handler loop, the `try` and
the epilogue of the same source behind one another (1); an ordinary exception raised anywhere in the handler loop — with
nothing in between that catches it — drops the rest of the loop, lands right behind the `try`, and enqueues exactly one
`ExceptionSignal` (priority −20, source = the loop object, attached to the context the source `loop` is routed to: the top
loop unless the application registered the loop object as a source) (2); the epilogue then destroys the source and marks
the signal's ticket line all the same (3); and the failure does not touch the loop state: force-quit flag, loop list and
the pending code behind the `try` are as before — later signals are dispatched (see the run above: signal 8 reaches both
handlers). -/
theorem C20c_failure_contained_per_signal (P : Prog) (c : Cfg) (q : Nat) (g : GSource) (rest : List Instr) :
    -- (1)
    (c.code = .runH q g :: rest → c.L.forceQuit = false →
      step P c = .ok { c with code := .gCall g.sig g.hs 0 :: .catchRun :: .endRun q g :: rest }) ∧
    -- (2)
    (∀ pre qx, c.code = pre ++ .catchRun :: .endRun q g :: rest → (∀ i ∈ pre, i.passes .err = true) →
      c.L.forceQuit = false → c.L.route .loop = some qx →
      ∃ c' gx, c.raise .err = .ok c' ∧ c'.code = .endRun q g :: rest ∧
        c'.tr = .attach qx gx :: .m (.enq qx gx.sig) :: c.tr ∧
        gx.sig.cls = .exception ∧ gx.sig.prio = -20 ∧ gx.sig.src = .loop ∧
        c'.L.forceQuit = false ∧ c'.L.loops = c.L.loops ∧ c'.L.tickets = c.L.tickets ∧ c'.A = c.A ∧ c'.log = c.log) ∧
    -- (3)
    (c.code = .endRun q g :: rest →
      step P c = .ok { ((({ c with code := rest } : Cfg).destroy q g.id).gtrace (.destroy q g.id)) with
        L := { ((({ c with code := rest } : Cfg).destroy q g.id).gtrace (.destroy q g.id)).L with tickets := mark c.L.tickets g.sig.cls } }) := by
  refine ⟨fun hc hf => step_runH P hc hf, fun pre qx hc hp hf hr => ?_, fun hc => by simp [step, hc]; rfl⟩
  have he := enq?_route (c := (c.newSig .exception (-20) .loop).2) (s := (c.newSig .exception (-20) .loop).1) hf hr
  refine ⟨_, _, raise_err_catchRun c _ pre _ hc hp he, rfl, rfl, rfl, rfl, rfl, hf, rfl, rfl, rfl, rfl⟩

/-! ### 2. C09 on GLib -/

/-- **An `ExitMainLoop` raised by a handler quits every loop and skips the remaining handlers of that signal — and unwinds
nothing else.**  Raised anywhere in the handler loop of `_run_handlers` (nothing in between that is a `try` of another
`_run_handlers`), the exit request lands right behind the `try`: the rest of the handler and the remaining handlers of
the signal (`pre`) are dropped, every loop of `_event_loops` is set to not running, the loop list itself is unchanged,
and what was pending behind the `try` — the epilogue of the source, the rest of the batch, the `run()` of every loop, the
rest of the handlers of outer dispatches — is still pending.  (On `MainLoop` the exit unwinds everything up to `run()`:
`C09_exit_unwinds`.) -/
theorem C20c_exit_quits_all_loops (c : Cfg) (pre rest : List Instr) (hc : c.code = pre ++ .catchRun :: rest)
    (hp : ∀ i ∈ pre, i.passes .exit = true) :
    ∃ c', c.raise .exit = .ok c' ∧ c'.code = rest ∧ (∀ q ∈ c.L.loops, (c'.ctx q).running = false) ∧
      c'.L.loops = c.L.loops ∧ c'.L.forceQuit = c.L.forceQuit ∧ c'.tr = .quitAll :: .m .exit :: c.tr :=
  ⟨_, raise_exit_catchRun c pre rest hc hp, rfl, fun q hq => quitAll_not_running (c.trace .exit) q hq, rfl, rfl, rfl⟩

def exExit : Prog := mkProg fun hid n => if hid = 0 ∧ n = 0 then [.raiseExit] else []
def exExitHandlers : List (Cls × HRef × Option Nat) := [(.user 0, .user 0, none), (.user 0, .user 1, none)]

/-- **REFUTED on GLib (G3): "no handler runs after an exit request"** (`C09_exit_no_call` on `MainLoop`).  Two signals
of one priority are attached, so the first iteration's batch holds both; the first handler raises `ExitMainLoop` while
dispatching signal 7.  On the GLib machine the remaining handler of signal 7 is skipped, but the rest of the batch is
still dispatched: both handlers run for signal 8 after the exit request; only then `run()` returns and the quit callback
runs (once).  On the `MainLoop` machine nothing runs after the exit.

    "handlers": [{"cls": "U0", "hid": 0, "data": null, "scripts": [[["raise_exit"]]]}, {"cls": "U0", "hid": 1, "data": null, "scripts": []}],
    "init": [["enq", "U0", 0, null, 7], ["enq", "U0", 0, null, 8]], "exc_handler": false, "quit_cb": 9
    GLib log:     H 0 7 | H 0 8, h< 0, H 1 8, h< 1 | quitcb 9           MainLoop log: H 0 7 | quitcb 9 -/
theorem C20c_exit_batch_continues :
    let g := runFuel exExit 200 (initCfg exFailInit exExitHandlers (some 9) [])
    let m := Simpleline.runFuel exExit 200 (Simpleline.initCfg exFailInit exExitHandlers (some 9) [])
    g.2 = .returned ∧ m.2 = .returned ∧
    -- GLib: calls newer than the exit request: both handlers for signal 8; handler 1 never for signal 7
    ((g.1.tr.takeWhile fun t => t != .m .exit).filterMap fun t => match t with | .m (.call h _ s) => some (h, s.id) | _ => none)
      = [(.user 1, 8), (.user 0, 8)] ∧
    Tr.m (.call (.user 1) none sig7) ∉ g.1.tr ∧
    g.1.log.reverse = [.h 0 7 none 1, .h 0 8 none 1, .hret 0, .h 1 8 none 1, .hret 1, .quitcb 9] ∧
    -- … and the loop has stopped: not running, nothing attached, one quit callback
    g.1.L.ctxs.map (fun x => (x.running, x.sources.length)) = [(false, 0)] ∧
    -- MainLoop: no call after the exit request
    ((m.1.tr.takeWhile fun t => t != .exit).all fun t => match t with | .call .. => false | _ => true) = true ∧
    m.1.log.reverse = [.h 0 7 none 1, .quitcb 9] := by
  decide +kernel

/-- **What is true instead.**  A loop whose `running` flag is down leaves its `run()` at the next test, i.e. after the
iteration that contains the exit request (`gRun` is pending behind that iteration's batch): with
`C20c_exit_quits_all_loops`, after an exit request the `run()` of every loop of `_event_loops` returns as soon as control
comes back to it, without starting another iteration … -/
theorem C20c_exit_loops_return (P : Prog) (c : Cfg) (q : Nat) (rest : List Instr) (hc : c.code = .gRun q :: rest)
    (hr : (c.ctx q).running = false) :
    step P c = .ok { c with code := rest, tr := .m (.loopReturn q) :: c.tr } := by
  have hr' : ((({ c with code := rest } : Cfg).ctx q).running) = false := hr
  simp [step, hc, hr', Cfg.trace]

/-- … and the outermost `run()` is followed by the quit callback, which then is the last thing that happens: with only it
pending the machine logs `quitcb d` (if one is registered) and halts with outcome `returned`. -/
theorem C20c_quit_then_returns (P : Prog) (c : Cfg) (hc : c.code = [.quitCb]) :
    ∃ c', step P c = .ok c' ∧ c'.code = [] ∧ step P c' = .error (.returned, c') := by
  cases hq : c.L.quitCb with
  | none => exact ⟨{ c with code := [] }, by simp [step, hc, hq], rfl, by simp [step]⟩
  | some d =>
    refine ⟨({ c with code := [] } : Cfg).emit P (.quitcb d), by simp [step, hc, hq], by simp, ?_⟩
    simp [step]

/-! ### 3. C10 on GLib -/

/-- **A waiting `process_signals(c)` returns only after its ticket was marked, or at a force-quit.**  The wait loop
(`gWait cls t q`: ticket `t` of line `cls`, polling the context of loop `q`) has exactly three behaviours: ticket marked →
the ticket is consumed and the call returns (`waitEnd … true`); not marked and force-quit set → the call returns
(`waitEnd … false`); otherwise → one more non-blocking iteration of the same context, then the same test again. -/
theorem C20c_wait_only_after (P : Prog) (c : Cfg) (cls : Cls) (t q : Nat) (rest : List Instr)
    (hc : c.code = .gWait cls t q :: rest) :
    (c.L.tickets.any (fun k => k.line = cls ∧ k.id = t ∧ k.marked) = true →
      step P c = .ok { c with code := rest, tr := .m (.waitEnd cls t true) :: c.tr,
                              L := { c.L with tickets := c.L.tickets.filter fun k => ¬ (k.line = cls ∧ k.id = t) } }) ∧
    (c.L.tickets.any (fun k => k.line = cls ∧ k.id = t ∧ k.marked) = false → c.L.forceQuit = true →
      step P c = .ok { c with code := rest, tr := .m (.waitEnd cls t false) :: c.tr }) ∧
    (c.L.tickets.any (fun k => k.line = cls ∧ k.id = t ∧ k.marked) = false → c.L.forceQuit = false →
      step P c = .ok { c with code := .gIter q .poll :: .gWait cls t q :: rest }) := by
  refine ⟨fun hm => ?_, fun hm hf => ?_, fun hm hf => ?_⟩
  · simp only [step, hc, hm]; rfl
  · simp only [step, hc, hm, hf]; rfl
  · simp only [step, hc, hm, hf]; rfl

/-- **Ticket lines change in three places only**, for every transition of every execution (every instruction of the
machine, deliveries of the reader thread included): `take_ticket` at the start of a waiting call appends a fresh unmarked
ticket; a released wait consumes its ticket; and the epilogue of `_run_handlers` (`endRun`) marks the line of the class of
the signal whose handlers have just run (or were skipped / abandoned by an exception).  Nothing else — in particular no
step *before* or *during* the handlers — touches them. -/
theorem C20c_tickets_change_only_by (P : Prog) (c c' : Cfg) (ht : Trans P c c') :
    c'.L.tickets = c.L.tickets ∨
    (∃ cls, c.code.head? = some (.procWait cls) ∧
      c'.L.tickets = c.L.tickets ++ [({ line := cls, id := c.L.tcounter, marked := false } : Ticket)]) ∨
    (∃ cls t q, c.code.head? = some (.gWait cls t q) ∧ c'.L.tickets = c.L.tickets.filter fun k => ¬ (k.line = cls ∧ k.id = t)) ∨
    (∃ q g, c.code.head? = some (.endRun q g) ∧ c'.L.tickets = mark c.L.tickets g.sig.cls) := by
  rcases trans_cases ht with sf | ⟨_, hk⟩
  · rcases sf.tickets with h | h
    · exact Or.inl h
    · unfold TicketOK at h
      split at h
      · rename_i cls hh; exact Or.inr (Or.inl ⟨cls, hh, h⟩)
      · rename_i cls t q hh; exact Or.inr (Or.inr (Or.inl ⟨cls, t, q, hh, h⟩))
      · rename_i q g hh; exact Or.inr (Or.inr (Or.inr ⟨q, g, hh, h⟩))
      · exact h.elim
  · exact Or.inl hk.tickets

/-- **A ticket gets marked only by the epilogue of the dispatch of a signal of its class**: if after a transition the
ticket lines contain a marked ticket that was not there (as a marked ticket) before, the transition is the `endRun` of a
source whose signal has exactly the ticket's class.  With `C20c_wait_only_after`: a waiting `process_signals(c)` that
returns without force-quit has seen the *end* of the dispatch of a signal of class `c` that ended after the call began. -/
theorem C20c_marked_only_after_handlers (P : Prog) (c c' : Cfg) (ht : Trans P c c') (k : Ticket)
    (hk : k ∈ c'.L.tickets) (hm : k.marked = true) (hn : k ∉ c.L.tickets) :
    ∃ q g, c.code.head? = some (.endRun q g) ∧ g.sig.cls = k.line := by
  rcases C20c_tickets_change_only_by P c c' ht with h | ⟨cls, _, h⟩ | ⟨cls, t, q, _, h⟩ | ⟨q, g, hh, h⟩
  · rw [h] at hk; exact absurd hk hn
  · rw [h] at hk
    rcases List.mem_append.1 hk with h1 | h1
    · exact absurd h1 hn
    · simp at h1; subst h1; cases hm
  · rw [h] at hk; exact absurd (List.mem_filter.1 hk).1 hn
  · refine ⟨q, g, hh, ?_⟩
    rw [h] at hk
    unfold mark at hk
    obtain ⟨k0, hk0, rfl⟩ := List.mem_map.1 hk
    split at hn
    · rename_i hl; simp [hl]
    · exact absurd hk0 hn

/-- **The mark happens after the handlers** (`endRun`, see `C20c_failure_contained_per_signal` (3)), not before them as on
`MainLoop` (`processSignal` marks first).  Kernel-checked on the program below: at the moment the handler of the awaited
signal (class U1, signal 2) is entered, the waiting call's ticket is *not* marked on the GLib machine and *is* marked on
the `MainLoop` machine.

No difference in the observable log follows from the timing alone in the programs I tried (a handler of the awaited class
that itself waits for that class finds, on both loops, that the signal being dispatched does not count: on `MainLoop` the
mark is over, on GLib the source is in dispatch); the observable divergence of waiting calls is the next theorem. -/
theorem C20c_mark_after_handlers :
    let P := mkProg fun hid n => if hid = 0 ∧ n = 0 then [.enq (.user 1) 0 .none 2, .enq (.user 2) 0 .none 3, .proc (some (.user 1))] else []
    let hs : List (Cls × HRef × Option Nat) := [(.user 0, .user 0, none), (.user 1, .user 1, none), (.user 2, .user 2, none)]
    let g := runFuel P 17 (initCfg [.enq (.user 0) 0 .none 1] hs none [])
    let m := Simpleline.runFuel P 15 (Simpleline.initCfg [.enq (.user 0) 0 .none 1] hs none [])
    (match g.1.code.head? with | some (.callH (.user 1) none s) => s.id == 2 | _ => false) = true ∧
    g.1.L.tickets = [{ line := .user 1, id := 0, marked := false }] ∧
    (match m.1.code.head? with | some (.callH (.user 1) none s) => s.id == 2 | _ => false) = true ∧
    m.1.L.tickets = [{ line := .user 1, id := 0, marked := true }] := by
  decide +kernel

def exWait : Prog :=
  mkProg fun hid n => if hid = 0 ∧ n = 0 then [.enq (.user 1) 0 .none 2, .enq (.user 2) 0 .none 3, .proc (some (.user 1))] else []
def exWaitHandlers : List (Cls × HRef × Option Nat) := [(.user 0, .user 0, none), (.user 1, .user 1, none), (.user 2, .user 2, none)]

/-- **REFUTED on GLib (G4): "a waiting call returns right after the awaited signal was dispatched"** (the waiting call of
`MainLoop` tests its ticket after every single signal).  A handler enqueues a signal of the awaited class U1 and one of
another class U2 with the same priority, then waits for U1.  On the GLib machine the polling iteration dispatches its whole
batch — U1 *and* U2 — before the ticket is looked at: the handler of U2 runs inside the waiting call; on the `MainLoop`
machine the call returns after U1 and U2 is dispatched after the waiting handler has returned.

    "handlers": [{"cls": "U0", "hid": 0, "data": null, "scripts": [[["enq", "U1", 0, null, 2], ["enq", "U2", 0, null, 3], ["proc", "U1"]]]},
                 {"cls": "U1", "hid": 1, "data": null, "scripts": []}, {"cls": "U2", "hid": 2, "data": null, "scripts": []}],
    "init": [["enq", "U0", 0, null, 1]], "exc_handler": false, "quit_cb": null
    GLib log:     H 0 1, H 1 2, h< 1, H 2 3, h< 2, proc<, h< 0          MainLoop log: H 0 1, H 1 2, h< 1, proc<, h< 0, H 2 3, h< 2 -/
theorem C20c_wait_returns_after_batch :
    let g := runFuel exWait 300 (initCfg [.enq (.user 0) 0 .none 1] exWaitHandlers none [])
    let m := Simpleline.runFuel exWait 300 (Simpleline.initCfg [.enq (.user 0) 0 .none 1] exWaitHandlers none [])
    g.1.log.reverse = [.h 0 1 none 1, .h 1 2 none 1, .hret 1, .h 2 3 none 1, .hret 2, .note "proc<", .hret 0] ∧
    m.1.log.reverse = [.h 0 1 none 1, .h 1 2 none 1, .hret 1, .note "proc<", .hret 0, .h 2 3 none 1, .hret 2] := by
  decide +kernel

/-! ### 4. C03 on GLib -/

/-- **Routing.**  Outside force-quit, `enqueue_signal(s)` attaches one new source carrying `s` to the context of the loop
`q` that `_find_loop_data_for_source` gives: `q` is a loop of `_event_loops`, and either it owns the source of `s` and no
loop above it (more inner) does, or no loop at all owns it and `q` is the top loop.  With no loop left the call raises
(`IndexError`). -/
theorem C20c_routing (c : Cfg) (s : Sig) (hf : c.L.forceQuit = false) :
    (∀ c', c.enq? s = some c' →
      ∃ q, c.L.route s.src = some q ∧ q ∈ c.L.loops ∧
        ((∃ inner outer, c.L.loops = outer ++ q :: inner ∧ (c.L.ctx q).srcset.contains s.src = true ∧
            ∀ a ∈ inner, (c.L.ctx a).srcset.contains s.src = false) ∨
         (c.L.loops.getLast? = some q ∧ ∀ a ∈ c.L.loops, (c.L.ctx a).srcset.contains s.src = false)) ∧
        c'.tr = .attach q (GSource.mk c.L.nextSrc s (c.L.hlistFor s) false) :: .m (.enq q s) :: c.tr ∧
        c'.L.ctxs = listSet c.L.ctxs q (fun x => { x with sources := x.sources ++ [GSource.mk c.L.nextSrc s (c.L.hlistFor s) false] }) ∧
        c'.L.loops = c.L.loops) ∧
    (c.L.loops = [] → c.enq? s = none) := by
  refine ⟨fun c' h => ?_, fun hl => by simp [Cfg.enq?, hf, route_none c.L s.src hl]⟩
  cases hq : c.L.route s.src with
  | none => simp [Cfg.enq?, hf, hq] at h
  | some q =>
    rw [enq?_route hf hq] at h
    cases h
    obtain ⟨h1, h2⟩ := route_spec c.L s.src q hq
    exact ⟨q, rfl, h1, h2, rfl, rfl, rfl⟩

/-- `close_loop` pops the top loop and quits it — and does nothing else: nothing is dispatched, the sources attached to
its context stay where they are. -/
theorem C20c_close_loop_pops (P : Prog) (c : Cfg) (q : Nat) (rest : List Instr) (hc : c.code = .closeLoop :: rest)
    (hq : c.L.loops.getLast? = some q) :
    step P c = .ok { c with code := rest, tr := .m (.closeLevel q) :: c.tr,
                            L := { c.L with loops := c.L.loops.dropLast, ctxs := listSet c.L.ctxs q fun x => { x with running := false } } } := by
  simp only [step, hc, hq]; rfl

def exClose : Prog :=
  mkProg fun hid n => if hid = 0 ∧ n = 0 then [.newLoop (.user 1) 0 2]
    else if hid = 1 ∧ n = 0 then [.enq (.user 2) 0 .none 3, .closeLoop] else []

/-- **REFUTED on GLib (G3, close): "`close_loop` dispatches what is pending in the closing loop before it closes"**
(`MainLoop.close_loop` calls `process_signals()` first).  A handler opens a nested loop; the handler running there
enqueues a signal (routed to the nested loop) and closes the loop.  On the `MainLoop` machine that signal is dispatched
inside `close_loop`; on the GLib machine it is never dispatched: it stays attached to the context of the popped loop
(lost), and the run blocks with it still attached.

    "handlers": [{"cls": "U0", "hid": 0, "data": null, "scripts": [[["new_loop", "U1", 0, 2]]]},
                 {"cls": "U1", "hid": 1, "data": null, "scripts": [[["enq", "U2", 0, null, 3], ["close_loop"]]]}, {"cls": "U2", "hid": 2, "data": null, "scripts": []}],
    "init": [["enq", "U0", 0, null, 1]], "exc_handler": false, "quit_cb": null
    GLib log:     H 0 1, H 1 2 (depth 2), closed<, h< 1, new<, h< 0        MainLoop log: H 0 1, H 1 2, H 2 3, h< 2, closed<, h< 1, new<, h< 0 -/
theorem C20c_close_loop_does_not_drain :
    let g := runFuel exClose 300 (initCfg [.enq (.user 0) 0 .none 1] exWaitHandlers none [])
    let m := Simpleline.runFuel exClose 300 (Simpleline.initCfg [.enq (.user 0) 0 .none 1] exWaitHandlers none [])
    g.2 = .blocked ∧ m.2 = .blocked ∧
    g.1.log.reverse = [.h 0 1 none 1, .h 1 2 none 2, .note "closed<", .hret 1, .note "new<", .hret 0] ∧
    -- the signal is still attached to the context of the popped loop, which is not running and not in the loop list
    g.1.L.loops = [0] ∧ g.1.L.ctxs.map (fun x => (x.running, x.sources.map (·.sig.id))) = [(true, []), (false, [3])] ∧
    m.1.log.reverse = [.h 0 1 none 1, .h 1 2 none 2, .h 2 3 none 2, .hret 2, .note "closed<", .hret 1, .note "new<", .hret 0] := by
  decide +kernel

end Simpleline.G
