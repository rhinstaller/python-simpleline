/-
  C11 — Text never exceeds its width and nothing but whitespace is lost in wrapping.

  The lemmas are in `Simpleline/Lemmas/Text.lean` and the files it imports.
  `renderTextSt cc st t w` is `TextWidget(t).render(w)` on a widget object whose buffer/cursor are `st`.
-/
import Simpleline.Lemmas.Text
import Simpleline.Lemmas.Literals

namespace Simpleline

/-- non-blank characters, in order -/
def nonSpace (cc : CharClass) (l : List Char) : List Char := l.filter fun c => !cc.isSpace c

/-- The wrap loop terminates: every iteration of `_wrap_chunks`' outer loop consumes a character or a
chunk (so the `else []` branch of `wrapLoop` is never taken for a width ≥ 1). -/
theorem C11_wrap_terminates (cc : CharClass) (w : Nat) (hw : 1 ≤ w) (haveLines : Bool)
    (chunks : List (List Char)) (hne : chunks ≠ []) (hch : ∀ c ∈ chunks, c ≠ []) :
    wrapMeasure (wrapStep cc w haveLines chunks).2 < wrapMeasure chunks ∧
    (∀ c ∈ (wrapStep cc w haveLines chunks).2, c ≠ []) :=
  wrapStep_decreases cc w hw haveLines chunks hne hch

/-- Every rendered line has at most `w` characters. -/
theorem C11_width (cc : CharClass) (st : WSt) (t : List Char) (w : Nat) (hw : 1 ≤ w) (s : WSt)
    (h : renderTextSt cc st t w = .ok s) : ∀ l ∈ s.buf, l.length ≤ w :=
  render_width cc st t w hw s h

/-- Every non-blank character of the source appears exactly once and in order: reading the rendered
lines in order and dropping blanks gives the source with its blanks dropped. -/
theorem C11_conserve (cc : CharClass) (hs : cc.Sane) (st : WSt) (t : List Char) (w : Nat) (hw : 1 ≤ w)
    (s : WSt) (h : renderTextSt cc st t w = .ok s) :
    nonSpace cc s.buf.flatten = nonSpace cc t := by
  have hnl : cc.isSpace '\n' = true := hs.ws6_space _ (by decide)
  have h1 : nsp cc s.buf.flatten = nsp cc (wrapWords cc t w) := by
    rw [render_buf cc st t w hw s h]
    split
    · next h0 => rw [h0]; rfl
    · exact nsp_splitOn cc '\n' hnl _
  have h2 : nsp cc (wrapWords cc t w) = nsp cc t := by
    rw [wrapWords, nsp_joinWith cc '\n' hnl, nsp_flatten_map, nsp_splitOn cc '\n' hnl]
    intro l _
    rw [nsp_joinWith cc '\n' hnl, pyWrap_conserve cc hs l w hw]
  exact h1.trans h2

/-- Line breaks: the rendered lines are, source line by source line (split at `'\n'`), the wrap of
that source line, a source line whose wrap is empty giving one empty line — except that a text whose
wrapped form is empty altogether (no `'\n'` and nothing but blanks) gives no line. -/
theorem C11_breaks (cc : CharClass) (st : WSt) (t : List Char) (w : Nat) (hw : 1 ≤ w) (s : WSt)
    (h : renderTextSt cc st t w = .ok s) :
    s.buf = if wrapWords cc t w = [] then []
            else (splitOn '\n' t).flatMap fun l => if pyWrap cc l w = [] then [[]] else pyWrap cc l w :=
  render_breaks cc st t w hw s h

/-- No spurious blank lines: the wrap of a source line never contains an empty line. -/
theorem C11_no_empty_line (cc : CharClass) (l : List Char) (w : Nat) (hw : 1 ≤ w) :
    ∀ x ∈ pyWrap cc l w, x ≠ [] := by
  have _ := hw -- not needed by the proof: no iteration produces an empty line, whatever the width
  exact wrapLoop_ne cc w false _ (splitAux_ne cc [] (munge l))

/-- A source line consisting of blanks of `string.whitespace` only wraps to nothing (so it renders
as exactly one empty line when the text has a line break). -/
theorem C11_blank_line (cc : CharClass) (hs : cc.Sane) (l : List Char) (w : Nat) (hw : 1 ≤ w)
    (hb : ∀ c ∈ l, isWs6 c = true) : pyWrap cc l w = [] := by
  have _ := hw -- not needed by the proof: a single blank chunk gives no line, whatever the width
  apply wrapLoop_single_blank cc w false
  have hm := munge_ws l hb
  rw [splitChunks]
  cases hml : munge l with
  | nil => left; rw [splitAux]
  | cons c rest =>
    right
    rw [hml] at hm
    refine ⟨c :: rest, splitAux_ws cc [] c rest hm, ?_⟩
    simp only [blank, List.all_eq_true]
    exact fun x hx => hs.ws6_space x (hm x hx)

/-- The cursor after rendering and the independence from the previous object state. -/
theorem C11_state_independent (cc : CharClass) (st st' : WSt) (t : List Char) (w : Int) :
    renderTextSt cc st t w = renderTextSt cc st' t w := rfl

/-- A width ≤ 0 is refused (ValueError) for a non-empty text. -/
theorem C11_refuse (cc : CharClass) (st : WSt) (t : List Char) (w : Int) (hw : w ≤ 0) (ht : t ≠ []) :
    renderTextSt cc st t w = .error .valueError := by
  simp [renderTextSt, WSt.writeWrapped, ht, hw]

/-! Non-vacuity: a concrete text that wraps, splits a long word and contains a line break. -/
example : (renderTextSt asciiClass {} "ab cde\nfghijkl m".toList 3).toOption =
    some { buf := ["ab".toList, "cde".toList, "fgh".toList, "ijk".toList, "l m".toList], cur := (4, 3) } := by
  lits
  decide +kernel

end Simpleline
