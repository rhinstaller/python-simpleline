/-
  C06 — Each typed line reaches exactly the screen that asked — once, in order, intact.

  The property theorems; the lemmas they rest on are in `Simpleline/Lemmas/Input*.lean`, the vocabulary in
  `Simpleline/Spec/InputSpec.lean`.  See `Props/C18.lean` for the reading guide of the input pipeline.

  The path of a typed line: the reader thread (`Cfg.deliver`, an environment transition that can happen at
  any moment) logs `Ev.read line` and enqueues an `InputReceivedSignal` (`readSig`); the thread manager's
  handler (`inputReceived s`) hands it off as the successful `InputReadySignal` (`okSig`) to the newest
  requester; that requester's `InputHandler` (`inputReady n s`) stores it and, for a screen's request,
  invokes the one-shot callback `processInput scr line`, which calls the screen's `input` method
  (`callScr scr .input args (some line)`, logged as `Ev.cb scr .input args (some line)`).

  What is proved, and what is not:
  * intact / no invented line / at most once: full strength, as invariants of every reachable
    configuration (`C06_line_intact`, `C06_at_most_once`), under the two hypotheses `UserHandlers` and `NoForge`
    (both needed, see `C18`), plus the chain of single-transition lemmas, which hold for every configuration;
  * "exactly once" additionally needs liveness (the signals are eventually dispatched), which does not hold
    unconditionally: an `InputReadySignal` routed to an outer, blocked level of a screen that is closed in the
    meantime, `force_quit` (enqueues are dropped), or the end of the run can leave a line undelivered — not stated;
  * to the asking screen: the callback goes to the screen whose request it was (`C06_callback_owner`), with the
    arguments of that screen's **latest** request (`C06_args_*`); these are the arguments of the answered request
    unless the screen asked again before the answer was dispatched (`C06_args_can_be_a_later_request's`);
  * order: lines are read in order and strictly one after the other up to the hand-off
    (`C06_reads_in_order`, `C06_one_line_at_a_time`); **beyond the hand-off the order can be violated**
    (`C06_order_can_be_violated`). `Props/C06b.lean` proves for which histories it is kept.
-/
import Simpleline.Lemmas.InputLines
import Simpleline.Props.C18

namespace Simpleline
open Input

/-! ### the data path, transition by transition (every configuration, every program) -/

/-- **Reader thread.** A delivery consumes exactly the next line of the console input (the empty line if
the input is exhausted), logs it, and enqueues exactly one `InputReceivedSignal` carrying exactly that
line, for the request of the first waiting reader; nothing else changes in the pipeline. -/
theorem C06_deliver (c c' : Cfg) (h : c.deliver = some c') :
    ∃ r rs, c.A.readers = r :: rs ∧ c'.A.readers = rs ∧ c'.A.stdin = c.A.stdin.tail ∧
      newLog c c' = [.read (c.A.stdin.headD [])] ∧ newTr c c' = [enqEvent c (readSig c r)] ∧
      c'.code = c.code ∧ c'.A.ihs = c.A.ihs ∧ c'.A.reqs = c.A.reqs ∧ c'.A.inputStack = c.A.inputStack := by
  obtain ⟨r, rs, hr, rfl⟩ := deliver_eq h
  refine ⟨r, rs, hr, by simp, by simp, ?_, ?_, by simp, by simp, by simp, by simp⟩
  · apply newLog_of_append (new := [.read (c.A.stdin.headD [])]); simp
  · apply newTr_of_append (new := [enqEvent c (readSig c r)])
    rw [enqueue_tr]; rfl

/-- the signal of a delivery carries the line read, is an `InputReceivedSignal` of priority 0 -/
theorem C06_readSig (c : Cfg) (r : Nat) :
    (readSig c r).line = c.A.stdin.headD [] ∧ (readSig c r).cls = .inputReceived ∧ (readSig c r).prio = 0 ∧
    (readSig c r).src = .req r := ⟨rfl, rfl, rfl, rfl⟩

/-- **End of input is the empty line.** -/
theorem C06_eof_empty (c c' : Cfg) (h : c.deliver = some c') (heof : c.A.stdin = []) :
    newLog c c' = [.read []] ∧ ∀ r, (readSig c r).line = [] := by
  obtain ⟨r, rs, _, _, _, h4, _⟩ := C06_deliver c c' h
  rw [heof] at h4
  exact ⟨h4, fun r => by simp [readSig, heof]⟩

/-- **Hand-off forwards the line unchanged.** The first signal of the hand-off is the successful one: it carries
`s.line` as it is and is addressed to the requester and handler of the newest request; none of the other signals
carries a line. (The full statement about the step is `C18_handoff`.) -/
theorem C06_handoff_forwards (reqs : List Request) (rs : List Nat) (r : Nat) (line : Str) (sid : Nat) :
    (handoffSigs reqs rs r line sid).head? = some (okSig reqs r line sid) ∧
    (okSig reqs r line sid).line = line ∧ (okSig reqs r line sid).ok = true ∧
    ∀ x ∈ (handoffSigs reqs rs r line sid).tail, x.ok = false ∧ x.line = [] ∧ x.carriesLine = false := by
  refine ⟨rfl, rfl, rfl, ?_⟩
  intro x hx
  have := failSigs_all reqs rs (sid + 1) x hx
  exact ⟨this.2.2.1, this.2.2.2, by simp [Sig.carriesLine, this.1, this.2.2.1]⟩

/-- **Handler forwards the line unchanged** to the one-shot callback: for a successful signal addressed to
handler `n` whose callback is screen `scr`'s, the next instruction is `processInput scr s.line`, and the handler
keeps `s.line` as its value. (The full statement is `C18_handler_result`.) -/
theorem C06_handler_forwards (P : Prog) (c : Cfg) (n : Nat) (s : Sig) (rest : List Instr) (scr : Nat)
    (hc : c.code = .inputReady n s :: rest) (hn : n < c.A.ihs.length) (hs : s.ih = n) (hok : s.ok = true)
    (hcb : (c.A.ihs.getD n default).cb = some scr) :
    ∃ c', step P c = .ok c' ∧ c'.code = .processInput scr s.line :: rest ∧
      (c'.A.ihs.getD n default).value = some s.line ∧ (c'.A.ihs.getD n default).cb = none := by
  obtain ⟨c', h1, _, _, _, _, _, _, _, h2, _⟩ := C18_handler_result P c n s rest hc hn hs
  obtain ⟨h3, h4, h5⟩ := h2 hok
  exact ⟨c', h1, by rw [h5, hcb]; rfl, h3, h4⟩

/-- **`process_input` passes the line unchanged** as `key` of the screen's `input` method, together with the
input arguments currently stored for that screen. -/
theorem C06_processInput (P : Prog) (c : Cfg) (scr : Nat) (key : Str) (rest : List Instr)
    (hc : c.code = .processInput scr key :: rest) :
    step P c = .ok { c with code := [.callScr scr .input (c.A.scr scr).inputArgs (some key), .classify scr,
                                     .catchPI scr, .countAndAct scr, .endPI] ++ rest } := by
  unfold step; simp only [hc]; rfl

/-- **The callback is logged as called**: a `callScr` step logs exactly its own callback event (and, if the
reader thread delivers at that moment, the line read, after it). -/
theorem C06_callback_logged (P : Prog) (c : Cfg) (scr : Nat) (cb : Cb) (arg : Option Nat) (key : Option Str)
    (rest : List Instr) (hc : c.code = .callScr scr cb arg key :: rest) :
    ∃ c', step P c = .ok c' ∧
      ∃ pre, c'.log = pre ++ .cb scr cb arg key :: c.log ∧ (pre = [] ∨ ∃ l, pre = [.read l]) := by
  unfold step
  simp only [hc]
  refine ⟨_, rfl, ?_⟩
  simp only [push_log]
  generalize hX : ({ c with code := rest, A := c.A.setScr scr fun s => { s with counts := bump s.counts cb } } : Cfg) = X
  have hl : X.log = c.log := by rw [← hX]
  rcases emit_cases P X (.cb scr cb arg key) with h | h
  · exact ⟨[], by rw [h, emit0_log, hl]; rfl, Or.inl rfl⟩
  · exact ⟨[.read ((emit0 X (.cb scr cb arg key)).A.stdin.headD [])], by rw [deliver_log h, emit0_log, hl]; rfl,
      Or.inr ⟨_, rfl⟩⟩

/-! ### intact: every line in the pipeline was read from the console -/

/-- **Intact.** In every reachable configuration: every pending signal that carries a line (an
`InputReceivedSignal`, or a successful `InputReadySignal`), every such signal ever enqueued or dropped
(`.enq`/`.dropped` in the history), and every line ever handed to an `input` callback is — character for
character — a line that was read from the console. -/
theorem C06_line_intact (P : Prog) (c0 c : Cfg) (h0 : Started c0) (hU : UserHandlers c0) (hF : NoForge P c0)
    (hr : Reach P c0 c) :
    (∀ s ∈ c.pending, s.carriesLine = true → s.line ∈ readLines c.log) ∧
    (∀ q s, (Tr.enq q s ∈ c.tr ∨ Tr.dropped s ∈ c.tr) → s.carriesLine = true → s.line ∈ readLines c.log) ∧
    (∀ l ∈ inputLines c.log, l ∈ readLines c.log) := by
  have h := intact_of_once (once_reach h0 hU hF hr)
  refine ⟨h.1, fun q s hs hc => ?_, h.2⟩
  refine (mem_readLines _ _).mpr (enqOK_reach h0 hU hF hr s (mem_enqueued.mpr ?_) hc)
  rcases hs with hs | hs <;> exact ⟨_, hs, rfl⟩

/-! ### at most once -/

/-- **No duplication.** In every reachable configuration every text was handed to `input` callbacks at most as
many times as it was read from the console: no typed line is delivered twice (to the same or to different
screens), and none is invented. -/
theorem C06_at_most_once (P : Prog) (c0 c : Cfg) (h0 : Started c0) (hU : UserHandlers c0) (hF : NoForge P c0)
    (hr : Reach P c0 c) (l : Str) : (inputLines c.log).count l ≤ (readLines c.log).count l := by
  have := once_reach h0 hU hF hr l
  unfold OnceOK once inputCount readCount at this
  omega

/-- the one-shot callback: whatever a transition does, a handler's callback that is used up or absent stays so
(same statement as `C18_callback_one_shot`), and each `InputHandler` makes one request only
(`C18_references_valid`) -/
theorem C06_callback_one_shot (P : Prog) (c c' : Cfg) (ht : Trans P c c') (n : Nat) (hn : n < c.A.ihs.length)
    (scr : Nat) (h1 : (c'.A.ihs.getD n default).cb = some scr) : (c.A.ihs.getD n default).cb = some scr :=
  C18_callback_one_shot P c c' ht n hn scr h1

/-! ### to the screen that asked, with its arguments -/

/-- **The callback belongs to the asking screen.** In every reachable configuration (every program): a handler whose
one-shot callback is `process_input` of screen `scr` was created by — and is the source `.scr scr` of — that
screen, and every request's requester is the source of its handler. So the successful signal of a hand-off is
addressed (`src`, `ih`) to the screen and handler that made the newest request, and the `input` callback it
triggers is that screen's. -/
theorem C06_callback_owner (P : Prog) (c0 c : Cfg) (h0 : Started c0) (hr : Reach P c0 c) :
    (∀ (n : Nat) (h : IHandler), c.A.ihs[n]? = some h → ∀ scr, h.cb = some scr → h.source = .scr scr) ∧
    (∀ R ∈ c.A.reqs, ∃ h, c.A.ihs[R.ih]? = some h ∧ R.requester = h.source) :=
  ⟨(objInv_reach h0 hr).cb_source, (objInv_reach h0 hr).req_source⟩

/-- **A screen's request, first step**: `maybeInput top` (after drawing an entry whose screen requires input) asks
with the entry's screen and arguments. -/
theorem C06_maybeInput (P : Prog) (c : Cfg) (top : Entry) (rest : List Instr) (hc : c.code = .maybeInput top :: rest) :
    step P c = .ok (if (P.spec top.screen).inputRequired then
      { c with code := .getInput top.screen top.args :: rest } else { c with code := rest }) := by
  unfold step; simp only [hc]; split <;> rfl

/-- **A screen's request, second step**: the `prompt` callback of the screen is called with the arguments of the
request, and `getInput2` continues with the same screen and arguments. -/
theorem C06_getInput (P : Prog) (c : Cfg) (scr : Nat) (args : Option Nat) (rest : List Instr)
    (hc : c.code = .getInput scr args :: rest) :
    step P c = .ok { c with code := .callScr scr .prompt args none :: .getInput2 scr args :: rest } := by
  unfold step; simp only [hc]; rfl

/-- **A screen's request, third step**: `getInput2 scr args` — unless the prompt was `None` — creates the handler
with callback and source `scr`, makes the request with requester `scr`, and stores `args` as the input arguments of
`scr` (and of no other screen). -/
theorem C06_screen_request (P : Prog) (c : Cfg) (scr : Nat) (args : Option Nat) (rest : List Instr)
    (hc : c.code = .getInput2 scr args :: rest) (hp : c.retPromptNone = false) :
    Requested c (final (step P c)) (freshIH (.scr scr) (P.spec scr).skipCheck (some scr))
      (promptText P defaultPrompt) ∧
    ∀ j, ((final (step P c)).A.scr j).inputArgs = if scr = j then args else (c.A.scr j).inputArgs :=
  ⟨C18_screen_request P c scr args rest hc hp, getInput2_args P c scr args rest hc hp⟩

/-- **The arguments are those of the screen's latest request.** The input arguments stored for a screen — the ones
`process_input` passes to `input` (`C06_processInput`) — change in no transition other than that screen's own
`getInput2` (with a prompt that is not `None`), which sets them to its `args`. -/
theorem C06_args_change_only_by_request (P : Prog) (c c' : Cfg) (ht : Trans P c c') (j : Nat)
    (hne : (c'.A.scr j).inputArgs ≠ (c.A.scr j).inputArgs) :
    ∃ args rest, c.code = .getInput2 j args :: rest ∧ c.retPromptNone = false ∧ (c'.A.scr j).inputArgs = args := by
  cases trans_inpTrans ht with
  | frame hf => exact absurd (by simpa [AppSt.scr] using hf.inputArgs j) hne
  | screenReq scr args sk text hr hargs hhead hp =>
    have := hargs j
    by_cases hsj : scr = j
    · subst hsj
      obtain ⟨rest, hh⟩ := hhead
      exact ⟨args, rest, hh, hp, by rwa [if_pos rfl] at this⟩
    · rw [if_neg hsj] at this
      exact absurd this hne
  | blockingReq scr sk text hr hscr => exact absurd (by unfold AppSt.scr; rw [hscr]) hne
  | handoff s rest' _ _ eA _ _ => exact absurd (by rw [eA]; rfl) hne
  | ready n s rest' f _ _ _ eA _ _ => exact absurd (by rw [eA]; rfl) hne

/-! ### order -/

/-- **Lines are read in the order typed.** In every reachable configuration the lines read so far are the first
lines of the console input, in order (followed by empty lines once the input is exhausted), and the console holds
exactly the rest. -/
theorem C06_reads_in_order (P : Prog) (c0 c : Cfg) (h0 : Started c0) (hr : Reach P c0 c) :
    readLines c.log = (List.range (readLines c.log).length).map (c0.A.stdin.getD · []) ∧
    c.A.stdin = c0.A.stdin.drop (readLines c.log).length :=
  ⟨(objInv_reach h0 hr).read_eq, (objInv_reach h0 hr).stdin_eq⟩

/-- **One line at a time up to the hand-off.** Whenever a reader thread exists — in particular at every delivery —
no earlier `InputReceivedSignal` is waiting in any queue or being dispatched to the thread manager: line `k+1` is
not even read before line `k` has been handed off to its requester. So two lines cannot overtake each other
between the console and the hand-off (no FIFO argument is needed for this part). -/
theorem C06_one_line_at_a_time (P : Prog) (c0 c : Cfg) (h0 : Started c0) (hU : UserHandlers c0)
    (hF : NoForge P c0) (hr : Reach P c0 c) (hrd : c.A.readers ≠ []) :
    c.A.readers.length = 1 ∧ irQueued c = 0 ∧ irCode c.code = 0 :=
  (reader_busy_of_inv (inputInv_reach h0 hU hF hr) hrd).2.2

/-
  Beyond the hand-off: the `InputReadySignal`s are enqueued at priority 0 into the level their requester
  routes to, and each level's queue is FIFO per priority (C01: `C01_history`). Within one level, therefore,
  successful signals are dispatched in hand-off order, i.e. in the order typed. Across levels this fails:
  see `C06_order_can_be_violated`. The order beyond the hand-off is the subject of `Props/C06b.lean`
  (`C06_order_within_level`: it is kept if no successful `InputReadySignal` ever waits in a covered level and none
  is dispatched while an earlier one is on its way to its handler).
-/

/-! ### non-vacuity and the limits of the property -/

/-- one screen, scheduled with argument 7; two lines are typed: "hello" (not understood: the screen asks again),
then "c" (continue: the screen closes and the application ends) -/
def C06_exP : Prog := { cc := asciiClass, screens := [{ name := ['A'], title := some ['T'] }] }
def C06_exC : Cfg := initCfg [.schedule 0 (some 7)] [] none ["hello".toList, ['c']]

example :
    let c := (runFuel C06_exP 400 C06_exC).1
    (runFuel C06_exP 400 C06_exC).2 = .returned ∧
    readLines c.log = ["hello".toList, ['c']] ∧ inputLines c.log = ["hello".toList, ['c']] ∧
    c.log.reverse.filterMap (fun e => match e with | .cb s .input a k => some (s, a, k) | _ => none) =
      [(0, some 7, some "hello".toList), (0, some 7, some ['c'])] ∧
    UserHandlers C06_exC ∧ C06_exC.NoForge := by
  decide +kernel

def C06_argsP : Prog :=
  { cc := asciiClass, screens := [{ name := ['A'] }],
    handlerScript := fun hid n => if hid = 0 ∧ n = 0 then [.replace 0 (some 2)] else [],
    deliverAt := [5] }
def C06_argsC : Cfg :=
  initCfg [.schedule 0 (some 1), .enq (.user 0) 0 .none 5] [(.user 0, .user 0, none)] none ["one".toList]

/-- **The arguments can be those of a later request.** Screen 0 asks with argument 1; while a handler runs, the
line "one" arrives and the handler replaces the screen by itself with argument 2; the redraw is dispatched before
the `InputReadySignal`, so the screen asks again (argument 2) before the answer to its first request is
dispatched: "one", typed at the prompt for argument 1, is handed to `input` with argument 2. -/
theorem C06_args_can_be_a_later_request's :
    ∃ c, Reach C06_argsP C06_argsC c ∧ UserHandlers C06_argsC ∧ C06_argsC.NoForge ∧
      c.log.reverse.filterMap (fun e => match e with
        | .cb s .prompt a _ => some (s, a, none) | .read l => some (0, none, some l)
        | .cb s .input a k => some (s, a, k) | _ => none) =
      [(0, some 1, none), (0, none, some "one".toList), (0, some 2, none), (0, some 2, some "one".toList),
       (0, some 2, none)] :=
  reach_of_run 400 (by decide +kernel)

def C06_orderP : Prog :=
  { cc := asciiClass,
    screens := [{ name := ['A'] }, { name := ['B'], inputRequired := false }],
    handlerScript := fun hid n =>
      if hid = 0 ∧ n = 0 then [.pushModal 1 none]
      else if hid = 1 ∧ n = 0 then [.push 0 none] else [],
    screenScript := fun scr cb n =>
      if scr = 1 ∧ cb = .show ∧ n = 0 then { acts := [.enq (.user 1) 0 .none 6] }
      else if scr = 1 ∧ cb = .show ∧ n = 1 then { acts := [.closeDirect] } else {},
    deliverAt := [8] }
def C06_orderC : Cfg :=
  initCfg [.schedule 0 none, .enq (.user 0) 0 .none 5] [(.user 0, .user 0, none), (.user 1, .user 1, none)] none
    ["one".toList, "two".toList, ['c'], ['c']]

/-- **Beyond the hand-off the order typed can be violated — even for a single screen.** Screen 0 asks in the
outermost level; a handler opens a modal screen (a nested loop level); "one" arrives and is handed off, but its
`InputReadySignal` is routed to the outer level, which is blocked while the modal level runs; inside the modal level
screen 0 is pushed again and asks again: it gets "two" and "c" first, and "one" only after the modal level was
left. Every line still arrives intact and once. -/
theorem C06_order_can_be_violated :
    ∃ c, Reach C06_orderP C06_orderC c ∧ UserHandlers C06_orderC ∧ C06_orderC.NoForge ∧
      readLines c.log = ["one".toList, "two".toList, ['c'], ['c']] ∧
      c.log.reverse.filterMap (fun e => match e with | .cb s .input _ k => some (s, k) | _ => none) =
        [(0, some "two".toList), (0, some ['c']), (0, some "one".toList), (0, some ['c'])] :=
  reach_of_run 2000 (by decide +kernel)

def C06_forgeP : Prog := { cc := asciiClass, screens := [{ name := ['A'] }] }
def C06_forgeC : Cfg := initCfg [.schedule 0 none, .enq .inputReceived 0 .none 7] [] none []

/-- **`NoForge` is needed** for "intact": an application that enqueues an `InputReceivedSignal` of its own
(the program of `C18_one_reader_needs_NoForge`) gets the empty line — which nobody typed — handed to the screen's
`input` method. -/
theorem C06_line_intact_needs_NoForge :
    ∃ c, Reach C06_forgeP C06_forgeC c ∧ UserHandlers C06_forgeC ∧
      inputLines c.log = [[]] ∧ readLines c.log = [] :=
  reach_of_run 60 (by decide +kernel)

end Simpleline
