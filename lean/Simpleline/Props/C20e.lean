/-
  C20e — "everything above the loop API is the table of A.3 unchanged", formally.

  `View` (`Lemmas/GMeSame.lean`) is the part of a configuration the scheduler / screen / input instructions read and write:
  application state `A` (screen stack, screen objects, input subsystem, console output), the observable `log`, the framework
  signal-id counter, the callbacks' return registers, the handler registrations, the quit-callback registration.  `tI`
  translates the shared instructions constructor by constructor.  `ResRel` relates the results of one step: both machines go
  on with equal views and the *same instructions pushed* in front of their pending code; or both raise the same kind of
  exception from configurations with equal views (where it lands differs: the catchers of the two loops differ — difference
  (ii)); or both skip to the end of `_process_screen`'s `try`; or both halt with the same outcome.

  Side condition (difference (i)): `g.L.loops ≠ []` — on GLib `enqueue_signal` / `register_signal_source` raise `IndexError`
  when no loop is left, on `MainLoop` they never raise.  The single scheduler / input instruction excluded is `waitInput`
  (difference (iii)): the test with which `InputHandler.wait_on_input` is modelled to spin for ever reads `_force_quit` and
  the loop list on GLib and `_run_loop` on `MainLoop` — loop state that is not part of the view.
-/
import Simpleline.Lemmas.GMeSame

namespace Simpleline.G

/-- the user actions that are calls of the scheduler / screen API (the others are calls of the loop API itself) -/
def schedAct : Act → Bool
  | .schedule .. | .push .. | .pushModal .. | .replace .. | .closeDirect | .closeSig .. | .redrawSig .. | .schedRedraw
  | .getUserInput .. => true
  | _ => false

/-- the instructions covered by `C20e_same_scheduler`: every shared instruction above the loop API except `waitInput` -/
def covered : Instr → Bool
  -- screen stack / scheduler
  | .pushModal .. | .modalRet .. | .closeScreen .. | .closeScreen2 .. | .processScreen | .afterSetupFail ..
  | .identCheck .. | .catchPS | .drawScreen .. | .catchDraw | .maybeInput .. => true
  -- screen callbacks and printing
  | .callScr .. | .printWidget .. | .printLines .. => true
  -- input
  | .getInput .. | .getInput2 .. | .blockingInput .. | .inputReady .. | .processInput .. | .classify .. | .catchPI ..
  | .endPI => true
  -- logging
  | .note .. | .hret .. | .quitCb => true
  -- instructions that call the loop API (enqueue / redraw / register_signal_source)
  | .afterSetup .. | .afterSetup2 .. | .closeScreen3 .. | .afterQuit .. | .countAndAct .. | .scrRet .. | .inputReceived .. => true
  -- the scheduler's user actions
  | .act a => schedAct a
  | _ => false

/-- **The scheduler / screen / input instructions are the same functions of the application state on both machines.**
Take a configuration `g` of the GLib machine and a configuration `m` of the `MainLoop` machine with the same view, whose next
instructions correspond (`i` and `tI i`), `i` covered, a loop left on the GLib side.  Then the results of the step
correspond (`ResRel`): equal views again — same screen stack, same screen objects, same input state, same console output,
same log, same registrations — and the same instructions pushed in front of the respective rest; or the same kind of
exception raised; or the same halt.

`covered` is every instruction above the loop API that the two machines share — the whole scheduler (`pushModal`, `modalRet`,
`closeScreen`, `closeScreen2`, `closeScreen3`, `processScreen`, `afterSetup`, `afterSetupFail`, `afterSetup2`, `identCheck`,
`catchPS`, `drawScreen`, `catchDraw`, `maybeInput`), the screen callbacks and printing (`callScr`, `scrRet`, `printWidget`,
`printLines`), the input pipeline (`getInput`, `getInput2`, `blockingInput`, `inputReceived`, `inputReady`, `processInput`,
`classify`, `catchPI`, `countAndAct`, `endPI`, `afterQuit`), logging and the epilogue of `run()` (`note`, `hret`, `quitCb`),
and the user actions that call the scheduler / screen API (`schedule`, `push`, `pushModal`, `replace`, `closeDirect`,
`closeSig`, `redrawSig`, `schedRedraw`, `getUserInput`) — **with the single exception of `waitInput`**: the model of
`wait_on_input` detects the spinning wait by a test on loop state (`_force_quit` and the loop list on GLib, `_run_loop` on
`MainLoop`), which is not a function of the view.  Not in the scope of the statement, by definition: the loop group itself
(the GLib / MainLoop loop instructions, `apprun`, `kill`, `callH`, the loop API entry points `procWait` / `newLoop` /
`closeLoop` and the user actions that call the loop API directly), which is what differs between the two machines. -/
theorem C20e_same_scheduler (P : Prog) (g : Cfg) (m : Simpleline.Cfg) (i : Instr) (rg : List Instr)
    (rm : List Simpleline.Instr) (hi : covered i = true) (hg : g.code = i :: rg) (hm : m.code = tI i :: rm)
    (hv : g.view = mview m) (hl : g.L.loops ≠ []) :
    ResRel rg rm (step P g) (Simpleline.step P m) := by
  -- both configurations written out, the components of the view identified: equal views are then equal by `rfl`
  obtain ⟨gc, ⟨ctxs, loops, fq, hs, tks, tc, qcb, nsrc⟩, A, log, gtr, sid, r1, r2, r3, r4, r5⟩ := g
  obtain ⟨mc, ⟨qs, lvls, act, rl, mfq, mhs, mtks, mtc, mqcb⟩, mA, mlog, mtr, msid, m1, m2, m3, m4, m5⟩ := m
  simp only [Cfg.view, mview, View.mk.injEq] at hv
  obtain ⟨rfl, rfl, rfl, rfl, rfl, rfl, rfl, rfl, rfl, rfl⟩ := hv
  simp only at hg hm hl
  subst hg hm
  -- with the head instruction taken off, the configurations agree above the loop API; a case carries this to the
  -- configurations it builds by `S.map`, whose view equation closes by `rfl`
  have S : Same rg rm ⟨rg, ⟨ctxs, loops, fq, hs, tks, tc, qcb, nsrc⟩, A, log, gtr, sid, r1, r2, r3, r4, r5⟩
      ⟨rm, ⟨qs, lvls, act, rl, mfq, hs, mtks, mtc, qcb⟩, A, log, mtr, sid, r1, r2, r3, r4, r5⟩ := ⟨rfl, hl, rfl, rfl⟩
  cases i with
  | modalRet e => exact ResRel.ok' []
  | catchPS => exact ResRel.ok' []
  | catchDraw => exact ResRel.ok' []
  | catchPI scr => exact ResRel.ok' []
  | endPI => exact ResRel.ok' []
  | classify scr => exact ResRel.ok' []
  | printLines ls => exact ResRel.ok' []
  | getInput scr args => exact ResRel.ok' [_, _]
  | processInput scr key => exact ResRel.ok' [_, _, _, _, _]
  | pushModal scr args => exact ResRel.ok' [_, _]
  | maybeInput top => exact ResRel.ite (fun _ => ResRel.ok' [_]) fun _ => ResRel.ok' []
  | drawScreen top =>
    simp only [tI, step, Simpleline.step]
    split
    · exact ResRel.ok' [_, _]
    · exact ResRel.ok' [_, _]
  | afterSetupFail e => exact ResRel.ite (fun _ => ResRel.raise' []) fun _ => ResRel.ok' []
  | processScreen =>
    simp only [tI, step, Simpleline.step]
    cases A.stack.getLast? with
    | none => exact ResRel.raise' []
    | some top =>
      exact ResRel.ite (fun _ => ResRel.ok' [_]) fun _ => ResRel.ok' [_, _]
  | closeScreen frm =>
    simp only [tI, step, Simpleline.step]
    cases A.stack.getLast? with
    | none => exact ResRel.raise' []
    | some e =>
      exact ResRel.ite (fun _ => ResRel.raise' []) fun _ => ResRel.ok' [_, _]
  | closeScreen2 e frm =>
    exact ResRel.ite (fun _ => ResRel.raise' []) fun _ => ResRel.ite (fun _ => ResRel.ok' [_, _]) fun _ => ResRel.ok' [_]
  | identCheck top =>
    simp only [tI, step, Simpleline.step]
    cases A.stack.getLast? with
    | none => exact ResRel.raise' []
    | some l =>
      exact ResRel.ite (fun _ => ResRel.skip (by rfl) (by rfl) (by rfl)) fun _ => ResRel.ok' [_, _]
  | inputReady n sg =>
    refine ResRel.ite (fun _ => ResRel.ok' []) fun _ => ResRel.ite (fun _ => ResRel.ok' []) fun _ => ?_
    cases (A.ihs.getD n default).cb with
    | some scr => exact ResRel.ok' [_]
    | none => exact ResRel.ok' []
  | getInput2 scr args =>
    exact ResRel.ite (fun _ => ResRel.ok' []) fun _ => startRequest_rel rg rm _ _ _ _ _ [] rfl rfl rfl (mapped_of_all rfl)
  | blockingInput scr cont =>
    exact startRequest_rel rg rm _ _ _ _ _ [.waitInput A.ihs.length] rfl rfl rfl (mapped_of_all rfl)
  | note w => exact (S.emit P _).res
  | hret hid => exact (S.emit P _).res
  | quitCb =>
    simp only [tI, step, Simpleline.step]
    cases qcb with
    | some d => exact (S.emit P _).res
    | none => exact ResRel.ok' []
  | printWidget scr =>
    simp only [tI, step, Simpleline.step]
    cases windowLines P scr with
    | error e => exact ResRel.raise' []
    | ok lines =>
      simp only
      cases printWidget lines (P.spec scr).height with
      | none => exact ResRel.halt _ rfl
      | some evs =>
        exact ResRel.ok (chunkOut scr evs [] []) rfl rfl (congrArg (· ++ rm) (chunkOut_map scr evs [] []).symm)
          (chunkOut_forall (mapped · = true) (fun _ => rfl) (fun _ => rfl) evs [] [] (mapped_of_all rfl))
  | callScr scr cb arg key =>
    refine ((S.map (by rfl)).emit P _).push _ ?_ fun j hj => ?_
    · by_cases hcb : cb = .show <;> simp [hcb, tI, Function.comp]
    · simp only [List.mem_append, List.mem_map, List.mem_singleton] at hj
      rcases hj with (hj | ⟨a, _, rfl⟩) | rfl
      · split at hj
        · exact mapped_of_all (l := [.printWidget scr]) rfl j hj
        · cases hj
      · rfl
      · rfl
  | afterQuit q =>
    simp only [tI, step, Simpleline.step]
    cases (P.spec q).answer with
    | none => exact ResRel.raise' []
    | some a =>
      cases a with
      | none => exact S.redraw.res
      | some b =>
        cases b with
        | true => exact ResRel.raise' []
        | false => exact S.redraw.res
  | afterSetup top =>
    refine ResRel.ite (fun _ => ResRel.ok' [_]) fun _ => ?_
    cases A.stack.getLast? with
    | none => exact ResRel.raise' []
    | some e => exact ResRel.ite (fun _ => ResRel.ok' [_, _]) fun _ => (S.map (by rfl)).redraw.res
  | afterSetup2 top =>
    exact (S.regSource _).bindRes fun _ h => (h.map (by exact h.view)).push [_, _, _] rfl (mapped_of_all rfl)
  | scrRet scr cb ret key =>
    cases cb with
    | setup =>
      simp only [tI, step, Simpleline.step]
      split
      · exact ResRel.ok' []
      · obtain ⟨q, hq⟩ := regSource_eq
          { code := rg, L := ⟨ctxs, loops, fq, hs, tks, tc, qcb, nsrc⟩, A := A.setScr scr fun s => { s with ready := true }, log := log,
            tr := gtr, nextSid := sid, retSetup := r1, retPromptNone := r2, retInput := r3, retKey := r4, retAction := r5 } (.scr scr) hl
        rw [hq]
        exact ResRel.ok' []
    | prompt => exact ResRel.ok' []
    | input => exact ResRel.ok' []
    | refresh => exact ResRel.ok' []
    | «show» => exact ResRel.ok' []
    | closed => exact ResRel.ok' []
  | act a =>
    cases a with
    | schedule scr args =>
      exact ResRel.ite (fun _ => ResRel.ok' []) fun _ =>
        (S.map (by rfl)).redraw.bindRes fun _ h =>
          (h.map (view_setA h.view fun A => { A with firstScheduled := true })).res
    | push scr args => exact (S.map (by rfl)).redraw.res
    | pushModal scr args => exact ResRel.ok' [_, _]
    | replace scr args =>
      simp only [tI, step, Simpleline.step, doAct, Simpleline.doAct]
      cases A.stack.getLast? with
      | none => exact ResRel.raise' []
      | some old => exact (S.map (by rfl)).redraw.res
    | closeDirect => exact ResRel.ok' [_]
    | closeSig scr => exact ((S.map (by rfl)).enqueue rfl).res
    | redrawSig scr => exact ((S.map (by rfl)).enqueue rfl).res
    | schedRedraw => exact S.redraw.res
    | getUserInput scr hidden => exact ResRel.ok' [_, _]
    | _ => cases hi
  | inputReceived sg =>
    simp only [tI, step, Simpleline.step]
    cases A.inputStack.getLast? with
    | none => exact ResRel.raise' []
    | some r => simp only; exact (S.map (by rfl)).inputReceived _ _
  | countAndAct scr =>
    simp only [tI, step, Simpleline.step]
    generalize A.setScr scr _ = A'
    cases A'.stack.getLast? with
    | none => exact ResRel.raise' []
    | some top =>
      cases r5 with
      | error =>
        exact ResRel.ite (fun _ => (S.map (by rfl)).redraw.res) fun _ => ResRel.ok' [_]
      | noop => exact ResRel.ok' []
      | redraw => exact (S.map (by rfl)).redraw.res
      | close => exact ResRel.ok' [_]
      | quit =>
        simp only
        cases P.quitScreen with
        | none => exact ResRel.raise' []
        | some q => exact ResRel.ok' [_, _]
  | closeScreen3 e =>
    simp only [tI, step, Simpleline.step]
    split
    · exact S.redraw.bindRes fun _ h => h.exitIfEmpty
    · exact S.exitIfEmpty
  | _ => cases hi

/-- the two machines start with the same view (same start-up actions, same registrations, same typed lines), with a loop
on the GLib side — the hypotheses of `C20e_same_scheduler` are satisfiable, and stay so as long as the loop-level
instructions keep the views equal -/
theorem C20e_init_same_view (init : List Act) (hs : List (Cls × HRef × Option Nat)) (q : Option Nat) (stdin : List Str) :
    (initCfg init hs q stdin).view = mview (Simpleline.initCfg init hs q stdin) ∧ (initCfg init hs q stdin).L.loops ≠ [] ∧
    (initCfg init hs q stdin).code.map tI = (Simpleline.initCfg init hs q stdin).code := by
  refine ⟨rfl, by simp [initCfg], ?_⟩
  simp [initCfg, Simpleline.initCfg, tI, Function.comp]

/-
  NOT DONE: `C20e_batch_dispatch_order` (the history-level order of the dispatch events of one batch; the two missing
  invariants are described in `Props/C20b.lean`).
-/

end Simpleline.G
