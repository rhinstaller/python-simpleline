/-
  C15b — Drawing one widget into another makes the target show the source's characters in that
  rectangle and leaves every other cell as it was: the composition `ColumnWidget.render` performs.

  `c : ColW` is a `ColumnWidget` (`c.cols`: the columns `(width or None, [widgets])`, `c.spacing`), and
  `c.render cc w = .ok r` says that `render(w)` succeeded and left the object `r`: `r.lines` is
  `get_lines()`, `r.cols` holds the rendered widgets. The *placement* is computed from the rendered
  widgets alone (`Spec/ColumnSpec.lean`), without any buffer:
  * `r.widgetGrid k j` — the lines of widget `j` of column `k` (no lines if there is no such widget);
  * `r.widgetTop k j`  — its first buffer row: the sum of the heights of the widgets above it in column `k`;
  * `r.colStart k`     — the first character column of column `k`: 0 for the first column, then
    `max (colStart k + width_k or 0) (the right edge of everything in columns ≤ k) + spacing`.
  No hypothesis says that a widget respects the width it was rendered at: the `max(…, self.width)` in
  the `col_pos` recurrence makes the statements true without one.
-/
import Simpleline.Lemmas.ColumnPlace

namespace Simpleline

/-! ### what `render` draws -/

/-- A successful `render(w)` keeps spacing, the number of columns, their widths and the number of
widgets in each; widget `j` of column `k` is that widget rendered at the column's width — the declared
one, or for `None` what is left of `w` right of the column's start (`colMaxW`) —; and the lines are
those rendered widgets drawn column by column, each column top to bottom (`drawCols`). -/
theorem C15_column_shape (cc : CharClass) (c r : ColW) (w : Int) (h : c.render cc w = .ok r) :
    r.spacing = c.spacing ∧ r.cols.length = c.cols.length ∧
    (∀ k, (hk : k < c.cols.length) → (hk' : k < r.cols.length) →
      r.cols[k].1 = c.cols[k].1 ∧ r.cols[k].2.length = c.cols[k].2.length ∧
      ∀ j, (hj : j < c.cols[k].2.length) → (hj' : j < r.cols[k].2.length) →
        c.cols[k].2[j].render cc (colMaxW c.cols[k].1 w (r.colStart k)) = .ok r.cols[k].2[j]) ∧
    r.lines = drawCols r.spacing [] 0 r.grids := by
  obtain ⟨st, cols', h1, rfl⟩ := ColW.render_ok h
  obtain ⟨hl, hb, hr⟩ := renderColumnsFrom_shape cc _ _ _ _ _ _ _ h1
  exact ⟨rfl, hl, fun k hk hk' => ⟨(hr k hk hk').1, (hr k hk hk').2⟩, hb⟩

/-- `widgetGrid k j` is the lines of the rendered widget `j` of column `k` … -/
theorem C15_column_widget_grid (r : ColW) (k : Nat) (hk : k < r.cols.length) (j : Nat)
    (hj : j < r.cols[k].2.length) : r.widgetGrid k j = r.cols[k].2[j].lines := by
  rw [ColW.widgetGrid, ColW.grids, colGrids_getD _ _ hk, getD_eq_getElem _ _ (by rw [List.length_map]; exact hj),
    List.getElem_map]

/-- … and has no rows when there is no such widget -/
theorem C15_column_no_widget (r : ColW) (k j : Nat) (h : ¬ ∃ hk : k < r.cols.length, j < r.cols[k].2.length) :
    r.widgetGrid k j = [] := by
  rw [ColW.widgetGrid, ColW.grids]
  by_cases hk : k < r.cols.length
  · rw [colGrids_getD _ _ hk]
    exact getD_eq_default _ _ (by rw [List.length_map]; exact Nat.le_of_not_lt fun hj => h ⟨hk, hj⟩)
  · rw [getD_eq_default (colGrids r.cols) _ (by rw [colGrids_length]; exact Nat.le_of_not_lt hk)]
    rfl

/-- `colStart` is Python's `col_pos`: 0 for the first column, and the next column starts at
`max(col_pos + col_width, self.width) + spacing` where `self.width` is the widest row of the buffer
after the columns up to this one have been drawn (`col_width` counts as 0 for `None`). -/
theorem C15_column_start_rec (r : ColW) :
    r.colStart 0 = 0 ∧
    ∀ k, (hk : k + 1 < r.cols.length) →
      r.colStart (k + 1) =
        max (r.colStart k + (r.cols[k]'(by omega)).1.getD 0)
          (gridWidth (drawCols r.spacing [] 0 (r.grids.take (k + 1)))) + r.spacing := by
  refine ⟨?_, fun k hk => ?_⟩
  · rw [ColW.colStart]
    cases r.grids with
    | nil => rfl
    | cons c cols => rfl
  · have := colStartsFrom_rec r.spacing r.grids [] 0 k ((colGrids_length r.cols).symm ▸ hk)
    rwa [ColW.grids, colGrids_getD _ _ (Nat.lt_of_succ_lt hk)] at this

/-! ### every widget at its place, nothing else, nothing overlapping -/

/-- Every character of every rendered widget is shown at its place: the character at `(a, b)` of
widget `j` of column `k` is at row `widgetTop k j + a`, column `colStart k + b` of the column widget's
lines. Later draws never overwrite earlier ones: a later widget of the same column is drawn below, a
later column starts at or right of the widest row drawn so far. -/
theorem C15_column_places_widgets (cc : CharClass) (c r : ColW) (w : Int) (h : c.render cc w = .ok r)
    (k j a b : Nat) (ch : Char) (hc : cell (r.widgetGrid k j) a b = some ch) :
    cell r.lines (r.widgetTop k j + a) (r.colStart k + b) = some ch :=
  ColW.places r (ColW.render_lines cc c r w h) k j a b ch hc

/-- Nothing else is drawn: every cell of the lines is a character of a widget at its place, or a
blank (the padding `draw` puts left of a drawn row). Together with `C15_column_places_widgets` and
`C15_column_unique`: a cell shows the character of exactly one widget, or it is a blank that no
widget character covers. -/
theorem C15_column_nothing_else (cc : CharClass) (c r : ColW) (w : Int) (h : c.render cc w = .ok r)
    (x y : Nat) (ch : Char) (hc : cell r.lines x y = some ch) :
    ch = ' ' ∨ ∃ k j a b, x = r.widgetTop k j + a ∧ y = r.colStart k + b ∧
      cell (r.widgetGrid k j) a b = some ch :=
  ColW.origin r (ColW.render_lines cc c r w h) x y ch hc

/-- The column widget is as high as its highest column (the sum of the heights of its widgets; 0
without columns or widgets), and every widget's rows lie within it. -/
theorem C15_column_height (cc : CharClass) (c r : ColW) (w : Int) (h : c.render cc w = .ok r) :
    r.lines.length = colsHeight r.grids ∧
    ∀ k j, r.widgetTop k j + (r.widgetGrid k j).length ≤ r.lines.length :=
  ColW.height r (ColW.render_lines cc c r w h)

/-- The bounding boxes `[widgetTop, widgetTop + height) × [colStart, colStart + width)` of different
widgets are disjoint: a widget of a later column starts at or right of the right edge of every widget
of an earlier column — however wide that widget made itself —, and a widget lower in a column starts
at or below the end of every widget above it. -/
theorem C15_column_disjoint (r : ColW) (k k' j j' : Nat) :
    (k < k' → k' < r.cols.length → r.colStart k + gridWidth (r.widgetGrid k j) ≤ r.colStart k') ∧
    (j < j' → r.widgetTop k j + (r.widgetGrid k j).length ≤ r.widgetTop k j') :=
  ColW.sep r k k' j j'

/-- … so no place of the buffer is claimed by characters of two different widgets. -/
theorem C15_column_unique (r : ColW) (k j a b k' j' a' b' : Nat) (ch ch' : Char)
    (hc : cell (r.widgetGrid k j) a b = some ch) (hc' : cell (r.widgetGrid k' j') a' b' = some ch')
    (hx : r.widgetTop k j + a = r.widgetTop k' j' + a') (hy : r.colStart k + b = r.colStart k' + b') :
    k = k' ∧ j = j' :=
  ColW.unique r k j a b k' j' a' b' ch ch' hc hc' hx hy

/-- When every column has a declared width and every rendered widget respects it (no row longer than
the column's width), the layout is the fixed grid the user asked for: column `k` starts at the sum of
`width_i + spacing` over the columns before it. (Without the hypothesis the column is pushed right:
last example below; a `TextWidget` always respects its width — C11 —, a list container with a forced
columns width or a checkbox need not.) -/
theorem C15_column_fixed_grid (r : ColW)
    (hw : ∀ p ∈ r.cols, ∃ n, p.1 = some n ∧ ∀ it ∈ p.2, ∀ row ∈ it.lines, row.length ≤ n)
    (k : Nat) (hk : k < r.cols.length) :
    r.colStart k = ((r.cols.take k).map fun p => p.1.getD 0 + r.spacing).sum := by
  have := colStartsFrom_fixed r.spacing r.grids 0 0 (Nat.le_refl _) (by
    intro c hc
    obtain ⟨p, hp, rfl⟩ := List.mem_map.1 hc
    obtain ⟨n, hn, hrows⟩ := hw p hp
    refine ⟨n, hn, fun g hg => ?_⟩
    obtain ⟨it, hit, rfl⟩ := List.mem_map.1 hg
    exact (col_gridWidth_le_iff _ _).2 (hrows it hit)) k ((colGrids_length r.cols).symm ▸ hk)
  rw [ColW.colStart, this, Nat.zero_add, ColW.grids, colGrids, ← List.map_take, List.map_map]
  rfl

/-! Non-vacuity. Two columns `(6, [text, text])`, `(None, [text])`, spacing 2, at width 20: the render
succeeds, the second column starts at 6 + 2 and gets the remaining 12 columns, the second widget of
the first column starts on row 3, and its `x` is where the placement predicts. -/
example :
    let c : ColW := { spacing := 2, cols :=
      [(some 6, [.text {} "aaa bbb ccc".toList, .text {} ['x']]), (none, [.text {} "hello world again".toList])] }
    (match c.render asciiClass 20 with
     | .ok r => (r.lines, r.colStart 1, r.widgetTop 0 1, cell r.lines (r.widgetTop 0 1 + 0) (r.colStart 0 + 0),
         cell r.lines (r.widgetTop 1 0 + 1) (r.colStart 1 + 4))
     | .error _ => ([], 0, 0, none, none)) =
    (["aaa     hello world".toList, "bbb     again".toList, "ccc".toList, ['x']], 8, 3, some 'x', some 'n') := by
  decide +kernel

/-! … and these are the characters `(0, 0)` of widget 1 of column 0 and `(1, 4)` of widget 0 of column 1 -/
example :
    let c : ColW := { spacing := 2, cols :=
      [(some 6, [.text {} "aaa bbb ccc".toList, .text {} ['x']]), (none, [.text {} "hello world again".toList])] }
    (match c.render asciiClass 20 with
     | .ok r => (r.widgetGrid 0 1, cell (r.widgetGrid 0 1) 0 0, r.widgetGrid 1 0, cell (r.widgetGrid 1 0) 1 4)
     | .error _ => ([], none, [], none)) =
    ([['x']], some 'x', ["hello world".toList, "again".toList], some 'n') := by
  decide +kernel

/-! The `max` matters: the first column is declared 3 wide but holds a list container with a forced
columns width that renders 7 wide; the second column is pushed right to 7 + 1 = 8 instead of
3 + 1 = 4 and nothing is overwritten (so `C15_column_fixed_grid` needs its hypothesis). -/
example :
    let c : ColW := { spacing := 1, cols :=
      [(some 3, [.list {} false 2 (some 4) 1 none none [] [.text {} "ab".toList, .text {} "cd".toList]]),
       (some 4, [.text {} "xy z".toList, .sep {} 1, .text {} ['q']])] }
    (match c.render asciiClass 20 with
     | .ok r => (r.lines, r.widgetGrid 0 0, r.colStart 1, r.widgetTop 1 2, cell r.lines (r.widgetTop 1 2 + 0) (r.colStart 1 + 0))
     | .error _ => ([], [], 0, 0, none)) =
    (["ab   cd xy z".toList, "        ".toList, "        q".toList], ["ab   cd".toList], 8, 2, some 'q') := by
  decide +kernel

end Simpleline
