/-
  C13 — List containers show every item once, in order, without overlap, within width.

  `Wd.list st colMajor columns cw spacing kp …` is `ListRowContainer` / `ListColumnContainer`.
  The drawing itself is `drawColumns used spacing labels grids rowH (orderedMap colMajor columns n)`:
  `labels`/`grids` are the rendered number labels and items, `rowH` the row heights.
-/
import Simpleline.Lemmas.ContainersDraw
import Simpleline.Lemmas.ContainersRender
import Simpleline.Lemmas.Literals

namespace Simpleline

/-! ### order: row-major / column-major, every item exactly once -/

/-- `ListRowContainer` fills row after row: item `i` is in layout row `i / columns`, column `i % columns` -/
theorem C13_row_major (columns n i : Nat) : cellOf false columns n i = (i / columns, i % columns) := rfl

/-- `ListColumnContainer` fills column after column, each `⌈n / columns⌉` rows high -/
theorem C13_col_major (columns n i : Nat) :
    cellOf true columns n i = (i % ((n + columns - 1) / columns), i / ((n + columns - 1) / columns)) := rfl

/-- every item lands in one of the `columns` columns, and no two items share a cell -/
theorem C13_cells (cm : Bool) (columns n : Nat) (hc : 1 ≤ columns) :
    (∀ i, i < n → (cellOf cm columns n i).2 < columns) ∧
    (∀ i j, i < n → j < n → cellOf cm columns n i = cellOf cm columns n j → i = j) :=
  ⟨cellOf_col_lt cm columns n hc, fun i j _ _ h => cellOf_inj cm columns n i j h⟩

/-- the ordered map lists every item exactly once, each column top to bottom in item order, and
the `r`-th entry of a column is the item of layout row `r` -/
theorem C13_ordered_map (cm : Bool) (columns n : Nat) (hc : 1 ≤ columns) :
    (orderedMap cm columns n).flatten.Perm (List.range n) ∧
    (∀ c, (hcl : c < (orderedMap cm columns n).length) → ∀ r, (hr : r < ((orderedMap cm columns n)[c]).length) →
        cellOf cm columns n (((orderedMap cm columns n)[c])[r]) = (r, c)) :=
  ⟨orderedMap_flatten_perm cm columns n hc, orderedMap_cell cm columns n⟩

/-! ### a layout that cannot fit is refused -/

/-- with at least one item: a columns width ≤ 0, or a label that leaves no room for its item, makes
`render` raise instead of drawing -/
theorem C13_refuse (cc : CharClass) (st : WSt) (cm : Bool) (columns : Nat) (cw : Option Int) (spacing : Nat)
    (kp : Option KeyPat) (u : Option Int) (nw : List NumW) (items : List Wd) (w : Int)
    (hc : 1 ≤ columns) (hn : items ≠ [])
    (hbad : usedWidth cw columns spacing w ≤ 0 ∨
      ∃ k, kp = some k ∧ ∃ i, i < items.length ∧ usedWidth cw columns spacing w - (k.label i).length ≤ 0) :
    ∃ e, (Wd.list st cm columns cw spacing kp u nw items).render cc w = .error e := by
  cases hr : (Wd.list st cm columns cw spacing kp u nw items).render cc w with
  | error e => exact ⟨e, rfl⟩
  | ok r =>
    have _ := hc
    obtain ⟨_, hu, hroom⟩ := list_ok_room hn hr
    rcases hbad with h | ⟨k, hk, i, hi, h⟩
    · omega
    · have := hroom k hk i hi; omega

/-- zero columns is an error of its own kind -/
theorem C13_zero_columns (cc : CharClass) (st : WSt) (cm : Bool) (cw : Option Int) (spacing : Nat)
    (kp : Option KeyPat) (u : Option Int) (nw : List NumW) (items : List Wd) (w : Int)
    (h : cw = none ∨ cm = true ∨ items ≠ []) :
    (Wd.list st cm 0 cw spacing kp u nw items).render cc w = .error .zeroDivision := by
  simp only [Wd.render]
  rw [if_pos ⟨trivial, h⟩]
  rfl

/-- an empty container renders to nothing at any width -/
theorem C13_empty (cc : CharClass) (st : WSt) (cm : Bool) (columns : Nat) (cw : Option Int) (spacing : Nat)
    (kp : Option KeyPat) (u : Option Int) (nw : List NumW) (w : Int) (hc : 1 ≤ columns) (r : Wd)
    (h : (Wd.list st cm columns cw spacing kp u nw []).render cc w = .ok r) : r.lines = [] :=
  have _ := hc
  render_list_nil h

/-! ### what `render` draws -/

/-- A successful render of a list container is the drawing of its rendered labels and items:
item `i` is rendered at the columns width minus its label's length, its label is `kp.label i`
rendered at its own length, and the buffer is `drawColumns` of those over the ordered map. -/
theorem C13_render_shape (cc : CharClass) (st : WSt) (cm : Bool) (columns : Nat) (cw : Option Int)
    (spacing : Nat) (kp : Option KeyPat) (u : Option Int) (nw : List NumW) (items : List Wd) (w : Int) (r : Wd)
    (h : (Wd.list st cm columns cw spacing kp u nw items).render cc w = .ok r) :
    ∃ (items' : List Wd) (labels : List (Option NumW)),
      items'.length = items.length ∧ labels.length = items.length ∧
      (∀ i, (hi : i < items.length) → (hi' : i < items'.length) →
        items[i].render cc (usedWidth cw columns spacing w - labelLen labels i) = .ok items'[i]) ∧
      (∀ i, i < items.length →
        match kp with
        | some k => ∃ s, renderTextSt cc {} (k.label i) (k.label i).length = .ok s ∧
                      labels.getD i none = some ⟨s, k.label i⟩
        | none => labels.getD i none = none) ∧
      r.lines = (drawColumns (usedWidth cw columns spacing w) spacing labels (items'.map Wd.lines)
        (rowHeight cm columns (((items'.map Wd.lines).zip labels).map fun (g, l) =>
          max g.length (match l with | some nw => nw.st.buf.length | none => 0)))
        (orderedMap cm columns items'.length) {} 0).buf := by
  obtain ⟨items', labels, sh⟩ := shape_of_render h
  refine ⟨items', labels, sh.len_items, sh.len_labels, sh.item_render, fun i hi => ?_, sh.lines⟩
  have := sh.label_render i hi
  cases kp <;> exact this

/-! ### placement: every item once, at its cell's position, nothing overlapping -/

/-- every character of the rendering of item `i` is shown at the position of its cell: row
`rowTop rowH r + a`, column `colLeft used spacing c + labelLen i + b` where `(r, c)` is the item's
cell -/
theorem C13_place_items (cm : Bool) (columns : Nat) (hc : 1 ≤ columns) (used : Int) (spacing : Nat)
    (labels : List (Option NumW)) (grids : List Grid) (rowH : Nat → Nat)
    (ok : LayoutOK used labels grids)
    (hH : ∀ i, (hi : i < grids.length) →
      max grids[i].length (labelBuf labels i).length ≤ rowH (cellOf cm columns grids.length i).1)
    (i : Nat) (hi : i < grids.length) (a b : Nat) (ha : a < grids[i].length) (hb : b < (grids[i][a]).length) :
    cell (drawColumns used spacing labels grids rowH (orderedMap cm columns grids.length) {} 0).buf
      (rowTop rowH (cellOf cm columns grids.length i).1 + a)
      (colLeft used spacing (cellOf cm columns grids.length i).2 + labelLen labels i + b) = some (grids[i][a])[b] :=
  (container_placed (widthOK_of_layoutOK ok) spacing rowH cm columns hc hH i hi).item hi a b ha hb

/-- … and its number label (as rendered) is shown on the first row of the cell from the band's left
edge -/
theorem C13_place_labels (cm : Bool) (columns : Nat) (hc : 1 ≤ columns) (used : Int) (spacing : Nat)
    (labels : List (Option NumW)) (grids : List Grid) (rowH : Nat → Nat)
    (ok : LayoutOK used labels grids)
    (hH : ∀ i, (hi : i < grids.length) →
      max grids[i].length (labelBuf labels i).length ≤ rowH (cellOf cm columns grids.length i).1)
    (i : Nat) (hi : i < grids.length) (row : List Char) (hrow : labelBuf labels i = [row]) (b : Nat) (hb : b < row.length) :
    cell (drawColumns used spacing labels grids rowH (orderedMap cm columns grids.length) {} 0).buf
      (rowTop rowH (cellOf cm columns grids.length i).1)
      (colLeft used spacing (cellOf cm columns grids.length i).2 + b) = some row[b] := by
  have P := (container_placed (widthOK_of_layoutOK ok) spacing rowH cm columns hc hH i hi).2
  rw [hrow] at P
  exact P 0 b _ (cell_getElem [row] 0 b Nat.zero_lt_one hb)

/-- the row heights computed by the container dominate every item and label of the row -/
theorem C13_row_height (cm : Bool) (columns : Nat) (heights : List Nat) (i : Nat) (hi : i < heights.length) :
    heights[i] ≤ rowHeight cm columns heights (cellOf cm columns heights.length i).1 :=
  rowHeight_ge cm columns heights i hi

/-- Bands and rows do not overlap: the rectangles `[rowTop r, rowTop r + rowH r) × [colLeft c, colLeft c + used)`
of distinct cells are disjoint, consecutive bands are `spacing` apart and a row starts where the row
above ends. -/
theorem C13_disjoint (used : Int) (hu : 0 < used) (spacing : Nat) (rowH : Nat → Nat) (r r' c c' : Nat) :
    (c < c' → colLeft used spacing c + used.toNat + spacing ≤ colLeft used spacing c') ∧
    (r < r' → rowTop rowH r + rowH r ≤ rowTop rowH r') := by
  have _ := hu
  exact ⟨colLeft_mono used spacing c c', rowTop_mono rowH r r'⟩

/-- with no forced columns width the whole layout fits the requested width: every band ends at or
before column `w` -/
theorem C13_within_width (columns spacing : Nat) (hc : 1 ≤ columns) (w : Int) (c : Nat) (hcc : c < columns)
    (hu : 0 < usedWidth none columns spacing w) :
    ((colLeft (usedWidth none columns spacing w) spacing c : Nat) : Int) + usedWidth none columns spacing w ≤ w :=
  usedWidth_fits columns spacing hc w c hcc hu

/-! Non-vacuity: two columns, five numbered items, one of them wrapping. -/
example :
    (match (Wd.list {} false 2 none 3 (some {}) none []
        [.text {} "aa bb".toList, .text {} ['x'], .text {} ['y'], .text {} ['z'], .text {} ['w']]).render asciiClass 15 with
     | .ok r => r.lines
     | .error _ => []) =
    ["1) aa    2) x".toList, "   bb".toList, "3) y     4) z".toList, "5) w".toList] := by
  lits
  decide +kernel

end Simpleline
