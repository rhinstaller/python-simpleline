/-
  C02 — Every dispatched signal reaches every handler of its class exactly once.

  Property theorems only; helper lemmas live in `Simpleline/Lemmas/Dispatch*.lean`, vocabulary in
  `Simpleline/Spec/DispatchSpec.lean`.

  How dispatch appears in the machine: the three consumers (`_mainloop`'s get, the waiting and the
  non-waiting `process_signals`) take a signal `s` (trace `.take q s`) and push `processSignal s`
  (`MainLoop._process_signal`).  That pushes `dispatch s 0` if a handler is registered for `s.cls`;
  `dispatch s i` looks at entry `i` of the *live* list `handlersOf c.L s.cls` (registrations, in
  registration order, whose class is exactly `s.cls`) and pushes
  `[callH h d s, catchHandler, dispatch s (i+1)]` — the call of callback `h` with data `d`, the
  `except Exception` scope around it, and the rest of the loop — or, past the end, traces
  `.dispatched s i`.  Executing `callH h d s` traces `.call h d s` and expands into the callback's body.
  `callsOf s tr` lists the `(h, d)` of the `.call h d s` events of a trace, oldest first;
  `takeCount s tr` counts its `.take _ s` events.
-/
import Simpleline.Lemmas.LoopWF
import Simpleline.Lemmas.DispatchStop

namespace Simpleline
open Dispatch Machine

/-! ### 1. only registered handlers, only for their own class, with their own data -/

/-- Registrations are never removed or reordered: along every execution the registration table only
grows at the end (and the only registrations the library itself adds are those of new input handlers
for `InputReady`). -/
theorem C02_handlers_grow (P : Prog) (c c' : Cfg) (hs : Steps P c c') : c.L.handlers <+: c'.L.handlers :=
  (steps_static hs).1

/-- … in one transition: what is appended are `(InputReady, input handler n, no data)` entries only. -/
theorem C02_handlers_grow_step (P : Prog) (c c' : Cfg) (ht : Trans P c c') :
    ∃ more, c'.L.handlers = c.L.handlers ++ more ∧ ∀ x ∈ more, ∃ n, x = (Cls.inputReady, HRef.ih n, none) :=
  (trans_static ht).1

/-- Every handler invocation in the history of a reachable configuration was the invocation of a
callback registered for *exactly* the class of the signal, with *exactly* the data given at
registration.  So no handler of another class is ever invoked for a signal. -/
theorem C02_call_registered (P : Prog) (c0 c : Cfg) (h0 : Started c0) (hr : Reach P c0 c)
    (h : HRef) (d : Option Nat) (s : Sig) (hm : Tr.call h d s ∈ c.tr) : (s.cls, h, d) ∈ c.L.handlers := by
  refine reach_induction (motive := CallReg) ?_ (fun c c' hr hI ht => hI.trans (codeInv_reach h0 hr) ht) hr h d s hm
  intro h d s hm
  rw [h0.tr] at hm; cases hm

/-! ### 2. a handler is only ever invoked by `dispatch` -/

/-- In every reachable configuration a handler-call instruction can only be the *next* instruction:
none occurs further down the pending code.  If one is next, it is there because `dispatch s j` just put it
there: it is followed by the `except Exception` scope and by `dispatch s (j+1)`, it is entry `j` of the
live handler list of the signal's class, and force-quit is not set. -/
theorem C02_call_only_from_dispatch (P : Prog) (c0 c : Cfg) (h0 : Started c0) (hr : Reach P c0 c) :
    (∀ h d s, Instr.callH h d s ∉ c.code.tail) ∧
    (∀ h d s, c.code.head? = some (.callH h d s) →
      ∃ j K, c.code = .callH h d s :: .catchHandler :: .dispatch s (j + 1) :: K ∧
        (handlersOf c.L s.cls)[j]? = some (h, d) ∧ c.L.forceQuit = false) := by
  have hI := codeInv_reach h0 hr
  refine ⟨fun h d s hm => ?_, hI.headCall⟩
  have := hI.noCall _ hm
  simp [isCallH] at this

/-- A `.call h d s` event is added to the history only by executing such a call instruction: the
transition started in a configuration whose next instruction was `callH h d s` — pushed by `dispatch`
as entry `j` of the live list, with force-quit unset. -/
theorem C02_call_event_origin (P : Prog) (c0 c c' : Cfg) (h0 : Started c0) (hr : Reach P c0 c) (ht : Trans P c c')
    (h : HRef) (d : Option Nat) (s : Sig) (hm : Tr.call h d s ∈ newTr c c') :
    ∃ j K, c.code = .callH h d s :: .catchHandler :: .dispatch s (j + 1) :: K ∧
      (handlersOf c.L s.cls)[j]? = some (h, d) ∧ c.L.forceQuit = false :=
  (codeInv_reach h0 hr).headCall h d s ((trans_origin ht).toNewTr.2 _ hm)

/-! ### 3. the handlers of the class: each once, in registration order -/

/-- `dispatch s i` with a handler at index `i` of the live list (and force-quit unset): that handler is
called next, inside an `except Exception` scope, and the dispatch continues with index `i+1`. Nothing
else changes. -/
theorem C02_dispatch_step_call (P : Prog) (c : Cfg) (s : Sig) (i : Nat) (rest : List Instr) (h : HRef) (d : Option Nat)
    (hc : c.code = .dispatch s i :: rest) (hh : (handlersOf c.L s.cls)[i]? = some (h, d)) (hf : c.L.forceQuit = false) :
    step P c = .ok { c with code := .callH h d s :: .catchHandler :: .dispatch s (i + 1) :: rest } := by
  have hh' : (handlersOf ({ c with code := rest } : Cfg).L s.cls)[i]? = some (h, d) := hh
  simp [step, hc, hh', hf, push]

/-- `dispatch s i` past the end of the live list (or after force-quit): the dispatch of `s` is over,
which is recorded as `.dispatched s i`; execution continues behind it.  Nothing else changes. -/
theorem C02_dispatch_step_done (P : Prog) (c : Cfg) (s : Sig) (i : Nat) (rest : List Instr)
    (hc : c.code = .dispatch s i :: rest) (hh : (handlersOf c.L s.cls)[i]? = none ∨ c.L.forceQuit = true) :
    step P c = .ok { c with code := rest, tr := .dispatched s i :: c.tr } := by
  simp only [step, hc]
  split
  · rename_i h d heq
    have heq' : (handlersOf c.L s.cls)[i]? = some (h, d) := heq
    rcases hh with hh | hh
    · rw [hh] at heq'; cases heq'
    · simp [hh, Cfg.trace]
  · simp [Cfg.trace]

/-- Conversely a `.dispatched s n` event is only ever added that way — by `dispatch s n` with index
`n` past the end or force-quit set — or, with `n = 0`, by `processSignal s` when no handler is
registered for the class of `s` (and `s` is not an `ExceptionSignal`). -/
theorem C02_dispatched_origin (P : Prog) (c c' : Cfg) (ht : Trans P c c') (s : Sig) (n : Nat)
    (hm : Tr.dispatched s n ∈ newTr c c') :
    (c.code.head? = some (.dispatch s n) ∧ ((handlersOf c.L s.cls)[n]? = none ∨ c.L.forceQuit = true)) ∨
    (c.code.head? = some (.processSignal s) ∧ n = 0 ∧ handlersOf c.L s.cls = [] ∧ s.cls ≠ .exception) :=
  (trans_origin ht).toNewTr.2 _ hm

/-- **In registration order, each at most once, while the dispatch is running.**  In a reachable
configuration in which signal `s` has been taken for dispatch at most once: a signal that has not been
taken has had no handler called; and if `dispatch s j` is pending in the code, then the handlers called
for `s` so far — together with the call that is the next instruction, if there is one — are exactly
the first `j` entries of the live handler list of its class (callbacks and data), in order. -/
theorem C02_dispatch_in_order (P : Prog) (c0 c : Cfg) (h0 : Started c0) (hr : Reach P c0 c) (s : Sig)
    (h1 : takeCount s c.tr ≤ 1) :
    (takeCount s c.tr = 0 → callsOf s c.tr = []) ∧
    ∀ j, Instr.dispatch s j ∈ c.code →
      j ≤ (handlersOf c.L s.cls).length ∧ callsOf s c.tr ++ pend s c.code = (handlersOf c.L s.cls).take j :=
  ⟨fun h => (List.append_eq_nil_iff.mp ((dispInv_reach h0 hr s).none h)).1, fun j hj => (dispInv_reach h0 hr s).pos h1 j (List.mem_append_left _ (mem_posI hj))⟩

/-- **Exactly once each, in registration order, when the dispatch completes.**  If a transition out of
a reachable configuration completes the dispatch of `s` (adds `.dispatched s n`) and `s` has been taken for
dispatch once, then the handlers that have been called for `s` in the whole history are exactly the
first `n` entries of the live handler list of the class of `s`, in registration order, with the data
given at registration — and unless force-quit was set, `n` is the length of that list: every handler of
the class, each exactly once. -/
theorem C02_dispatch_complete (P : Prog) (c0 c c' : Cfg) (h0 : Started c0) (hr : Reach P c0 c) (ht : Trans P c c')
    (s : Sig) (n : Nat) (hm : Tr.dispatched s n ∈ newTr c c') (h1 : takeCount s c'.tr ≤ 1) :
    callsOf s c'.tr = (handlersOf c'.L s.cls).take n ∧
    (c.L.forceQuit = false → callsOf s c'.tr = handlersOf c.L s.cls) := by
  have hI := dispInv_reach h0 (reach_trans hr ht) s
  have hIc := dispInv_reach h0 hr s
  obtain ⟨hnew, horig⟩ := (trans_origin ht).toNewTr
  have hin : Tr.dispatched s n ∈ c'.tr := by rw [hnew]; exact List.mem_append_left _ hm
  have h1c : takeCount s c.tr ≤ 1 := Nat.le_trans (hnew ▸ takeCount_append_le s _ _) h1
  obtain ⟨hle, heq⟩ := hI.done (codeInv_reach h0 (reach_trans hr ht)) h1 n hin
  refine ⟨heq, fun hf => ?_⟩
  have hpre := handlersOf_ext (trans_static ht).1 s.cls
  rcases horig _ hm with ⟨hhead, hnone | hfq⟩ | ⟨-, rfl, hnil, -⟩
  · have hge : (handlersOf c.L s.cls).length ≤ n := by simpa using hnone
    have hlec := (hIc.pos h1c n (List.mem_append_left _ (mem_posI (List.mem_of_mem_head? hhead)))).1
    rw [heq, take_of_prefix hpre hlec, List.take_of_length_le hge]
  · rw [hf] at hfq; cases hfq
  · rw [heq, take_of_prefix hpre (Nat.zero_le _), hnil]; rfl

/-- … and afterwards no handler is ever called for `s` again: in every reachable configuration whose
history contains the completion `.dispatched s n` (and one take of `s`), the handlers called for `s` are
still exactly those first `n`. -/
theorem C02_dispatch_final (P : Prog) (c0 c : Cfg) (h0 : Started c0) (hr : Reach P c0 c) (s : Sig) (n : Nat)
    (hm : Tr.dispatched s n ∈ c.tr) (h1 : takeCount s c.tr ≤ 1) :
    n ≤ (handlersOf c.L s.cls).length ∧ callsOf s c.tr = (handlersOf c.L s.cls).take n :=
  (dispInv_reach h0 hr s).done (codeInv_reach h0 hr) h1 n hm

/-- The bookkeeping behind it, without any hypothesis: the pending `processSignal s` and `dispatch s _`
instructions plus the completions `.dispatched s _` never outnumber the takes of `s` — every dispatch of
`s` was started by taking `s` from a queue, and at most one dispatch runs per take. -/
theorem C02_one_dispatch_per_take (P : Prog) (c0 c : Cfg) (h0 : Started c0) (hr : Reach P c0 c) (s : Sig) :
    c.code.countP (isPSs s) + c.code.countP (isDisp s) + c.tr.countP (isDoneT s) ≤ takeCount s c.tr :=
  length_positions s c ▸ (dispInv_reach h0 hr s).count

/-! The hypothesis `takeCount s _ ≤ 1` identifies *one* dispatch: the model identifies a signal with
its value (`id` included), and an application may enqueue the very same signal object twice — then it
is dispatched twice and every handler is called twice.  Non-vacuity of the theorems and necessity of
the hypothesis, on a concrete program: class `user 0` has three registrations (callback 1 with data 1,
callback 2, callback 1 with data 2), class `user 1` has one; callback 2 raises on its first invocation;
nobody handles `ExceptionSignal`. -/

def C02_exProg : Prog :=
  { cc := asciiClass, runEmpty := true,
    handlerScript := fun hid n => if hid = 2 ∧ n = 0 then [.raiseErr] else [] }

def C02_exSig : Sig := { id := 7, cls := .user 0, prio := 0, src := .none }

def C02_exHandlers : List (Cls × HRef × Option Nat) :=
  [(.user 0, .user 1, some 1), (.user 1, .user 9, none), (.user 0, .user 2, none), (.user 0, .user 1, some 2)]

/-- one signal: its three handlers are called in registration order although the second one raises; the
run then dies of the unhandled `ExceptionSignal` with exit status 1 -/
example :
    let r := runFuel C02_exProg 100 (initCfg [.enq (.user 0) 0 .none 7] C02_exHandlers none [])
    r.2 = .killed 1 ∧ takeCount C02_exSig r.1.tr = 1 ∧ Tr.dispatched C02_exSig 3 ∈ r.1.tr ∧
      callsOf C02_exSig r.1.tr = [(.user 1, some 1), (.user 2, none), (.user 1, some 2)] := by
  decide +kernel

/-- the same signal enqueued twice (no handler raising): taken twice, every handler called twice, and the
conclusion of `C02_dispatch_final` fails -/
theorem C02_dispatch_final_needs_single_take :
    let r := runFuel { C02_exProg with handlerScript := fun _ _ => [] } 100 (initCfg [.enq (.user 0) 0 .none 7, .enq (.user 0) 0 .none 7] C02_exHandlers none [])
    takeCount C02_exSig r.1.tr = 2 ∧ Tr.dispatched C02_exSig 3 ∈ r.1.tr ∧
      callsOf C02_exSig r.1.tr ≠ (handlersOf r.1.L C02_exSig.cls).take 3 := by
  decide +kernel

/-! ### 4. a failing handler is contained -/

/-- **An ordinary exception goes to the nearest `except Exception` scope and becomes one
`ExceptionSignal`.**  If the pending code is `body ++ ins :: rest` where `ins` is a catcher of ordinary
exceptions with signal source `src` (`catchHandler` → the loop, `catchPS`/`catchDraw` → the scheduler,
`catchPI scr` → the input manager of `scr`) and `body` contains no catcher, then raising an ordinary
exception succeeds, execution continues at `afterCatch ins rest` — that is `rest` (for `catchHandler`: the
`dispatch s (i+1)` of the remaining handlers and everything below), except that `catchPI` also skips the
tail of `process_input` up to `endPI` — and the state is the old one with exactly one signal of class
`exception`, priority −20, source `src` enqueued (`Cfg.enqueue`: one `.enq`/`.dropped` trace event; queues
otherwise untouched; stack, tickets, levels, log … unchanged). -/
theorem C02_failure_contained (c : Cfg) (body rest : List Instr) (ins : Instr) (src : Src)
    (hcode : c.code = body ++ ins :: rest) (hbody : ∀ i ∈ body, errCatch i = none) (hins : errCatch ins = some src) :
    c.raise .err =
      .ok { (({ c with nextSid := c.nextSid + 1 } : Cfg).enqueue
              { id := c.nextSid + 1, cls := .exception, prio := -20, src := src }) with code := afterCatch ins rest } := by
  have h1 : c.raise .err = unwind .err (body ++ ins :: rest) c := by rw [raise_eq, hcode]; rfl
  rw [h1, unwind_err_catch hbody hins, excEnq_eq]
  rfl

/-- the case of a signal handler: the remaining handlers of the signal are next -/
theorem C02_failure_contained_handler (c : Cfg) (body K : List Instr) (s : Sig) (i : Nat)
    (hcode : c.code = body ++ .catchHandler :: .dispatch s (i + 1) :: K) (hbody : ∀ i ∈ body, errCatch i = none) :
    ∃ c', c.raise .err = .ok c' ∧ c'.code = .dispatch s (i + 1) :: K ∧
      c'.tr = (if c.L.forceQuit then Tr.dropped { id := c.nextSid + 1, cls := .exception, prio := -20, src := .loop }
               else .enq (c.L.route .loop) { id := c.nextSid + 1, cls := .exception, prio := -20, src := .loop }) :: c.tr ∧
      c'.L.handlers = c.L.handlers ∧ c'.L.levels = c.L.levels ∧ c'.L.active = c.L.active ∧
      c'.L.runLoop = c.L.runLoop ∧ c'.L.forceQuit = c.L.forceQuit ∧ c'.L.tickets = c.L.tickets ∧
      c'.A = c.A ∧ c'.log = c.log := by
  refine ⟨_, C02_failure_contained c body _ .catchHandler .loop hcode hbody rfl, rfl, ?_, ?_⟩
  · simp only [enqueue_eq, enqT]
  · simp [enqueue_eq]

/-- … and without any catcher below, the exception ends the run -/
theorem C02_failure_uncaught (c : Cfg) (h : ∀ i ∈ c.code, errCatch i = none) :
    c.raise .err = .error (.raised "err", { c with code := [] }) := by
  rw [raise_eq, unwind_err_none h]; rfl

/-- **A failing handler skips nothing but its own rest.**  In a reachable configuration let a body instruction
`ins` (handler, scheduler or input code: not one of the loop's own instructions) be executing with `rest`
pending below it, and let `x` be the first catcher of ordinary exceptions in `rest`.  Then what an exception raised
by `ins` drops — `D`, with `rest = D ++ afterCatch x post` — contains no loop instruction except the catching
`catchHandler` itself: no `dispatch` (the remaining handlers of this or of any enclosing signal), no `loopCheck` /
`mainCheck` (the later signals), no `processSignal`. -/
theorem C02_failure_drops_only_body (P : Prog) (c0 c : Cfg) (h0 : Started c0) (hr : Reach P c0 c)
    (ins x : Instr) (pre post : List Instr) (src : Src) (hc : c.code = ins :: (pre ++ x :: post))
    (hins : ins.isLC = false) (hpre : ∀ i ∈ pre, errCatch i = none) (hx : errCatch x = some src) :
    ∃ D, pre ++ x :: post = D ++ afterCatch x post ∧ ∀ i ∈ D, i.isLC = false ∨ i = .catchHandler :=
  err_drop_noLC (hc ▸ Shape.reach_chained h0 hr) hins rfl hpre hx

/-- … on the level of transitions: a successful step out of a reachable configuration that does not record an
exit request keeps every loop instruction pending below the executed one (`isKeep`: `dispatch`, `loopCheck`,
`mainCheck`, …; everything of the loop core but `catchHandler`), in order — whatever the step was: a handler
failing, scheduler or input code failing, at any depth.  So neither the remaining handlers of the signal nor any
later signal are lost to an ordinary exception. -/
theorem C02_failure_never_skips (P : Prog) (c0 c c' : Cfg) (h0 : Started c0) (hr : Reach P c0 c)
    (hs : step P c = .ok c') (hx : Tr.exit ∉ newTr c c') :
    c.code.tail.filter isKeep <:+ c'.code.filter isKeep := by
  have hch : Chained c.code := Shape.reach_chained h0 hr
  -- how the step ends: only instructions outside `isKeep` are dropped
  have fin : ∀ {ins : Instr} {rest pushed : List Instr} {m : Cfg} {e : End} {d : List Tr}, c.code = ins :: rest →
      ins.isLC = false → m.code = pushed ++ rest → (∀ i ∈ pushed, softI i = true) → closedB pushed = true →
      m.tr = d ++ c.tr → step P c = e.run m → c'.code.filter isKeep = m.code.filter isKeep := by
    intro ins rest pushed m e d hc hins hmcode hp hpc htr hrun
    rcases fin_cases (hc ▸ hch) hins hmcode hp hpc (.of_ok (hrun ▸ hs)) with ⟨D, T, hD, heq, -, -⟩ | hex | ⟨k, o, rfl, hk⟩
    · rw [heq, List.filter_append, keep_of_drop hD, List.nil_append]
    · rcases raise_ok hex with ⟨-, _, _, -, -, rfl⟩ | ⟨hk, -⟩
      · exact absurd (by rw [mem_newTr (d := .exit :: d) (by rw [htr]; rfl)]; simp) hx
      · cases hk
    · cases hk.symm.trans (hrun.symm.trans hs)
  cases trans_cases (.step hs) with
  | idle hcode h => rw [hcode]; exact (List.tail_suffix _).filter _
  | @soft ins rest m e hc ho hm hf hrun =>
    obtain ⟨pushed, hmcode, hp, hpc⟩ := soft_code_eq hc hch hm
    obtain ⟨d, hd, -⟩ := hm.tr
    rw [fin hc (otherI_nonLC ho) hmcode hp hpc hd hrun, hmcode, hc, List.filter_append,
      keep_of_drop fun i hi => .inl (softI_nonLC (hp i hi))]
    exact List.suffix_refl _
  | @core ins rest pushed new L' lg e m hc ho h hcode hL htr hlog hf hrun =>
    have hm : rest.filter isKeep <:+ m.code.filter isKeep := by
      rw [hcode, List.filter_append]; exact List.suffix_append _ _
    rw [hc, List.tail_cons]
    cases hf with
    | done => exact hm
    | halt => exact hm
    | caught hk =>
      obtain ⟨rfl, hlc | rfl⟩ := h.raises
      · rw [fin hc hlc hcode (by simp) rfl htr hrun]; exact hm
      · rw [raise_eq, unwind_sysexit] at hk; cases hk
    | died hk => cases hk.symm.trans (hrun.symm.trans hs)

/-! ### 5. the exception signal overtakes everything pending -/

/-- In a reachable configuration (force-quit unset) the `ExceptionSignal` a catcher enqueues is placed, in
the queue of the level it is routed to, behind the pending entries of priority ≤ −20 and **in front of
every pending entry of priority > −20** (every ordinary signal: the library's own priorities are ≥ −10);
no other queue changes.  (The order of the other entries is kept; uses the queue invariant of C01.) -/
theorem C02_exception_overtakes (P : Prog) (c0 c : Cfg) (h0 : Started c0) (hr : Reach P c0 c)
    (hf : c.L.forceQuit = false) (src : Src) :
    (((({ c with nextSid := c.nextSid + 1 } : Cfg).enqueue (excSig c.nextSid src)).queue (c.L.route src)).entries =
      (c.queue (c.L.route src)).entries.filter (fun x => x.1 ≤ -20) ++
        [((-20 : Int), (c.queue (c.L.route src)).seq, excSig c.nextSid src)] ++
        (c.queue (c.L.route src)).entries.filter (fun x => -20 < x.1)) ∧
    ∀ q', q' ≠ c.L.route src →
      (({ c with nextSid := c.nextSid + 1 } : Cfg).enqueue (excSig c.nextSid src)).queue q' = c.queue q' := by
  have hwf := WF.reach h0 hr
  have hlt : c.L.route src < c.L.queues.length := hwf.route_lt src
  have hsorted : (c.queue (c.L.route src)).Sorted := hwf.sorted _
  have e : ∀ q', (({ c with nextSid := c.nextSid + 1 } : Cfg).enqueue (excSig c.nextSid src)).queue q' =
      if c.L.route src = q' ∧ q' < c.L.queues.length then (c.queue q').put (excSig c.nextSid src) else c.queue q' := by
    intro q'
    simp only [enqueue_eq, Cfg.queue, enqQ, hf, Bool.false_eq_true, if_false]
    exact listSet_getD _ _ _ _ _
  constructor
  · rw [e, if_pos ⟨rfl, hlt⟩]
    exact put_place _ hsorted
  · intro q' hq'
    rw [e, if_neg (fun h => hq' h.1.symm)]

/-! ### 6. an exception signal nobody handles ends the process -/

/-- `processSignal s` for an `ExceptionSignal` when the application registered no handler for that
class: the next step is the kill, which halts the machine with outcome `killed 1` (exit status 1); the
output gains exactly the traceback's final newline and the screen-stack dump followed by a newline; the
history gains exactly `.kill` — no handler is called; the log is unchanged; and nothing runs afterwards
(the final configuration has no code left). -/
theorem C02_kill (P : Prog) (c : Cfg) (s : Sig) (rest : List Instr) (hc : c.code = .processSignal s :: rest)
    (hs : s.cls = .exception) (hn : handlersOf c.L .exception = []) :
    ∃ c1 c2, step P c = .ok c1 ∧ step P c1 = .error (.killed 1, c2) ∧ c2.code = [] ∧
      c2.A.out = c.A.out ++ [['\n'], dumpStack P c.A.stack ++ ['\n']] ∧
      c2.tr = .kill :: c.tr ∧ c2.log = c.log ∧ step P c2 = .error (.returned, c2) := by
  refine ⟨{ c with code := .kill s :: rest, L := { c.L with tickets := mark c.L.tickets s.cls } },
    { c with code := [], L := { c.L with tickets := mark c.L.tickets s.cls },
             A := { c.A with out := c.A.out ++ [['\n'], dumpStack P c.A.stack ++ ['\n']] }, tr := .kill :: c.tr }, ?_, ?_, rfl, rfl, rfl, rfl, ?_⟩
  · rw [processSignal_step P c s rest hc]
    simp [hs, hn]
  · simp [step, raise_eq, unwind_sysexit, preRaise, Cfg.write, Cfg.trace]
  · simp [step]


end Simpleline
