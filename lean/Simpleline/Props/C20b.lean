/-
  C20b — the GLib machine (`Model/GMachine.lean`: `GLibEventLoop` over a GLib main context + scheduler + input pipeline).

  Property theorems only; vocabulary in `Spec/GMSpec.lean` (`G.Started`, `G.Reach`, `G.Trans`, `G.Steps`, `G.newTr`,
  `G.AfterStart`), helper lemmas in `Lemmas/GM*.lean` (`step_facts`: for every instruction of the
  machine, where handler calls / batch collections / dispatch starts in the history and the handler-call and batch
  instructions in the pending code come from).

  Every theorem is for every program `P`, every started configuration, every reachable configuration (every timing of the
  reader thread), with no bound on steps, nesting depth or the number of attached sources.
-/
import Simpleline.Lemmas.GMInv

namespace Simpleline.G

/-! ### 1. force-quit (C09's clause, on GLib) -/

/-- Once force-quit is set after `run()` was entered it stays set. -/
theorem C20b_force_quit_stays (P : Prog) (c c' : Cfg) (hA : AfterStart c) (hf : c.L.forceQuit = true)
    (hs : Steps P c c') : AfterStart c' ∧ c'.L.forceQuit = true :=
  afterStart_fq_steps hA hf hs

/-- **No handler after force-quit** (C09's clause, in the same form as `C09_force_quit_no_call_step` for `MainLoop`): out of a
reachable configuration with force-quit set no transition adds a handler call to the history — whatever is attached,
whatever batch is running, at any nesting depth, including the remaining handlers of the signal being dispatched and of
every signal being dispatched at an outer nesting level (`_run_handlers` tests `_force_quit` before each handler call). -/
theorem C20b_force_quit_silences_step (P : Prog) (c0 c c' : Cfg) (h0 : Started c0) (hr : Reach P c0 c)
    (hf : c.L.forceQuit = true) (ht : Trans P c c') (h : HRef) (d : Option Nat) (s : Sig) :
    Tr.m (.call h d s) ∉ newTr c c' := by
  intro hm
  have hl : c.code.head? = some (.callH h d s) := trans_loud ht _ hm rfl
  have := (callInv_reach h0 hr h d s (head_mem hl)).2.2
  rw [hf] at this; cases this

/-- **After `force_quit` no handler is ever called again.**  Take a reachable configuration, reached after `run()` was
entered, in which force-quit is set.  Then no transition of the rest of the execution adds a handler call to the history
(same statement as `C09_force_quit_no_call`). -/
theorem C20b_force_quit_silences (P : Prog) (c0 c c1 c2 : Cfg) (h0 : Started c0) (hr : Reach P c0 c)
    (hA : AfterStart c) (hf : c.L.forceQuit = true) (hs : Steps P c c1) (ht : Trans P c1 c2)
    (h : HRef) (d : Option Nat) (s : Sig) : Tr.m (.call h d s) ∉ newTr c1 c2 :=
  C20b_force_quit_silences_step P c0 c1 c2 h0 (reach_steps hr hs) (afterStart_fq_steps hA hf hs).2 ht h d s

/-- The handler loop of `_run_handlers` leaves (`break`) at its next handler once force-quit is set; the rest of
`_run_handlers` — destroying the source, marking the signal processed — is still pending behind it. -/
theorem C20b_force_quit_breaks_handler_loop (P : Prog) (c : Cfg) (s : Sig) (hs : HList) (i : Nat) (rest : List Instr)
    (hc : c.code = .gCall s hs i :: rest) (hf : c.L.forceQuit = true) :
    step P c = .ok { c with code := rest, tr := .m (.dispatched s i) :: c.tr } :=
  step_gCall_end P hc (.inl hf)

/-- In particular a dispatch that starts under force-quit runs no handler: `_run_handlers` goes straight to destroying
the source and marking the signal processed. -/
theorem C20b_force_quit_skips_handlers (P : Prog) (c : Cfg) (q : Nat) (g : GSource) (rest : List Instr)
    (hc : c.code = .runH q g :: rest) (hf : c.L.forceQuit = true) :
    step P c = .ok { c with code := .endRun q g :: rest } := by
  simp [step, hc, hf, push]

/-- Under force-quit `enqueue_signal` attaches nothing: the signal is dropped (only a `dropped` event is added to the
model's history). -/
theorem C20b_force_quit_discards (c : Cfg) (s : Sig) (hf : c.L.forceQuit = true) :
    c.enq? s = some { c with tr := .m (.dropped s) :: c.tr } :=
  enq?_fq c s hf

/-- … and waiting calls give up, nested loops are not started: `process_signals(c)` returns, `execute_new_loop` is a no-op. -/
theorem C20b_force_quit_loops_give_up (P : Prog) (c : Cfg) (rest : List Instr) (hf : c.L.forceQuit = true) :
    (∀ s, c.code = .newLoop s :: rest → step P c = .ok { c with code := rest }) ∧
    (∀ cls t q, c.code = .gWait cls t q :: rest → c.L.tickets.any (fun k => k.line = cls ∧ k.id = t ∧ k.marked) = false →
      step P c = .ok { c with code := rest, tr := .m (.waitEnd cls t false) :: c.tr }) := by
  refine ⟨fun s hc => by simp [step, hc, hf], fun cls t q hc hm => ?_⟩
  simp only [step, hc, hm, hf]
  rfl

def exFQ : Prog :=
  { cc := asciiClass, runEmpty := true,
    handlerScript := fun hid n => if hid = 0 ∧ n = 0 then [.forceQuit, .enq (.user 0) 0 .none 8] else [] }

def exFQsig : Sig := { id := 7, cls := .user 0, prio := 0, src := .none }

/-- **The remaining handlers of the signal being dispatched do not run after `force_quit`** (kernel-checked run of the
machine; the same program behaves the same way on the repaired `GLibEventLoop` — the family `fqh` of the validation): two
handlers for one class, the first calls `force_quit()` (and enqueues another signal, which is dropped); the second handler
is *not* invoked: after the force-quit the history contains no call at all; the source is still destroyed and the run
returns.  (Before the repair of `_run_handlers` — the force-quit test was made once, in front of the loop — handler 1 was
called: this example was the counterexample `C20b_force_quit_remaining_handlers_run`.)  Non-vacuity of
`C20b_force_quit_silences`. -/
theorem C20b_force_quit_remaining_handlers_skipped :
    let r := runFuel exFQ 100 (initCfg [.enq (.user 0) 0 .none 7] [(.user 0, .user 0, none), (.user 0, .user 1, none)] none [])
    r.2 = .returned ∧ r.1.L.forceQuit = true ∧
    -- events newer than the force-quit: no handler call among them; the dispatch of signal 7 ended after one handler
    ((r.1.tr.takeWhile fun t => t != .m .forceQuit).all fun t => match t with | .m (.call ..) => false | _ => true) = true ∧
    Tr.m (.dispatched exFQsig 1) ∈ r.1.tr ∧ Tr.destroy 0 0 ∈ r.1.tr ∧
    Tr.m (.call (.user 0) none exFQsig) ∈ r.1.tr ∧
    Tr.m (.dropped { id := 8, cls := .user 0, prio := 0, src := .none }) ∈ r.1.tr ∧
    r.1.log.reverse = [.h 0 7 none 1, .hret 0] := by
  decide +kernel

/-! ### 2. only registered handlers, with their registration data; which list is used (C02's clause) -/

/-- **Every handler invocation is of a handler registered for the signal's exact class, with its registration data**:
whenever a transition out of a reachable configuration adds `call h d s` to the history, `(class of s, h, d)` is a
registration of the loop (`_handlers[type(signal)]` contains the handler with data `d`). -/
theorem C20b_call_registered (P : Prog) (c0 c c' : Cfg) (h0 : Started c0) (hr : Reach P c0 c) (ht : Trans P c c')
    (h : HRef) (d : Option Nat) (s : Sig) (hm : Tr.m (.call h d s) ∈ newTr c c') :
    (s.cls, h, d) ∈ c.L.handlers :=
  regInv_reach h0 hr h d s (head_mem (trans_loud ht _ hm rfl))

/-- **Which list**: a handler-call instruction `callH h d s` enters the pending code only from the handler loop of a
source that carries the *live* list (`gCall s .live k` at the head), and `(h, d)` is the `k`-th entry, at that moment, of
the list registered for the exact class of `s` — so handlers appended to a class's list while one of its signals is
being dispatched are reached (the list is walked by index), in registration order. -/
theorem C20b_call_from_live_list (P : Prog) (c c' : Cfg) (ht : Trans P c c') (h : HRef) (d : Option Nat) (s : Sig)
    (hm : Instr.callH h d s ∈ c'.code) (hn : Instr.callH h d s ∉ c.code) :
    ∃ k, c.code.head? = some (.gCall s .live k) ∧ (handlersOf c.L s.cls)[k]? = some (h, d) :=
  have ⟨⟨k, hk, hl, _⟩, _⟩ := trans_pushed ht hm hn rfl
  ⟨k, hk, hl⟩

/-- **The snapshot at enqueue**: which list a source carries is decided when the signal is enqueued (`hlistFor`): the
class's live list if the class has a handler at that moment; else, for an `ExceptionSignal`, the one-element list
`[kill_app_with_traceback]`; else a fresh empty list. -/
theorem C20b_snapshot_at_enqueue (c c' : Cfg) (s : Sig) (hf : c.L.forceQuit = false) (h : c.enq? s = some c') :
    ∃ q, c.L.route s.src = some q ∧
      c'.tr = .attach q (GSource.mk c.L.nextSrc s (c.L.hlistFor s) false) :: .m (.enq q s) :: c.tr ∧
      c.L.hlistFor s = (if handlersOf c.L s.cls ≠ [] then .live else if s.cls = .exception then .kill else .empty) := by
  cases hq : c.L.route s.src with
  | none => simp [Cfg.enq?, hf, hq] at h
  | some q =>
    rw [enq?_route hf hq] at h
    cases h
    exact ⟨q, rfl, rfl, rfl⟩

/-- … and a source with the empty snapshot never calls anything, whatever was registered in the meantime; the one with
the `kill` snapshot calls `kill_app_with_traceback` once (unless force-quit is set). -/
theorem C20b_snapshot_fixed (P : Prog) (c : Cfg) (s : Sig) (i : Nat) (rest : List Instr) :
    (c.code = .gCall s .empty i :: rest → step P c = .ok { c with code := rest, tr := .m (.dispatched s i) :: c.tr }) ∧
    (c.code = .gCall s .kill 0 :: rest → c.L.forceQuit = false →
      step P c = .ok { c with code := .kill s :: .gCall s .kill 1 :: rest }) := by
  refine ⟨fun hc => step_gCall_end P hc (.inr (.inl rfl)), fun hc hf => by simp [step, hc, hf, push]⟩

/-- non-vacuity: a signal of a class nobody handles is attached with the empty snapshot and dispatched without any call;
an `ExceptionSignal` nobody handles kills the application (exit status 1) -/
example :
    let r := runFuel exFQ 100 (initCfg [.enq (.user 5) 0 .none 7, .enq .exception (-20) .none 9] [] none [])
    r.2 = .killed 1 ∧
    Tr.attach 0 { id := 0, sig := { id := 7, cls := .user 5, prio := 0, src := .none }, hs := .empty } ∈ r.1.tr ∧
    Tr.attach 0 { id := 1, sig := { id := 9, cls := .exception, prio := -20, src := .none }, hs := .kill } ∈ r.1.tr ∧
    (r.1.tr.all fun t => match t with | .m (.call ..) => false | _ => true) = true := by
  decide +kernel

/-! ### 3. one iteration dispatches one priority: the most urgent one attached, in attach order (C01's clause in GLib's form) -/

/-- **Every dispatch belongs to a batch of one priority, the most urgent one attached.**  Whenever a transition out of a
reachable configuration starts dispatching a source `g` in iteration `e` of context `q` (`disp q e g`), the history
contains the collection `iter q e p att batch` of that iteration, where `att` are the sources attached to the context at
collection time (attach order), and:
* `g` is a member of `batch` and its priority is `p` — all sources dispatched by one iteration have the same priority;
* `batch` is exactly the sub-sequence (attach order kept) of the attached sources not in dispatch whose priority is `p`;
* `p` is the most urgent (numerically least) priority among the attached sources not in dispatch, and it is attained. -/
theorem C20b_batch_one_priority (P : Prog) (c0 c c' : Cfg) (h0 : Started c0) (hr : Reach P c0 c) (ht : Trans P c c')
    (q e : Nat) (g : GSource) (hm : Tr.disp q e g ∈ newTr c c') :
    ∃ p att batch, Tr.iter q e p att batch ∈ c.tr ∧ g ∈ batch ∧ g.sig.prio = p ∧
      batch = (att.filter fun x => !x.inCall).filter (fun x => x.sig.prio = p) ∧ batch.Sublist att ∧
      (∀ x ∈ att, x.inCall = false → p ≤ x.sig.prio) ∧ (∃ x ∈ att, x.inCall = false ∧ x.sig.prio = p) := by
  have hl : c.code.head? = some (.gDisp q e g) := trans_loud ht _ hm rfl
  have inv := batchInv_reach h0 hr
  obtain ⟨p, att, batch, hi, hg⟩ := inv.1 q e g (head_mem hl)
  obtain ⟨hmin, hb⟩ := inv.2 q e p att batch hi
  refine ⟨p, att, batch, hi, hg, ?_, hb, ?_, ?_, ?_⟩
  · rw [hb] at hg
    simpa using (List.mem_filter.1 hg).2
  · rw [hb]; exact (List.filter_sublist).trans List.filter_sublist
  · intro x hx hxc
    exact minPrio_le _ p hmin x (List.mem_filter.2 ⟨hx, by simp [hxc]⟩)
  · obtain ⟨x, hx, hp⟩ := minPrio_attained _ p hmin
    obtain ⟨hx1, hx2⟩ := List.mem_filter.1 hx
    exact ⟨x, hx1, by simpa using hx2, hp⟩

/-
  NOT PROVED (kept as a comment, per the house rules): the *order of the dispatch events* of one iteration.
  `C20b_batch_one_priority` gives `batch.Sublist att` (the batch is in attach order) and the machine pushes the turns of the
  batch loop in batch order (`step`, case `gIter`: `batch.map fun g => .gDisp q e g` in front of the code, executed front to
  back), but the history-level statement

      theorem C20b_batch_in_attach_order … (h1 : Tr.disp q e g1 ∈ c.tr is older than Tr.disp q e g2 ∈ c.tr) :
          g1 occurs before g2 in `batch`

  needs two more invariants, which were not done in the time available: (a) for every collection `iter q e p att batch` in
  the history, the sources of the `disp q e _` events so far (oldest first) followed by the pending `gDisp q e _`
  instructions in code order form a sub-sequence of `batch` (a sub-sequence, not all of it: skipped turns and turns dropped
  by an exception that unwinds through the batch loop are missing); (b) iteration identities are fresh — every `iter q e …`,
  `disp q e _` and pending `gDisp q e _` has `e ≤ epoch(q)`, and no helper ever lowers an epoch — so that a later collection
  cannot reuse `(q, e)`; (b) needs an epoch clause in the frame relation `Keep` of `Lemmas/GMFrame.lean` and a lemma about
  `List.modify`/`getD` for `setCtx`.  The concrete order is exhibited on the example below.

  NOT DONE: `C20b_same_scheduler` (priority 4) and the simulation theorem (priority 5).  The scheduler / input / callback
  instructions of `Model/GMachine.lean` are textual copies of `Model/Machine.lean`'s with three systematic differences, which
  are what a formal statement has to quantify over: (i) `enqueue_signal` / `register_signal_source` are partial on GLib
  (`IndexError` when no loop is left: `Cfg.enqueue`, `Cfg.redraw`, `Cfg.regSource` return in `Except` and the instruction
  is written with `do`), (ii) a raise unwinds to different catchers (`catchRun` instead of `catchHandler` / `catchExit`),
  (iii) `waitInput`'s livelock test reads the force-quit flag and the loop list instead of `_run_loop`.  The intended statement:
  for every instruction `i` outside the loop group, configurations `g : G.Cfg`, `m : Simpleline.Cfg` with the same head
  instruction (under the obvious embedding), equal `A`, `log`, `nextSid`, return registers, `handlers`, and equal user-call
  counts, if both steps return `.ok` without unwinding then the results again agree on those components and push
  corresponding instructions.
-/

def exBatch : Prog :=
  { cc := asciiClass, runEmpty := true,
    handlerScript := fun hid n => if hid = 0 ∧ n = 0 then [.enq (.user 0) (-5) .none 20] else [] }

/-- non-vacuity: three signals attached (priorities 0, 1, 0); the first iteration collects the two of priority 0 in
attach order; the first handler enqueues a more urgent signal (priority −5), which nevertheless waits for the next
iteration: the dispatch order is 10, 12, 20, 11 (`MainLoop` dispatches 10, 20, 12, 11 — finding G1) -/
example :
    let r := runFuel exBatch 200 (initCfg [.enq (.user 0) 0 .none 10, .enq (.user 0) 1 .none 11, .enq (.user 0) 0 .none 12]
      [(.user 0, .user 0, none)] none [])
    r.2 = .blocked ∧
    (r.1.tr.reverse.filterMap fun t => match t with | .disp _ e g => some (e, g.sig.id) | _ => none) = [(1, 10), (1, 12), (2, 20), (3, 11)] ∧
    (r.1.tr.reverse.filterMap fun t => match t with | .iter _ e p att batch => some (e, p, att.map (·.sig.id), batch.map (·.sig.id)) | _ => none) =
      [(1, 0, [10, 11, 12], [10, 12]), (2, -5, [11, 20], [20]), (3, 1, [11], [11])] := by
  decide +kernel

end Simpleline.G
