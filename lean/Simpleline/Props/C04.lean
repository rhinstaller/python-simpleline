/-
  C04 — The screen shown is always the top of an honest stack.

  The scheduler's stack is `c.A.stack` (bottom … top). The ideal stack and its operations are in
  `Spec/SchedSpec.lean` (`Spec.Stack`, `Spec.Op`); `c.stackOp` says which operation, if any, the next
  instruction of `c` is (`close_screen(closed_from)` is the operation `.close frm`, `frm` the source of
  the request). The trace records `.stackOp name newStack` for every operation, `.refresh e`
  when the scheduler is about to call `refresh` of entry `e`, `.show e` when it is about to draw it.
  `StepTo P c c'` is one machine step (continuing or ending the run), `Trans` adds the deliveries of
  the reader thread.
-/
import Simpleline.Lemmas.SchedExamples

namespace Simpleline

/-- Refinement, one step at a time (for *every* configuration, reachable or not). If the next
instruction is no stack operation, the step leaves the stack and the identity counter alone and traces
no stack operation (`C04_only_ops`: nothing else ever changes the stack). If it is the operation `op`
— `schedule_screen`, `push_screen`, `push_screen_modal`, `replace_screen`, `close_screen`, or the
discarding of a screen whose `setup` failed — the new stack is exactly what the ideal stack gives
(push on top; schedule at the bottom; replace substitutes the top and keeps its modality; close and
discard remove the top), a new entry gets the next unused identity, and exactly one
`.stackOp op.name newStack` event is traced. An operation the ideal stack refuses (close / replace /
discard on the empty stack; a close requested on behalf of a screen other than the one on top,
`Spec.Stack.close`) changes nothing: in particular `close_screen` checks `closed_from` before it pops
(see also `C04_refused_close_keeps_stack`). -/
theorem C04_ops (P : Prog) (c c' : Cfg) (h : StepTo P c c') :
    match c.stackOp with
    | none => c'.A.stack = c.A.stack ∧ c'.A.nextEid = c.A.nextEid ∧ (newTr c c').filter Tr.isStackOp = []
    | some op =>
      match op.apply c.A.nextEid c.A.stack with
      | some s' =>
        c'.A.stack = s' ∧ c'.A.nextEid = (if op.creates then c.A.nextEid + 1 else c.A.nextEid) ∧
          (newTr c c').filter Tr.isStackOp = [.stackOp op.name s']
      | none => c'.A.stack = c.A.stack ∧ c'.A.nextEid = c.A.nextEid ∧ (newTr c c').filter Tr.isStackOp = [] := by
  have h1 := h.eff.stack
  have h2 : (newTr c c').filter Tr.isStackOp = c.opEvs := by
    rw [← filter_stackOp_schedTr, h.eff.schedTr_new, schedEvs_stackOps]
  revert h1 h2
  unfold Cfg.stackAfter Cfg.opEvs
  cases c.stackOp with
  | none => exact fun h1 h2 => ⟨congrArg Prod.fst h1, congrArg Prod.snd h1, h2⟩
  | some op =>
    dsimp only
    cases op.apply c.A.nextEid c.A.stack <;> exact fun h1 h2 => ⟨congrArg Prod.fst h1, congrArg Prod.snd h1, h2⟩

/-- no instruction other than the six stack operations changes the stack -/
theorem C04_only_ops (P : Prog) (c c' : Cfg) (h : StepTo P c c') (hop : c.stackOp = none) :
    c'.A.stack = c.A.stack ∧ (newTr c c').filter Tr.isStackOp = [] := by
  have := C04_ops P c c' h
  simp only [hop] at this
  exact ⟨this.1, this.2.2⟩

/-- the reader thread handing in a line does not touch the stack -/
theorem C04_deliver (c c' : Cfg) (h : c.deliver = some c') :
    c'.A.stack = c.A.stack ∧ (newTr c c').filter Tr.isStackOp = [] := by
  have hf : SFrame c' c := deliver_eq_dlv h ▸ .dlv c
  exact ⟨hf.stack, by rw [← filter_stackOp_schedTr, hf.schedTr_new]; rfl⟩

/-- History form: in every reachable configuration the stack is the one recorded by the most recent
stack operation of the trace (empty before the first): the sequence of `.stackOp` events is the
complete history of the stack. -/
theorem C04_trace_stack (P : Prog) (c0 c : Cfg) (h0 : Started c0) (hr : Reach P c0 c) :
    c.A.stack = lastStack c.tr :=
  stack_eq_lastStack h0 hr

/-- Every transition either leaves the stack alone, or puts a new entry (with the fresh identity
`c.A.nextEid`) at the bottom with everything above it unchanged (schedule), or puts one on top of the
unchanged stack (push, push modal), or exchanges the top for a new entry of the same modality with
everything beneath unchanged (replace), or removes the top and nothing else (close, discard). -/
theorem C04_beneath_stable (P : Prog) (c c' : Cfg) (h : Trans P c c') :
    (c'.A.stack = c.A.stack ∧ c'.A.nextEid = c.A.nextEid) ∨
    (∃ e, e.eid = c.A.nextEid ∧ e.modal = false ∧ c'.A.stack = e :: c.A.stack ∧ c'.A.nextEid = c.A.nextEid + 1) ∨
    (∃ e, e.eid = c.A.nextEid ∧ c'.A.stack = c.A.stack ++ [e] ∧ c'.A.nextEid = c.A.nextEid + 1) ∨
    (∃ e old, c.A.stack.getLast? = some old ∧ e.eid = c.A.nextEid ∧ e.modal = old.modal ∧
      c'.A.stack = c.A.stack.dropLast ++ [e] ∧ c'.A.nextEid = c.A.nextEid + 1) ∨
    (c.A.stack ≠ [] ∧ c'.A.stack = c.A.stack.dropLast ∧ c'.A.nextEid = c.A.nextEid) := by
  rcases h.eff with ⟨_, he⟩ | ⟨_, hf, _⟩
  · have h1 : c'.A.stack = c.stackAfter.1 := congrArg Prod.fst he.stack
    have h2 : c'.A.nextEid = c.stackAfter.2 := congrArg Prod.snd he.stack
    rcases stackAfter_cases c with h' | ⟨e, he, hm, h'⟩ | ⟨e, he, h'⟩ | ⟨e, old, ho, he, hm, h'⟩ | ⟨hne, h'⟩ <;>
      rw [h'] at h1 h2
    · exact .inl ⟨h1, h2⟩
    · exact .inr (.inl ⟨e, he, hm, h1, h2⟩)
    · exact .inr (.inr (.inl ⟨e, he, h1, h2⟩))
    · exact .inr (.inr (.inr (.inl ⟨e, old, ho, he, hm, h1, h2⟩)))
    · exact .inr (.inr (.inr (.inr ⟨hne, h1, h2⟩)))
  · exact .inl ⟨hf.stack, hf.nextEid⟩

/-- the same in the words of the property: the entries that stay keep their order — after a
transition the old stack, or the old stack without its top, is what lies beneath the new top, or
(schedule) above the new bottom -/
theorem C04_beneath_stable' (P : Prog) (c c' : Cfg) (h : Trans P c c') :
    c'.A.stack = c.A.stack ∨ c'.A.stack.tail = c.A.stack ∨ c'.A.stack.dropLast = c.A.stack ∨
    (c'.A.stack ≠ [] ∧ c'.A.stack.dropLast = c.A.stack.dropLast) ∨ c'.A.stack = c.A.stack.dropLast := by
  rcases C04_beneath_stable P c c' h with h | ⟨e, _, _, h, _⟩ | ⟨e, _, h, _⟩ | ⟨e, old, _, _, _, h, _⟩ | ⟨_, h, _⟩
  · exact .inl h.1
  · exact .inr (.inl (by simp [h]))
  · exact .inr (.inr (.inl (by simp [h])))
  · exact .inr (.inr (.inr (.inl (by simp [h]))))
  · exact .inr (.inr (.inr (.inr h)))

/-- Entry identities are unique: in every reachable configuration the identities on the stack are
pairwise distinct and all below the next identity to be handed out. -/
theorem C04_eids_unique (P : Prog) (c0 c : Cfg) (h0 : Started c0) (hr : Reach P c0 c) :
    (c.A.stack.map (·.eid)).Nodup ∧ ∀ e ∈ c.A.stack, e.eid < c.A.nextEid :=
  ⟨(hr.entInv h0).nodup, fun e he => (hr.entInv h0).lt e (by simp [Cfg.ents, he])⟩

/-- Whenever a transition of an execution adds a `.show e` event — the scheduler is about to draw
entry `e` — `e` is the top of the stack at that moment (the very entry, not just the same screen), and
the transition does not change the stack: a screen is never drawn while another is above it. (The
transition is the `drawScreen e` instruction, which only ever runs directly after the identity check
that compared `e` with the top.) -/
theorem C04_draws_top (P : Prog) (c0 c c' : Cfg) (h0 : Started c0) (hr : Reach P c0 c) (h : Trans P c c')
    (e : Entry) (he : .show e ∈ newTr c c') :
    c.A.stack.getLast? = some e ∧ c'.A.stack = c.A.stack := by
  obtain ⟨hs, hm⟩ := sched_new_of_trans h rfl he
  obtain ⟨rest, hc⟩ := drawScreen_of_show hm
  exact ⟨(hr.headInv h0).draw e (by simp [hc]), (C04_only_ops P c c' hs (by simp only [Cfg.stackOp, hc])).1⟩

/-- The same on the history alone — "the sequence of screens drawn is the one an ideal stack would
produce": in the trace of every reachable configuration (newest first), every drawn entry is the top
of the stack recorded by the newest stack operation before the draw (`C04_ops`: those records are the
ideal stack driven by the operations issued). -/
theorem C04_drawn_is_ideal_top (P : Prog) (c0 c : Cfg) (h0 : Started c0) (hr : Reach P c0 c) (e : Entry)
    (l1 l2 : List Tr) (h : c.tr = l1 ++ .show e :: l2) : (lastStack l2).getLast? = some e := by
  obtain ⟨c1, hr1, hm, htr⟩ := hr.sched_emitted h0 (t := .show e) rfl h
  obtain ⟨rest, hc⟩ := drawScreen_of_show hm
  rw [← lastStack_schedTr, ← htr, lastStack_schedTr, ← stack_eq_lastStack h0 hr1]
  exact (hr1.headInv h0).draw e (by simp [hc])

/-- A `.refresh e` event is added only by the instruction `afterSetup2 e` (`_process_screen` after the
ready check / after a successful `setup`). -/
theorem C04_refresh_step (P : Prog) (c c' : Cfg) (h : Trans P c c') (e : Entry) (he : .refresh e ∈ newTr c c') :
    ∃ rest, c.code = .afterSetup2 e :: rest :=
  (refresh_step h he).2

/-- When the screen on top is already set up, `_process_screen` refreshes the top: if the transition
after a `processScreen` transition adds `.refresh e`, then `e` was the top of the stack when
`processScreen` ran, its screen was ready, and it is still the top when the event is added. -/
theorem C04_refresh_top (P : Prog) (c0 c c1 c2 : Cfg) (h0 : Started c0) (hr : Reach P c0 c) (h1 : Trans P c c1)
    (h2 : Trans P c1 c2) (hps : c.code.head? = some .processScreen) (e : Entry) (he : .refresh e ∈ newTr c1 c2) :
    c.A.stack.getLast? = some e ∧ (c.A.scr e.screen).ready = true ∧ c1.A.stack.getLast? = some e := by
  obtain ⟨_, rest1, hc1⟩ := refresh_step h2 he
  rcases hcode : c.code with _ | ⟨ins, rest⟩
  · simp [hcode] at hps
  · simp [hcode] at hps
    subst hps
    rcases h1.cases with h1 | h1
    · cases head_imm_after (hr.imm h0) hcode (i := .afterSetup2 e) (by rw [← h1.eq, hc1]; rfl) rfl with
      | ready ht hrd =>
        exact ⟨ht, hrd, (C04_only_ops P c c1 h1 (by simp only [Cfg.stackOp, hcode])).1 ▸ ht⟩
    · have := deliver_eq_dlv h1 ▸ dlv_code c
      rw [hc1, hcode] at this
      cases this

/- The other half of `C04_refresh_top`, for a screen that still has to be set up, is *not* "`e` is the
   top when it is refreshed": `_process_screen` takes the top entry `top`, calls `top.setup()`, and on
   success refreshes `top` without looking at the stack again; the identity of the top is re-checked
   only after `refresh` (`identCheck`), so a `setup` callback that pushes a screen makes the scheduler
   refresh an entry that is no longer on top (it is then not drawn: `C04_draws_top`). What holds is the
   instruction-level chain (see `C08_who_calls`): `processScreen` pushes `callScr top.screen .setup
   top.args none, afterSetup top` for the entry `top` that is on top at that moment, `afterSetup top`
   pushes `afterSetup2 top` when the setup succeeded, and `callScr … .setup` is directly followed by
   `afterSetup top` of the same screen (`C08_setup_result_is_tested`). A statement in terms of the
   trace alone would need an event for the `processScreen` moment, which the model's trace does not
   record. -/

open Ex in
/-- the counterexample to "a refreshed entry is on top": the `setup` of screen 0 pushes screen 1; entry
0 is refreshed after the push (no stack operation in between), while entry 1 is on top; it is not
drawn -/
example : sched (runFuel P8 300 c7).1 =
    [.stackOp "schedule" [e 0 0], .stackOp "push" [e 0 0, e 1 1], .refresh (e 0 0), .refresh (e 1 1), .show (e 1 1)] := by
  decide +kernel

/-- `_process_screen`, the identity check after `refresh`, the end of `close_screen` and the end of
discarding a modal screen raise `ExitMainLoop` when they find the stack empty. -/
theorem C04_empty_ends (P : Prog) (c : Cfg) (rest : List Instr) (hs : c.A.stack = [])
    (hc : c.code = .processScreen :: rest ∨ (∃ top, c.code = .identCheck top :: rest) ∨
      (∃ e, c.code = .closeScreen3 e :: rest) ∨ (∃ e, c.code = .afterSetupFail e :: rest)) :
    step P c = ({ c with code := rest } : Cfg).raise .exit := by
  rcases hc with hc | ⟨top, hc⟩ | ⟨e, hc⟩ | ⟨e, hc⟩ <;> simp [step, hc, hs]

/-- so does `process_input` when the screen's answer has been counted and the stack is empty -/
theorem C04_empty_ends_input (P : Prog) (c : Cfg) (scr : Nat) (rest : List Instr) (hs : c.A.stack = [])
    (hc : c.code = .countAndAct scr :: rest) :
    step P c = (c.counted scr rest).raise .exit := by
  simp [step, hc, hs, Cfg.counted]

/-- `close_screen`, `replace_screen` and the discarding of a failed screen on an empty stack raise an
ordinary error instead (`ScreenStackEmptyException` / pop from an empty list) -/
theorem C04_empty_refused (P : Prog) (c : Cfg) (rest : List Instr) (hs : c.A.stack = [])
    (hc : (∃ frm, c.code = .closeScreen frm :: rest) ∨ (∃ scr args, c.code = .act (.replace scr args) :: rest) ∨
      (∃ top, c.code = .afterSetup top :: rest ∧ c.retSetup = false)) :
    step P c = ({ c with code := rest } : Cfg).raise .err := by
  rcases hc with ⟨frm, hc⟩ | ⟨scr, args, hc⟩ | ⟨top, hc, hr⟩
  · simp [step, hc, hs]
  · simp [step, doAct, hc, hs]
  · simp [step, hc, hs, hr]

/-- **A close request for a screen that is not on top is refused before anything is popped.** For
every program and every configuration (reachable or not): if the next instruction is
`close_screen(closed_from = src)` (a `CloseScreenSignal` of source `src` being handled) and the screen
on top of the stack is not `src`, the step is exactly "raise `RenderUnexpectedError`" with nothing done
before — and whatever configuration it leads to (the exception caught by the nearest `except Exception`
scope, or the run ended by it), the scheduler's whole state is as before: the same stack (the top entry
still there), the same screen records; no callback was invoked (nothing logged: in particular no
`closed()`), no stack operation / refresh / draw was traced; the only thing the trace may have gained is
the one exception signal enqueued by the scope that caught the exception; and the code is a suffix of
what was pending behind the refused call. -/
theorem C04_refused_close_keeps_stack (P : Prog) (c : Cfg) (src : Src) (e : Entry) (rest : List Instr)
    (hc : c.code = .closeScreen (some src) :: rest) (he : c.A.stack.getLast? = some e) (hne : src ≠ .scr e.screen) :
    step P c = ({ c with code := rest } : Cfg).raise .err ∧
    ∀ c', StepTo P c c' →
      c'.A.stack = c.A.stack ∧ c'.A = c.A ∧ newLog c c' = [] ∧
      (newTr c c').length ≤ 1 ∧ (∀ t ∈ newTr c c', ∃ s, t.isExcFrom s = true) ∧
      (newTr c c').filter Tr.isSched = [] ∧ c'.code <:+ rest := by
  have hs : step P c = ({ c with code := rest } : Cfg).raise .err := by
    simp only [step, hc, he]
    exact if_pos ⟨nofun, fun h => hne (Option.some.inj h)⟩
  refine ⟨hs, fun c' h => ?_⟩
  obtain rfl : c' = raised .err { c with code := rest } := by rw [h.eq, hs]; rfl
  have hu := raised_err_keeps { c with code := rest }
  obtain ⟨evs, htr, hlen, hev⟩ := hu.tr
  have hf : SFrame (raised .err { c with code := rest }) c := hu.frame.trans (.of_view rfl rfl ⟨[], rfl⟩)
  rw [newTr_of_append (c := c) htr]
  exact ⟨hf.stack, hu.A, newLog_of_append (new := []) hu.log, hlen, hev, newTr_of_append (c := c) htr ▸ hf.schedTr_new,
    hu.code⟩

/-- What raising `ExitMainLoop` means: the trace records `.exit`, everything up to the nearest
`except ExitMainLoop` (the one of `run()`) is abandoned and execution continues behind it — or, if
there is none (the application drives the loop itself), the run ends with that exception. -/
theorem C04_exit_ends (c : Cfg) :
    (∃ pre rest, c.code = pre ++ .catchExit :: rest ∧ (∀ i ∈ pre, i.catches .exit = false) ∧
      c.raise .exit = .ok { (c.trace .exit) with code := rest }) ∨
    ((∀ i ∈ c.code, i.catches .exit = false) ∧
      c.raise .exit = .error (.raised "exit", { (c.trace .exit) with code := [] })) := by
  rw [Machine.raise_eq]
  rcases Machine.unwind_cases .exit c.code (Dispatch.preRaise c .exit) with ⟨h1, h2⟩ | ⟨pre, ins, rest, h1, h2, h3, h4⟩
  · exact .inr ⟨h1, h2⟩
  · cases ins <;> cases h3
    exact .inl ⟨pre, rest, h1, h2, h4⟩

open Ex in
/-- push from a draw callback, close from the pushed screen's draw: the scheduler events in order -/
example : ((runFuel P1 200 c1).1.tr.filter Tr.isSched).reverse =
    [.stackOp "schedule" [e 0 0], .refresh (e 0 0), .show (e 0 0), .stackOp "push" [e 0 0, e 1 1],
     .refresh (e 1 1), .show (e 1 1), .stackOp "close" [e 0 0], .refresh (e 0 0), .show (e 0 0)] := by
  decide +kernel

open Ex in
/-- schedule puts at the bottom, replace keeps the rest, a modal push and its close: a reachable
configuration with a two-element stack that several draws led to -/
example : ∃ c, Reach P2 c2 c ∧ c.A.stack = [e 1 1, e 2 2] ∧
    ((c.tr.filter Tr.isSched).reverse =
      [.stackOp "schedule" [e 0 0], .stackOp "schedule" [e 1 1, e 0 0], .refresh (e 0 0), .show (e 0 0),
       .stackOp "replace" [e 1 1, e 2 2], .refresh (e 2 2), .show (e 2 2),
       .stackOp "pushModal" [e 1 1, e 2 2, e 3 3 true], .refresh (e 3 3 true), .show (e 3 3 true),
       .stackOp "close" [e 1 1, e 2 2]]) :=
  reach_of_run 300 (by decide +kernel)

open Ex in
/-- closing the only screen: the stack is empty, `ExitMainLoop` is raised and `run()` returns -/
example : (runFuel P3 300 c3).2 = .returned ∧ (runFuel P3 300 c3).1.A.stack = [] ∧
    .exit ∈ (runFuel P3 300 c3).1.tr := by
  decide +kernel

open Ex in
/-- Non-vacuity of `C04_refused_close_keeps_stack`: in `Ex.P10` a `CloseScreenSignal` of screen 2 is
dispatched while the modal screen 1 is on top — after 51 steps `close_screen(closed_from = screen 2)` is
the next instruction of a reachable configuration whose top entry is screen 1. -/
example : ∃ c rest, Reach P10 c10 c ∧ c.code = .closeScreen (some (.scr 2)) :: rest ∧
    c.A.stack.getLast? = some (e 1 1 true) ∧ Src.scr 2 ≠ .scr (e 1 1 true).screen := by
  obtain ⟨rest, hc⟩ := headCloseFrom_spec (c := (runFuel P10 51 c10).1) (src := .scr 2) (by decide +kernel)
  exact ⟨(runFuel P10 51 c10).1, rest, reach_runFuel _ .init, hc, by decide +kernel, by decide⟩

open Ex in
/-- … and the whole run: the request is refused, the modal screen stays on the stack and keeps being the
screen shown, no `closed()` callback is invoked, no `close` operation is traced; the
`RenderUnexpectedError` surfaces as one exception signal of the event loop, which the application's
handler consumes (the run then waits for events). -/
example : (runFuel P10 400 c10).2 = .blocked ∧ (runFuel P10 400 c10).1.A.stack = [e 0 0, e 1 1 true] ∧
    sched (runFuel P10 400 c10).1 =
      [.stackOp "schedule" [e 0 0], .refresh (e 0 0), .show (e 0 0), .stackOp "pushModal" [e 0 0, e 1 1 true],
       .refresh (e 1 1 true), .show (e 1 1 true)] ∧
    (cbs (runFuel P10 400 c10).1).filter Ev.isClosed = [] ∧
    ((runFuel P10 400 c10).1.tr.filter (Tr.isExcFrom .loop)).length = 1 := by
  decide +kernel

end Simpleline
