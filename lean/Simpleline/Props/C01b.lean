/-
  C01b — The binary heap behind `EventQueue` refines the sorted list of the machine model
  (discharges the assumption "A-PQ": `queue.PriorityQueue` hands out the smallest `_QueueItem`).

  `Simpleline/Model/Heapq.lean` models CPython's `heapq` step for step on arrays (`heappush`, `heappop`,
  `_siftdown`, `_siftup` = `siftdown`, `siftup` with the loops `siftdownLoop`, `siftupLoop`), so that the
  array after every operation is the Python list `PriorityQueue().queue`, and on top of it
  `event_queue.py`: `HQueue` (`heap` = that list of `_QueueItem`s as triples (priority, order, signal),
  `seq` = `_order_counter`), `HQueue.put` = `_put`/`enqueue`, `HQueue.get` = `get`,
  `HQueue.getTopIfPriority` = `get_top_event_if_priority`, `entryLt` = `_QueueItem.__lt__`.

  `abs q` is the `EQueue` of `Machine.lean` the heap stands for: its entries sorted with the model's
  own `insertEntry`.  `Inv q`: the list is a heap w.r.t. `__lt__`, stored arrival numbers are below the
  counter and pairwise distinct, the stored priority is the signal's priority.

  Termination of the `while` loops of `_siftdown` and `_siftup` for every list and every position is
  proved by the definitions `siftdownLoop` (measure `pos`) and `siftupLoop` (measure `len(heap) - pos`)
  being accepted by Lean: they are total functions defined by well-founded recursion, no fuel.
-/
import Simpleline.Lemmas.HeapQueue
import Simpleline.Spec.LoopSpec

namespace Simpleline

open Heapq

/-- `_QueueItem.__lt__` (priority, then arrival order) is a strict weak order — what `heapq` needs. -/
theorem C01b_lt_order : StrictOrd Heapq.entryLt := entryLt_strictOrd

/-- For any element type and any comparison that is a strict weak order: `heappush` and `heappop` keep
the heap property ("no element is smaller than its parent") of the list, for every list size. -/
theorem C01b_heapq_keeps_heap {α : Type} (lt : α → α → Bool) (so : StrictOrd lt) (heap : Array α)
    (H : IsHeap lt heap) :
    (∀ x, IsHeap lt (heappush lt heap x)) ∧
    (∀ r heap', heappop lt heap = some (r, heap') → IsHeap lt heap') :=
  ⟨fun x => heappush_isHeap so heap x H, fun _ _ h => heappop_isHeap so h H⟩

/-- `heappop` raises `IndexError` exactly on the empty list; otherwise it returns the root `heap[0]`,
and in a heap no element is smaller than the returned one. -/
theorem C01b_heappop_min {α : Type} (lt : α → α → Bool) (so : StrictOrd lt) (heap : Array α)
    (H : IsHeap lt heap) :
    (heappop lt heap = none ↔ heap.size = 0) ∧
    (∀ r heap', heappop lt heap = some (r, heap') →
      (∃ h0 : 0 < heap.size, r = heap[0]) ∧ ∀ y ∈ heap.toList, lt y r = false) :=
  ⟨heappop_none, fun _ _ h => let ⟨h0, hr, _⟩ := heappop_eq_some h; ⟨⟨h0, hr⟩, heappop_min so h H⟩⟩

/-- The sifts neither lose nor duplicate anything — for *any* comparison function, even an
inconsistent one: after `heappush` the list is a permutation of the old list plus the item, and
`heappop` splits the list into the returned item and a permutation of the rest. -/
theorem C01b_multiset {α : Type} (lt : α → α → Bool) (heap : Array α) :
    (∀ x, (heappush lt heap x).toList.Perm (x :: heap.toList)) ∧
    (∀ r heap', heappop lt heap = some (r, heap') → heap.toList.Perm (r :: heap'.toList)) :=
  ⟨fun x => heappush_perm lt heap x, fun _ _ h => heappop_perm h⟩

/-- A new `EventQueue()` satisfies the invariant. -/
theorem C01b_inv_init : Inv HQueue.empty := inv_empty

/-- `enqueue` / `_put` keeps the invariant. -/
theorem C01b_inv_put (q : HQueue) (s : Sig) (h : Inv q) : Inv (q.put s) := (inv_put h s).1

/-- `get` keeps the invariant. -/
theorem C01b_inv_get (q q' : HQueue) (s : Sig) (h : Inv q) (hg : q.get = some (s, q')) : Inv q' :=
  (inv_get h hg).1

/-- `get_top_event_if_priority` keeps the invariant, whether it returns the signal or puts it back. -/
theorem C01b_inv_getTop (q q' : HQueue) (p : Int) (r : Option Sig) (h : Inv q)
    (hg : q.getTopIfPriority p = some (r, q')) : Inv q' :=
  (inv_getTop h hg).1

/-- Hence the invariant holds after every sequence of operations on a new queue (an operation on an
empty queue, which would block in Python, is skipped). -/
theorem C01b_inv_run (ops : List Op) : Inv (HQueue.empty.run ops).2 := (run_refines ops inv_empty).1

/-- The sorted list a heap-based queue stands for is a well-formed queue in the sense of C01
(`EQueue.Sorted`: strictly ordered by (priority, arrival number), arrival numbers below the counter,
stored priority = signal priority) — the premise of the C01 theorems about the machine model. -/
theorem C01b_abs_sorted (q : HQueue) (h : Inv q) : (abs q).Sorted where
  ordered := sortL_pairwise h.2.2.1
  fresh := fun e he => h.2.1 e ((sortL_perm _).subset he)
  prio := fun e he => h.2.2.2 e ((sortL_perm _).subset he)

/-- `enqueue` on the heap is `EQueue.put` on the sorted list: the signal goes behind every pending
signal that is at least as urgent, in front of the less urgent ones. -/
theorem C01b_put_refines (q : HQueue) (s : Sig) (h : Inv q) : abs (q.put s) = (abs q).put s :=
  (inv_put h s).2

/-- `get` would block exactly when the sorted list is empty; otherwise it returns exactly the head of
the sorted list — the most urgent signal, the oldest among equally urgent ones — and what remains
stands for the tail. -/
theorem C01b_get_refines (q : HQueue) (h : Inv q) :
    (q.get = none ↔ (abs q).entries = []) ∧
    (∀ s q', q.get = some (s, q') →
      ∃ p n rest, (abs q).entries = (p, n, s) :: rest ∧ abs q' = { abs q with entries := rest }) :=
  ⟨get_eq_none, fun _ _ hg => (inv_get h hg).2⟩

/-- `get_top_event_if_priority(p)` would block exactly when the sorted list is empty; otherwise, with
`e` the head of the sorted list: if `e`'s signal has priority `p` the call returns it and behaves like
`get`; if not it returns `None` and the re-inserted item is back in its old place — the sorted list
(contents, order, counter) is unchanged, although the heap layout may differ. -/
theorem C01b_getTop_refines (q : HQueue) (p : Int) (h : Inv q) :
    (q.getTopIfPriority p = none ↔ (abs q).entries = []) ∧
    (∀ r q', q.getTopIfPriority p = some (r, q') →
      ∃ e rest, (abs q).entries = e :: rest ∧
        ((e.2.2.prio = p ∧ r = some e.2.2 ∧ abs q' = { abs q with entries := rest }) ∨
         (e.2.2.prio ≠ p ∧ r = none ∧ abs q' = abs q))) :=
  ⟨getTop_eq_none, fun _ _ hg => (inv_getTop h hg).2⟩

/-- One operation (`put`, `get`, `getTop p`) on a heap-based queue satisfying the invariant and the same
operation on the sorted list it stands for (`stepE`: the machine model's behaviour — consumers take
the head of `entries`, a head of another priority stays in place) give the same output, and the
results correspond again. -/
theorem C01b_step_refines (q : HQueue) (h : Inv q) (o : Op) :
    (q.step o).1 = (stepE (abs q) o).1 ∧ abs (q.step o).2 = (stepE (abs q) o).2 :=
  (step_refines h o).2

/-- For every sequence of operations, of any length and with any number of pending signals: running it
on the heap-based `EventQueue` from `EventQueue()` and on the sorted-list queue of the machine model
from the empty queue yields the same outputs (which signal each `get` / `get_top_event_if_priority`
returns, where they would block or return `None`), and the final queues correspond. -/
theorem C01b_sequence_refines (ops : List Op) :
    (HQueue.empty.run ops).1 = (runE {} ops).1 ∧ abs (HQueue.empty.run ops).2 = (runE {} ops).2 :=
  (run_refines ops inv_empty).2

/-- eight signals of equal priority, then eight `get`s -/
def C01b_ex8 : List Op := (List.range 8).map (fun i => Op.put (mkSig 0 i)) ++ List.replicate 8 Op.get

/-- they come out first-in first-out -/
example : ((HQueue.empty.run C01b_ex8).1.filterMap fun o => match o with | .sig s => some s.id | _ => none)
    = [0, 1, 2, 3, 4, 5, 6, 7] := by
  decide +kernel

/-- mixed priorities, a `getTop` that matches, one that puts back, a blocked `get`: outputs and the heap
layouts (priority, order) after each operation, as in CPython (the put-back of `getTop 7` changes the
layout, not the order of delivery) -/
example : runOps HQueue.empty
      [.put (mkSig 5 0), .put (mkSig 5 1), .put (mkSig (-1) 2), .put (mkSig 5 3), .getTop 7, .getTop (-1), .get,
       .get, .get, .get] =
    [(.done, [(5, 0)]), (.done, [(5, 0), (5, 1)]), (.done, [(-1, 2), (5, 1), (5, 0)]),
     (.done, [(-1, 2), (5, 1), (5, 0), (5, 3)]), (.noSig, [(-1, 2), (5, 0), (5, 3), (5, 1)]),
     (.sig (mkSig (-1) 2), [(5, 0), (5, 1), (5, 3)]), (.sig (mkSig 5 0), [(5, 1), (5, 3)]),
     (.sig (mkSig 5 1), [(5, 3)]), (.sig (mkSig 5 3), []), (.blocked, [])] := by
  decide +kernel

/-- a reachable non-trivial queue satisfying the invariant, whose heap layout is not sorted -/
example : Inv (HQueue.empty.run [.put (mkSig 5 0), .put (mkSig 5 1), .put (mkSig (-1) 2)]).2 ∧
    (HQueue.empty.run [.put (mkSig 5 0), .put (mkSig 5 1), .put (mkSig (-1) 2)]).2.heap.toList.map (fun e => e.2.1)
      = [2, 1, 0] :=
  ⟨C01b_inv_run _, by decide +kernel⟩

/-- four items of equal priority -/
def C01b_ex4 : List Heapq.Entry := (List.range 4).map fun i => (0, i, mkSig 0 i)

/-- Legacy defect F1: with the comparison by priority only (the `__lt__` before the fix) the heap is
not first-in first-out — four equal-priority items pushed in the order 0,1,2,3 are popped as 0,2,1,3 … -/
example : (drain prioLt 4 (pushAll prioLt C01b_ex4)).map (fun e => e.2.1) = [0, 2, 1, 3] := by
  decide +kernel

/-- … while with `(priority, order)` they are popped in arrival order. -/
example : (drain Heapq.entryLt 4 (pushAll Heapq.entryLt C01b_ex4)).map (fun e => e.2.1) = [0, 1, 2, 3] := by
  decide +kernel

end Simpleline
