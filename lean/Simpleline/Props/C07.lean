/-
  C07 — What `input()` returns decides exactly one follow-up action.

  `process_input` is the instruction sequence `callScr scr .input … (some key)` (the screen's
  `input()`; its scripted return value goes through `scrRet` into the registers `retInput`/`retKey`),
  `classify scr` (`retAction := classifyRet retInput retKey`), `catchPI scr` (the `except` of
  `process_input`), `countAndAct scr` (count the rejection or reset the count, then act) and `endPI`.
  `Cfg.counted`, `Cfg.errAfter`, `InputOutcome` are in `Spec/SchedSpec.lean`.
-/
import Simpleline.Lemmas.SchedExamples
import Simpleline.Lemmas.Classify

namespace Simpleline

/-- The classification of an answer is the stated table: the four states, `None`, a returned string
(one of the global keys or anything else); when the screen returns the typed key itself (the default
`input()`), the typed key is looked up the same way. The right-hand sides are pairwise different
actions, so every answer has exactly one. -/
theorem C07_table (key : Str) :
    classifyRet (.state "PROCESSED") key = .noop ∧
    classifyRet (.state "REDRAW") key = .redraw ∧
    classifyRet (.state "CLOSE") key = .close ∧
    classifyRet (.state "DISCARDED") key = .error ∧
    (∀ s, s ≠ "PROCESSED" → s ≠ "REDRAW" → s ≠ "CLOSE" → classifyRet (.state s) key = .error) ∧
    classifyRet .none key = .error ∧
    classifyRet (.key ['r']) key = .redraw ∧
    classifyRet (.key ['c']) key = .close ∧
    classifyRet (.key ['q']) key = .quit ∧
    (∀ k, k ≠ ['r'] → k ≠ ['c'] → k ≠ ['q'] → classifyRet (.key k) key = .error) ∧
    classifyRet .dflt key = classifyRet (.key key) key :=
  ⟨rfl, rfl, rfl, rfl, fun s h1 h2 h3 => by rw [classifyRet_state, if_neg h1, if_neg h2, if_neg h3], rfl, rfl, rfl, rfl,
   fun k h1 h2 h3 => by rw [classifyRet_key, if_neg h1, if_neg h2, if_neg h3], classifyRet_dflt key⟩

/-- the table read backwards: which answers lead to which action (for the answers `input()` can give:
a state, `None`, a string, or the typed key itself) -/
theorem C07_table_inv (r : Ret) (key : Str) (hr : (∃ s, r = .state s) ∨ r = .none ∨ (∃ k, r = .key k) ∨ r = .dflt) :
    (classifyRet r key = .noop ↔ r = .state "PROCESSED") ∧
    (classifyRet r key = .redraw ↔ r = .state "REDRAW" ∨ r = .key ['r'] ∨ (r = .dflt ∧ key = ['r'])) ∧
    (classifyRet r key = .close ↔ r = .state "CLOSE" ∨ r = .key ['c'] ∨ (r = .dflt ∧ key = ['c'])) ∧
    (classifyRet r key = .quit ↔ r = .key ['q'] ∨ (r = .dflt ∧ key = ['q'])) := by
  rcases hr with ⟨s, rfl⟩ | rfl | ⟨k, rfl⟩ | rfl
  · obtain ⟨h0, h1, h2, h3⟩ := classifyRet_state_iff s key
    simp [h0, h1, h2, h3]
  · simp [classifyRet_none]
  · obtain ⟨h0, h1, h2, h3⟩ := classifyRet_key_iff k key
    simp [h0, h1, h2, h3]
  · -- the typed key is looked up like a returned string
    obtain ⟨h0, h1, h2, h3⟩ := classifyRet_key_iff key key
    simp [classifyRet_dflt, h0, h1, h2, h3]

/-- The classification that `countAndAct` acts on is the one of this very answer: when `input()` of
`scr` returns `ret` for the typed `key` (the instruction `scrRet scr .input ret key` is next), the code
continues with classification, catcher, counting step and end marker of the same screen, and three
steps later the counting step is next with `retAction = classifyRet ret key` and nothing else
changed. -/
theorem C07_answer_decides (P : Prog) (c0 c : Cfg) (h0 : Started c0) (hr : Reach P c0 c) (scr : Nat) (ret : Ret)
    (key : Option Str) (rest : List Instr) (hc : c.code = .scrRet scr .input ret key :: rest) :
    ∃ rest', rest = .classify scr :: .catchPI scr :: .countAndAct scr :: .endPI :: rest' ∧
      ∃ c1 c2, step P c = .ok c1 ∧ step P c1 = .ok c2 ∧
        step P c2 = .ok { c with code := .countAndAct scr :: .endPI :: rest', retInput := ret, retKey := key.getD [],
                                 retAction := classifyRet ret (key.getD []) } := by
  have hs := hr.shape h0
  rw [hc] at hs
  obtain ⟨j, r, rfl, hj⟩ := hs.bound_next rfl
  simp only [Instr.needs] at hj
  subst hj
  obtain ⟨j, r', rfl, hj⟩ := hs.tail.bound_next rfl
  simp only [Instr.needs] at hj
  subst hj
  obtain ⟨rest', rfl⟩ := Shape.catchPI_follow (pre := [.scrRet scr .input ret key, .classify scr]) (by simpa using hs)
  refine ⟨rest', rfl, _, _, by simp [step, hc]; rfl, by simp [step]; rfl, by simp [step]⟩

/-- The counting step `countAndAct scr`, with `top` on top of the stack, does exactly one thing,
chosen by the classified answer (`InputOutcome c c' scr pushed n`: the instruction is replaced by
`pushed`, the counter of `scr` is updated, `n` render requests of the scheduler are issued, and the
stack, the log and all other screens are untouched):
* processed — nothing;
* redraw / refresh key — exactly one render request;
* close / continue key — exactly `close_screen()` (`closeScreen none`);
* quit key — without a quit dialog `ExitMainLoop` is raised; with dialog `q`, the dialog is pushed
  modally and `afterQuit q` looks at its answer afterwards (`C07_quit_dialog`);
* rejected — if the new count is a multiple of five exactly one render request, otherwise exactly a
  new input request for the top screen with the arguments it was scheduled with. -/
theorem C07_one_action (P : Prog) (c : Cfg) (scr : Nat) (rest : List Instr) (top : Entry)
    (hc : c.code = .countAndAct scr :: rest) (ht : c.A.stack.getLast? = some top) :
    match c.retAction with
    | .noop => ∃ c', step P c = .ok c' ∧ InputOutcome c c' scr [] 0
    | .redraw => ∃ c', step P c = .ok c' ∧ InputOutcome c c' scr [] 1
    | .close => ∃ c', step P c = .ok c' ∧ InputOutcome c c' scr [.closeScreen none] 0
    | .quit =>
      match P.quitScreen with
      | none => step P c = (c.counted scr rest).raise .exit
      | some q => ∃ c', step P c = .ok c' ∧ InputOutcome c c' scr [.pushModal q none, .afterQuit q] 0
    | .error =>
      if ((c.A.scr scr).err + 1) % 5 = 0 then ∃ c', step P c = .ok c' ∧ InputOutcome c c' scr [] 1
      else ∃ c', step P c = .ok c' ∧ InputOutcome c c' scr [.getInput top.screen top.args] 0 := by
  have h := step_countAndAct P c scr rest top hc ht
  have ho := counted_outcome c scr rest hc
  cases ha : c.retAction <;> simp only [ha] at h ⊢
  · split
    · rw [if_pos ‹_›] at h; exact ⟨_, h, ho.redraw⟩
    · rw [if_neg ‹_›] at h; exact ⟨_, h, ho.push _⟩
  · exact ⟨_, h, ho⟩
  · exact ⟨_, h, ho.redraw⟩
  · exact ⟨_, h, ho.push _⟩
  · cases hq : P.quitScreen <;> simp only [hq] at h ⊢
    · exact h
    · exact ⟨_, h, ho.push _⟩

/-- After the quit dialog `q` has been closed: the application quits (`ExitMainLoop`) iff the dialog
has no `answer` attribute or its answer is true; otherwise exactly one render request is issued and
nothing else changes. -/
theorem C07_quit_dialog (P : Prog) (c : Cfg) (q : Nat) (rest : List Instr) (hc : c.code = .afterQuit q :: rest) :
    if (P.spec q).answer = none ∨ (P.spec q).answer = some (some true) then
      step P c = ({ c with code := rest } : Cfg).raise .exit
    else
      ∃ c' t, step P c = .ok c' ∧ c'.code = rest ∧ c'.A = c.A ∧ c'.log = c.log ∧ c'.tr = t :: c.tr ∧
        t.isRedraw = true := by
  have h := step_afterQuit P c q rest hc
  split
  · rw [if_pos ‹_›] at h; exact h
  · rw [if_neg ‹_›] at h
    exact ⟨_, _, h, redraw_code _, redraw_A _, redraw_log _, redraw_tr _, by simp [enqEv_isRedraw, renderSig]⟩

/-- The counter of screen `s` after any machine step is `c.errAfter s`: it changes only in the counting
step of `s` (one more for a rejected line, reset to 0 by any accepted one) and when `s` asks for input
with a `None` prompt (reset). In particular the counters of the other screens are untouched by these
steps. -/
theorem C07_counter (P : Prog) (c c' : Cfg) (h : StepTo P c c') (s : Nat) : (c'.A.scr s).err = c.errAfter s := by
  rw [h.eq, step_scr]
  unfold Cfg.screensAfter Cfg.errAfter Cfg.counted
  rcases c.code with _ | ⟨ins, rest⟩
  · rfl
  · cases ins
    case callScr => dsimp only; rw [← AppSt.scr, setScr_scr]; split <;> simp_all
    case scrRet scr cb _ _ =>
      cases cb <;> dsimp only
      case setup => split <;> first | rfl | (rw [← AppSt.scr, setScr_scr]; split <;> simp_all)
      all_goals rfl
    case getInput2 => dsimp only; split <;> rw [← AppSt.scr, setScr_scr] <;> split <;> simp_all
    case countAndAct => dsimp only; rw [← AppSt.scr, setScr_scr]; split <;> simp_all
    all_goals rfl

/-- the reader thread handing in a line touches no counter -/
theorem C07_counter_deliver (c c' : Cfg) (h : c.deliver = some c') (s : Nat) : c'.A.scr s = c.A.scr s := by
  rw [deliver_eq_dlv h, (SFrame.dlv c).scr]

/-- independence, spelled out: a step whose instruction is not the counting step or the input request
of `s` itself leaves the counter of `s` alone -/
theorem C07_counter_other (P : Prog) (c c' : Cfg) (h : StepTo P c c') (s : Nat)
    (h1 : ∀ rest, c.code ≠ .countAndAct s :: rest) (h2 : ∀ args rest, c.code ≠ .getInput2 s args :: rest) :
    (c'.A.scr s).err = (c.A.scr s).err := by
  rw [C07_counter P c c' h s]
  unfold Cfg.errAfter
  split
  · rename_i scr _ hc
    split
    · subst_vars; exact absurd hc (h1 _)
    · rfl
  · rename_i scr _ _ hc
    split
    · rename_i hs; obtain ⟨rfl, _⟩ := hs; exact absurd hc (h2 _ _)
    · rfl
  · rfl

/-- An ordinary exception raised while the `input()` callback of `scr` runs — the code after the
raising instruction `ins` reaches the catcher `catchPI scr` without passing another catcher of
ordinary errors — is caught there: in every such state `c1` the raise lands behind the end marker of
this `process_input` (the counting step is skipped), the screens' records and so the counter are
untouched, nothing is logged, and exactly one exception signal with source `InputManager` of `scr` is
enqueued. -/
theorem C07_exception_in_input (P : Prog) (c0 c : Cfg) (h0 : Started c0) (hr : Reach P c0 c) (ins : Instr)
    (pre post : List Instr) (scr : Nat) (hc : c.code = ins :: (pre ++ .catchPI scr :: post))
    (hpre : ∀ i ∈ pre, i.catches .err = false) (c1 : Cfg) (hc1 : c1.code = pre ++ .catchPI scr :: post) :
    ∃ rest c' t, post = .countAndAct scr :: .endPI :: rest ∧ c1.raise .err = .ok c' ∧ c'.code = rest ∧
      c'.A = c1.A ∧ c'.log = c1.log ∧ c'.tr = t :: c1.tr ∧ t.isExcFrom (.im scr) = true := by
  have hs := hr.shape h0
  rw [hc] at hs
  obtain ⟨rest, rfl⟩ := Shape.catchPI_follow (pre := ins :: pre) (by simpa using hs)
  refine ⟨rest, { (({ c1 with nextSid := c1.nextSid + 1 } : Cfg).enqueue (Dispatch.excSig c1.nextSid (.im scr))) with code := rest },
    enqEv c1.L (Dispatch.excSig c1.nextSid (.im scr)), rfl, ?_, rfl, enqueue_A _ _, enqueue_log _ _, enqueue_tr _ _, ?_⟩
  · have h := unwind_err_catchPI pre scr rest c1 hpre
    rw [← hc1] at h
    exact h
  · simp [enqEv_isExcFrom, Dispatch.excSig]

/-- the same for the scripted `raise` of a callback: the step itself -/
theorem C07_exception_in_input_step (P : Prog) (c0 c : Cfg) (h0 : Started c0) (hr : Reach P c0 c)
    (pre post : List Instr) (scr : Nat) (hc : c.code = .act .raiseErr :: (pre ++ .catchPI scr :: post))
    (hpre : ∀ i ∈ pre, i.catches .err = false) :
    ∃ rest c' t, post = .countAndAct scr :: .endPI :: rest ∧ step P c = .ok c' ∧ c'.code = rest ∧
      c'.A = c.A ∧ c'.log = c.log ∧ c'.tr = t :: c.tr ∧ t.isExcFrom (.im scr) = true := by
  have := C07_exception_in_input P c0 c h0 hr _ pre post scr hc hpre { c with code := pre ++ .catchPI scr :: post } rfl
  simpa [step, hc, doAct] using this

namespace Ex
def A1 : Nat → Ret := fun n => if n = 0 then .state "REDRAW" else if n = 1 then .dflt else .state "PROCESSED"
def A2 : Nat → Ret := fun _ => .state "DISCARDED"
def A3 : Nat → Ret := fun _ => .dflt
end Ex

open Ex in
/-- "REDRAW" — one refresh and draw, then the prompt; the refresh key `r` (returned as typed) — the
same; "PROCESSED" — nothing further (the run waits for events that never come) -/
example : (runFuel (P4 A1) 2000 (c4 ["a", "r", "x"])).2 = .blocked ∧
    cbs (runFuel (P4 A1) 2000 (c4 ["a", "r", "x"])).1 =
      [.cb 0 .setup none none, .cb 0 .refresh none none, .cb 0 .show none none, .cb 0 .prompt none none,
       .cb 0 .input none (some ['a']),
       .cb 0 .refresh none none, .cb 0 .show none none, .cb 0 .prompt none none,
       .cb 0 .input none (some ['r']),
       .cb 0 .refresh none none, .cb 0 .show none none, .cb 0 .prompt none none,
       .cb 0 .input none (some ['x'])] := by
  decide +kernel

open Ex in
/-- a reachable configuration in which the hypotheses of `C07_one_action` hold (the counting step is
next, the stack is not empty, the answer was classified as redraw) -/
example : ∃ c, Reach (P4 A1) (c4 ["a", "r", "x"]) c ∧ (∃ rest, c.code = .countAndAct 0 :: rest) ∧
    c.A.stack.getLast? = some (e 0 0) ∧ c.retAction = .redraw :=
  reach_of_run 48 ⟨headCA_spec (by decide +kernel), by decide +kernel⟩

open Ex in
/-- five rejections in a row: four times only the prompt, the fifth time a redraw first; the count
goes on (6 after six lines) -/
example : cbs (runFuel (P4 A2) 300 (c4 ["1", "2", "3", "4", "5", "6"])).1 =
      [.cb 0 .setup none none, .cb 0 .refresh none none, .cb 0 .show none none, .cb 0 .prompt none none,
       .cb 0 .input none (some ['1']), .cb 0 .prompt none none,
       .cb 0 .input none (some ['2']), .cb 0 .prompt none none,
       .cb 0 .input none (some ['3']), .cb 0 .prompt none none,
       .cb 0 .input none (some ['4']), .cb 0 .prompt none none,
       .cb 0 .input none (some ['5']), .cb 0 .refresh none none, .cb 0 .show none none, .cb 0 .prompt none none,
       .cb 0 .input none (some ['6']), .cb 0 .prompt none none] ∧
    ((runFuel (P4 A2) 300 (c4 ["1", "2", "3", "4", "5", "6"])).1.A.scr 0).err = 6 := by
  decide +kernel

open Ex in
/-- the quit key with a dialog that answers "no": the dialog is shown modally, closed, the screen is
redrawn and asks again; the continue key then closes it and the application ends -/
example : (runFuel (P4 A3 (some 1)) 3000 (c4 ["q", "c"])).2 = .returned ∧
    cbs (runFuel (P4 A3 (some 1)) 3000 (c4 ["q", "c"])).1 =
      [.cb 0 .setup none none, .cb 0 .refresh none none, .cb 0 .show none none, .cb 0 .prompt none none,
       .cb 0 .input none (some ['q']),
       .cb 1 .setup none none, .cb 1 .refresh none none, .cb 1 .show none none, .cb 1 .closed none none,
       .cb 0 .refresh none none, .cb 0 .show none none, .cb 0 .prompt none none,
       .cb 0 .input none (some ['c']), .cb 0 .closed none none] := by
  decide +kernel

open Ex in
/-- the quit key without a dialog: the application quits at once -/
example : (runFuel (P4 A3) 3000 (c4 ["q", "c"])).2 = .returned ∧
    cbs (runFuel (P4 A3) 3000 (c4 ["q", "c"])).1 =
      [.cb 0 .setup none none, .cb 0 .refresh none none, .cb 0 .show none none, .cb 0 .prompt none none,
       .cb 0 .input none (some ['q'])] := by
  decide +kernel

open Ex in
/-- an exception raised by `input()`: exactly one exception signal from the screen's input manager,
the counter untouched; nobody handles the signal here, so the application is killed -/
example : (runFuel P9 400 (c4 ["a"])).2 = .killed 1 ∧
    ((runFuel P9 400 (c4 ["a"])).1.tr.filter (Tr.isExcFrom (.im 0))).length = 1 ∧
    ((runFuel P9 400 (c4 ["a"])).1.A.scr 0).err = 0 := by
  decide +kernel

open Ex in
/-- … and a reachable configuration in which the hypotheses of `C07_exception_in_input_step` hold: the
scripted raise is next, and the code behind it reaches the catcher through the return of `input()` and
the classification only (`pre = [scrRet …, classify 0]`) -/
example : ∃ c, Reach P9 (c4 ["a"]) c ∧
    (match c.code with
     | .act .raiseErr :: .scrRet 0 .input _ _ :: .classify 0 :: .catchPI 0 :: _ => true
     | _ => false) = true :=
  reach_of_run 45 (by decide +kernel)

end Simpleline
