/-
  C03 — A nested (modal) loop is isolated: outer work is held, not lost, then resumed.

  Property theorems only; helper lemmas live in `Simpleline/Lemmas/Loop*.lean`, vocabulary in
  `Simpleline/Spec/LoopSpec.lean`.

  `c.L.levels` is `MainLoop._event_queues` (bottom … top; entries are queue objects = indices into
  `c.L.queues`), `c.L.active` is `_active_queue`, `(c.queue q).sources` is queue `q`'s
  `_contained_screens`, `L.owns q src` says `src` is registered with queue object `q`.
  `execute_new_loop` is the instruction `newLoop` (trace event `.openLevel q _`), `close_loop` ends in
  the instruction `popLevel` (trace event `.closeLevel q`).

  Two clauses of the property are *not* proved here, because they need a global invariant relating
  the `mainCheck q` markers in the pending code to `levels` (the shape of the Python call stack):
    * "starting a nested loop does not return to its caller before that loop is closed", and
    * "closing it resumes the enclosing loop where it stopped" (as far as the *code* is concerned; the
      state part is `C03_close_restores`).
  They are proved in `Props/C05.lean` / `Lemmas/Shape*.lean`.
-/
import Simpleline.Props.C01

namespace Simpleline

/-- `MainLoop.enqueue_signal` chooses the queue by scanning the levels from the innermost (top)
outwards: the result is the innermost level with which the signal's source is registered — it owns
the source and no level above it does —, or the active queue if no level owns the source. -/
theorem C03_route (L : LoopSt) (src : Src) :
    (∃ i, ∃ hi : i < L.levels.length, L.route src = L.levels[i] ∧ L.owns L.levels[i] src ∧
        ∀ j (hj : j < L.levels.length), i < j → ¬ L.owns L.levels[j] src) ∨
      ((∀ q ∈ L.levels, ¬ L.owns q src) ∧ L.route src = L.active) := by
  unfold LoopSt.route
  split
  · rename_i q hq
    obtain ⟨i, hi, h1, h2, h3⟩ := find?_reverse_some hq
    left
    refine ⟨i, hi, h1.symm, ?_, ?_⟩
    · rw [h1, owns_iff]; exact h2
    · intro j hj hij
      rw [owns_iff, h3 j hj hij]; simp
  · rename_i hq
    right
    refine ⟨?_, rfl⟩
    intro q hq'
    have := List.find?_eq_none.1 hq q (by simpa using hq')
    rw [owns_iff]; simpa using this

/-- … and (when not force-quit) the signal is `put` into exactly that queue object; after force-quit
it is dropped. -/
theorem C03_enqueue (c : Cfg) (s : Sig) :
    (c.L.forceQuit = false →
      (c.enqueue s).L.queues = listSet c.L.queues (c.L.route s.src) (·.put s) ∧
      (c.enqueue s).tr = .enq (c.L.route s.src) s :: c.tr) ∧
    (c.L.forceQuit = true → (c.enqueue s).L = c.L ∧ (c.enqueue s).tr = .dropped s :: c.tr) := by
  unfold Cfg.enqueue
  constructor <;> intro h <;> simp [h, Cfg.trace]

/-- In terms of the history: every `.enq q s` event any transition adds has `q` = the route of `s`'s
source (levels and registered sources as at the end of that transition — within one transition they
do not change after an enqueue), and the loop was not force-quit. -/
theorem C03_enq_routed (P : Prog) (c c' : Cfg) (ht : Trans P c c') (q : Nat) (s : Sig)
    (hm : Tr.enq q s ∈ newTr c c') : q = c'.L.route s.src ∧ c'.L.forceQuit = false := by
  obtain ⟨vm, new, f, hp, hl, hn⟩ := (trans_eff ht).split
  rw [hn] at hm
  have st := hl.static
  rcases List.mem_append.1 hm with hm | hm
  · cases hl <;> simp at hm
  · rcases List.mem_append.1 hm with hm | hm
    · rcases f.ev2 _ hm with hb | ⟨_, heq, _⟩ | ⟨s', heq, hf⟩
      · cases hb
      · cases heq
      · cases heq
        exact ⟨(st.route _).symm, st.forceQuit.trans hf⟩
    · rcases f.ev1 _ hm with h | ⟨_, _, h⟩ | ⟨_, h⟩ <;> cases h

/-- In every reachable configuration the active queue is the innermost (last) level — unless there
are no levels at all (after `force_quit`, or when the outermost loop has been closed); the active
queue and all levels are existing queue objects; levels are listed in order of creation (ascending
indices: a queue object is created by `execute_new_loop` only), in particular pairwise distinct. -/
theorem C03_active_is_top (P : Prog) (c0 c : Cfg) (h0 : Started c0) (hr : Reach P c0 c) :
    (c.L.levels.getLast? = some c.L.active ∨ c.L.levels = []) ∧
      c.L.active < c.L.queues.length ∧ (∀ q ∈ c.L.levels, q < c.L.queues.length) ∧
      c.L.levels.Pairwise (· < ·) ∧ c.L.levels.Nodup :=
  have wf := WF.reach h0 hr
  ⟨wf.top, wf.active_lt, wf.levels_lt, wf.levels_inc, wf.levels_inc.imp fun h => Nat.ne_of_lt h⟩

/-- Every signal taken for dispatch by a transition out of a reachable configuration comes from the
active queue, which is the innermost level (or there are no levels). So while a nested loop runs,
nothing is dispatched from the queue of an enclosing loop. -/
theorem C03_isolation (P : Prog) (c0 c c' : Cfg) (h0 : Started c0) (hr : Reach P c0 c) (ht : Trans P c c')
    (q : Nat) (s : Sig) (hm : Tr.take q s ∈ newTr c c') :
    q = c.L.active ∧ (c.L.levels.getLast? = some q ∨ c.L.levels = []) := by
  have hqa : q = c.L.active := take_active (trans_eff ht) hm
  exact ⟨hqa, hqa ▸ (WF.reach h0 hr).top⟩

/-- In every reachable configuration every signal pending in the queue of a level belongs to that
level: its source is registered with that level, or with no enclosing level (levels are in ascending
order, so the enclosing levels of `q` are the levels `q' < q`). A signal whose source belongs to an
enclosing loop only is never in the nested loop's queue. -/
theorem C03_pending_belong (P : Prog) (c0 c : Cfg) (h0 : Started c0) (hr : Reach P c0 c) :
    ∀ q ∈ c.L.levels, ∀ s ∈ (c.queue q).sigs,
      c.L.owns q s.src ∨ ∀ q' ∈ c.L.levels, q' < q → ¬ c.L.owns q' s.src := by
  intro q hq s hs
  obtain ⟨e, he, rfl⟩ := List.mem_map.1 hs
  exact Belong.reach h0 hr q hq e he

/-- Hence every signal a running (nested) loop dispatches belongs to it: its source is registered with
the innermost level or with no enclosing level. -/
theorem C03_dispatched_belong (P : Prog) (c0 c c' : Cfg) (h0 : Started c0) (hr : Reach P c0 c) (ht : Trans P c c')
    (q : Nat) (s : Sig) (hm : Tr.take q s ∈ newTr c c') (hq : q ∈ c.L.levels) :
    c.L.owns q s.src ∨ ∀ q' ∈ c.L.levels, q' < q → ¬ c.L.owns q' s.src := by
  obtain ⟨cm, hcm, _, e, es, he, rfl, _⟩ := C01_take_is_head P c0 c c' h0 hr ht q s hm
  -- the head entry is pending at the moment of the take, where levels and sources are those of `c`
  obtain ⟨hr', hl, _, ho⟩ := moment_static hr hcm
  have hb := C03_pending_belong P c0 cm h0 hr' q (hl ▸ hq) e.2.2
    (List.mem_map.2 ⟨e, by show e ∈ (cm.queue q).entries; rw [he]; simp, rfl⟩)
  simpa only [hl, ho] using hb

/-- For every transition and every queue object other than the active one — for a reachable
configuration: every enclosing level (by `C03_active_is_top`) —: every pending signal is still
pending afterwards, in the same relative order (new ones may have been routed to it), and the
transition takes nothing from it. -/
theorem C03_held (P : Prog) (c c' : Cfg) (ht : Trans P c c') (q : Nat) (hq : q ≠ c.L.active) :
    (c.queue q).sigs.Sublist (c'.queue q).sigs ∧ ∀ s, Tr.take q s ∉ newTr c c' := by
  refine ⟨?_, fun s hm => hq (take_active (trans_eff ht) hm)⟩
  rcases eff_entries (trans_eff ht) q with h | ⟨_, h, _⟩
  · exact h.map _
  · exact absurd h hq

/-- Over any number of transitions (`c'` reachable from `c`): as long as the history records no take
from queue object `q`, everything that was pending in `q` is still pending, in the same relative order.
With `C03_isolation` (no take from a level that is not the innermost) this is "held while the nested
loop runs"; once the nested loop is closed, `q` is the active queue again (`C03_close_restores`) and its
signals leave in queue order, most urgent first, first-in first-out (C01). -/
theorem C03_held_until_taken (P : Prog) (c c' : Cfg) (hr : Reach P c c') (q : Nat)
    (hno : ∀ s, Tr.take q s ∉ newTr c c') : (c.queue q).sigs.Sublist (c'.queue q).sigs := by
  -- by induction on the execution: a prefix of it records no take from `q` either
  refine reach_induction
    (motive := fun c' => (∀ s, Tr.take q s ∉ newTr c c') → (c.queue q).sigs.Sublist (c'.queue q).sigs)
    (fun _ => List.Sublist.refl _) (fun cm c' hr ih ht hno => ?_) hr hno
  obtain ⟨n1, h1⟩ := reach_tr hr
  obtain ⟨n2, h2⟩ := eff_tr (trans_eff ht)
  rw [newTr_of_append (show c'.tr = (n2 ++ n1) ++ c.tr by rw [h2, h1, List.append_assoc])] at hno
  refine (ih (by rw [newTr_of_append h1]; exact fun s hm => hno s (List.mem_append_right _ hm))).trans ?_
  rcases eff_entries (trans_eff ht) q with h | ⟨⟨s, hs⟩, _, _⟩
  · exact h.map _
  · rw [newTr_of_append h2] at hs
    exact absurd (List.mem_append_left _ hs) (hno s)

/-- Sources are only ever registered with the active queue: for every transition the source set of
every other queue object is unchanged; and no queue object ever loses a source. -/
theorem C03_sources_fixed_below (P : Prog) (c c' : Cfg) (ht : Trans P c c') (q : Nat) :
    (q ≠ c.L.active → (c'.queue q).sources = (c.queue q).sources) ∧
    (∀ x ∈ (c.queue q).sources, x ∈ (c'.queue q).sources) :=
  (eff_frame (trans_eff ht) q).2

/-- A transition that records `.closeLevel q` (the end of `close_loop`) removes exactly the top level
`q`; no queue object disappears; if an enclosing level remains, it becomes the active queue again and
`_run_loop` is cleared (so that the closed loop's `_mainloop` returns — see `Props/C05`); if none
remains (the outermost loop was closed: `ExitMainLoop` is raised) the active queue and `_run_loop`
are untouched. -/
theorem C03_close_restores (P : Prog) (c c' : Cfg) (ht : Trans P c c') (q : Nat)
    (hm : Tr.closeLevel q ∈ newTr c c') :
    c.L.levels.getLast? = some q ∧ c'.L.levels = c.L.levels.dropLast ∧
      c'.L.queues.length = c.L.queues.length ∧
      (∀ a, c.L.levels.dropLast.getLast? = some a → c'.L.active = a ∧ c'.L.runLoop = false) ∧
      (c.L.levels.dropLast = [] → c'.L.active = c.L.active ∧ c'.L.runLoop = c.L.runLoop) := by
  obtain ⟨vm, evs, st, he, hc⟩ := eff_struct (trans_eff ht)
  have hm := (he _ (.inr (.inr ⟨q, rfl⟩))).1 hm
  rcases hc with ⟨rfl, _⟩ | ⟨rfl, _⟩ | ⟨rfl, _⟩ | ⟨q', rfl, h2, rfl⟩
  · cases hm
  · simp at hm
  · simp at hm
  · cases List.mem_singleton.1 hm
    refine ⟨h2, st.levels.trans (pop_levels _ q), st.length.trans (congrArg _ (pop_queues _ q)), ?_, ?_⟩
    · intro a ha
      rw [pop_some q a ha] at st
      exact ⟨st.active, st.runLoop⟩
    · intro hnil
      rw [pop_none q (show c.view.levels.dropLast.getLast? = none by rw [view_levels, hnil]; rfl)] at st
      exact ⟨st.active, st.runLoop⟩

/-- Levels and the active queue change in no other way: a transition that records none of
`.openLevel`, `.closeLevel`, `.forceQuit` leaves both as they were. -/
theorem C03_levels_change_only_by_open_close (P : Prog) (c c' : Cfg) (ht : Trans P c c')
    (hno : ∀ t ∈ newTr c c', t ≠ .forceQuit ∧ (∀ q r, t ≠ .openLevel q r) ∧ ∀ q, t ≠ .closeLevel q) :
    c'.L.levels = c.L.levels ∧ c'.L.active = c.L.active := by
  obtain ⟨vm, evs, st, he, hc⟩ := eff_struct (trans_eff ht)
  rcases hc with ⟨_, h2, h3⟩ | ⟨rfl, _⟩ | ⟨rfl, _⟩ | ⟨q', rfl, _⟩
  · exact ⟨st.levels.trans h2, st.active.trans h3⟩
  · exact absurd rfl (hno _ ((he _ (.inl rfl)).2 (.head _))).1
  · exact absurd rfl ((hno _ ((he _ (.inr (.inl ⟨_, _, rfl⟩))).2 (.head _))).2.1 _ _)
  · exact absurd rfl ((hno _ ((he _ (.inr (.inr ⟨_, rfl⟩))).2 (.head _))).2.2 _)

/-- A transition that records `.openLevel q r` (`execute_new_loop`, not force-quit) creates the queue
object `q` — fresh: its index is the old number of queue objects, no sources registered — and makes it
the new top level and the active queue; `r` is `_run_loop`, which is unchanged. -/
theorem C03_open_level (P : Prog) (c c' : Cfg) (ht : Trans P c c') (q : Nat) (r : Bool)
    (hm : Tr.openLevel q r ∈ newTr c c') :
    q = c.L.queues.length ∧ r = c.L.runLoop ∧ c.L.forceQuit = false ∧
      c'.L.levels = c.L.levels ++ [q] ∧ c'.L.active = q ∧ c'.L.queues.length = q + 1 ∧
      c'.L.runLoop = c.L.runLoop ∧ c'.L.forceQuit = false ∧ (c'.queue q).sources = [] := by
  obtain ⟨vm, evs, st, he, hc⟩ := eff_struct (trans_eff ht)
  have hm := (he _ (.inr (.inl ⟨q, r, rfl⟩))).1 hm
  rcases hc with ⟨rfl, _⟩ | ⟨rfl, _⟩ | ⟨rfl, h2, rfl⟩ | ⟨q', rfl, _⟩
  · cases hm
  · simp at hm
  · cases List.mem_singleton.1 hm
    refine ⟨rfl, rfl, h2, st.levels, st.active, st.length.trans (by simp [openView]), st.runLoop,
      st.forceQuit.trans h2, (st.sources _).trans ?_⟩
    show ((c.L.queues ++ [({} : EQueue)]).getD c.L.queues.length {}).sources = []
    simp
  · simp at hm

/-- The step of `execute_new_loop(s)` itself (not force-quit): it succeeds, continues with the new
loop's `_mainloop` (`mainCheck q`) in front of the caller's remaining code, records exactly the two
events "level `q` opened" and "`s` enqueued at its route", and the fresh level's queue holds exactly
the initial signal if `s` was routed to it — and nothing if `s`'s source is registered with an
enclosing level, where it went instead. -/
theorem C03_new_loop_step (P : Prog) (c : Cfg) (s : Sig) (rest : List Instr) (hc : c.code = .newLoop s :: rest)
    (hf : c.L.forceQuit = false) :
    ∃ c', step P c = .ok c' ∧ c'.code = .mainCheck c.L.queues.length :: rest ∧
      c'.L.levels = c.L.levels ++ [c.L.queues.length] ∧ c'.L.active = c.L.queues.length ∧
      c'.L.queues.length = c.L.queues.length + 1 ∧
      newTr c c' = [.enq (c'.L.route s.src) s, .openLevel c.L.queues.length c.L.runLoop] ∧
      (c'.queue c.L.queues.length).sigs = (if c'.L.route s.src = c.L.queues.length then [s] else []) ∧
      (c'.queue c.L.queues.length).sources = [] := by
  obtain ⟨c', h1, h2, h3⟩ := step_newLoop P c s rest hc hf
  have st : Static (openView c.view) c'.view := h3 ▸ enq_static _ s
  have hfq : (openView c.view).forceQuit = false := hf
  have hr : c'.L.route s.src = (openView c.view).route s.src := st.route _
  have hq0 : (openView c.view).queue c.L.queues.length = {} := by
    show (c.L.queues ++ [({} : EQueue)]).getD c.L.queues.length {} = {}
    simp
  refine ⟨c', h1, h2, st.levels, st.active, st.length.trans (by simp [openView]), ?_, ?_, ?_⟩
  · apply newTr_of_append (new := [_, _])
    have : c'.view.tr = _ := congrArg QView.tr h3
    rw [view_tr, enq_tr, hfq] at this
    rw [this, hr]; rfl
  · show (c'.view.queue _).sigs = _
    rw [h3, enq_queue, hr, hq0]
    by_cases hq : (openView c.view).route s.src = c.L.queues.length
    · rw [if_pos hq, if_pos ⟨hfq, hq, by simp [openView]⟩]; rfl
    · rw [if_neg hq, if_neg (fun h => hq h.2.1)]; rfl
  · show (c'.view.queue _).sources = _
    rw [st.sources, hq0]

/-- Handler 0 (outer loop, for signal 1) registers source `obj 1` with the outer level and starts a
nested loop with signal 20. Handler 1 (nested loop, for 20) enqueues 30 and 33 with source `obj 1`
(owned by the outer level), 31 and 32 with unregistered sources. Handler 2 (for 32) closes the loop. -/
def C03_exP : Prog where
  cc := asciiClass
  runEmpty := true
  handlerScript := fun hid n =>
    if hid = 0 ∧ n = 0 then [.regSource (.obj 1), .newLoop (.user 1) 0 20]
    else if hid = 1 ∧ n = 0 then
      [.enq (.user 2) 0 (.obj 1) 30, .enq (.user 2) 0 .none 31, .enq (.user 3) 0 (.obj 7) 32,
       .enq (.user 2) 0 (.obj 1) 33]
    else if hid = 2 ∧ n = 0 then [.closeLoop]
    else []

def C03_exC : Cfg :=
  initCfg [.enq (.user 0) 0 .none 1, .enq (.user 2) 0 .none 2]
    [(.user 0, .user 0, none), (.user 1, .user 1, none), (.user 3, .user 2, none)] none []

/-- the queue/level events of a trace, oldest first -/
def C03_events (tr : List Tr) : List (String × Nat × Nat) :=
  tr.reverse.filterMap fun t =>
    match t with
    | .take q s => some ("take", q, s.id)
    | .enq q s => some ("enq", q, s.id)
    | .openLevel q _ => some ("open", q, 0)
    | .closeLevel q => some ("close", q, 0)
    | _ => none

/-- 30 and 33 are routed to the outer queue 0 and held there together with 2 while the nested loop
dispatches 20, 31, 32 from its own queue 1; after the close they are dispatched in order. The observable
log shows the nesting: handler 0 returns (`hret 0`) only after "new<", i.e. after the nested loop. -/
example :
    C03_events (runFuel C03_exP 300 C03_exC).1.tr =
      [("enq", 0, 1), ("enq", 0, 2), ("take", 0, 1), ("open", 1, 0), ("enq", 1, 20), ("take", 1, 20),
       ("enq", 0, 30), ("enq", 1, 31), ("enq", 1, 32), ("enq", 0, 33), ("take", 1, 31), ("take", 1, 32),
       ("close", 1, 0), ("take", 0, 2), ("take", 0, 30), ("take", 0, 33)] ∧
    (runFuel C03_exP 300 C03_exC).1.log.reverse =
      [.h 0 1 none 1, .h 1 20 none 2, .hret 1, .h 2 32 none 2, .note "closed<", .hret 2, .note "new<", .hret 0] := by
  decide +kernel

/-! ### remark: what is *not* held

The property is about the *enclosing* loops' signals. A signal still pending in the nested loop's own
queue when that loop is closed stays in the closed queue object and is never dispatched (`close_loop`
processes only the top-priority batch before popping the level; the trace event `.closeReq _ n` records
the number `n` of signals pending at that moment). Here handler 1 closes the nested loop itself after
enqueueing 31 (priority 0) and 32 (priority -1) into it: 32 is dispatched by `close_loop`, 31 never. -/

def C03_exP' : Prog where
  cc := asciiClass
  runEmpty := true
  handlerScript := fun hid n =>
    if hid = 0 ∧ n = 0 then [.regSource (.obj 1), .newLoop (.user 1) 0 20]
    else if hid = 1 ∧ n = 0 then
      [.enq (.user 2) 0 (.obj 1) 30, .enq (.user 2) 0 .none 31, .enq (.user 2) (-1) .none 32, .closeLoop]
    else []

example :
    C03_events (runFuel C03_exP' 300 C03_exC).1.tr =
      [("enq", 0, 1), ("enq", 0, 2), ("take", 0, 1), ("open", 1, 0), ("enq", 1, 20), ("take", 1, 20),
       ("enq", 0, 30), ("enq", 1, 31), ("enq", 1, 32), ("take", 1, 32), ("close", 1, 0),
       ("take", 0, 2), ("take", 0, 30)] ∧
    (runFuel C03_exP' 300 C03_exC).2 = .blocked ∧
    ((runFuel C03_exP' 300 C03_exC).1.queue 1).sigs.map (·.id) = [31] := by
  decide +kernel

end Simpleline
