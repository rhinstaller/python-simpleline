/-
  C15 — Drawing and writing into a widget change exactly the intended cells.

  Property theorems only; helper lemmas live in `Simpleline/Lemmas/Grid.lean` (draw) and `GridWrite.lean` (write).
  `s.drawAt src row col block` is `Widget.draw(w, row, col, block)` (`src` = `w.content`);
  `s.writeAt text row col width block` is `Widget.write(text, row, col, width, block)` (no word wrap).
-/
import Simpleline.Lemmas.GridWrite
import Simpleline.Lemmas.Literals

namespace Simpleline


/-! ### draw -/

/-- the target grows only as far as needed -/
theorem C15_draw_height (s : WSt) (src : Grid) (row col : Nat) (block : Bool) :
    (s.drawAt src row col block).buf.length = max s.buf.length (row + src.length) :=
  drawInto_length s.buf src row col

/-- rows outside the rectangle's rows are as they were (rows created above the rectangle are empty) -/
theorem C15_draw_other_rows (s : WSt) (src : Grid) (row col : Nat) (block : Bool) (i : Nat)
    (hi : i < row ∨ row + src.length ≤ i) :
    (s.drawAt src row col block).buf.getD i [] = s.buf.getD i [] :=
  drawInto_other_rows s.buf src row col i hi

/-- a row of the rectangle grows only as far as needed -/
theorem C15_draw_row_length (s : WSt) (src : Grid) (row col : Nat) (block : Bool) (a : Nat)
    (ha : a < src.length) :
    ((s.drawAt src row col block).buf.getD (row + a) []).length =
      max (s.buf.getD (row + a) []).length (col + (src.getD a []).length) :=
  drawInto_row_length s.buf src row col a ha

/-- inside the rectangle the target shows the source's characters -/
theorem C15_draw_inside (s : WSt) (src : Grid) (row col : Nat) (block : Bool) (a b : Nat)
    (ha : a < src.length) (hb : b < (src.getD a []).length) :
    cell (s.drawAt src row col block).buf (row + a) (col + b) = cell src a b :=
  drawInto_inside s.buf src row col a b ha hb

/-- in a row of the rectangle, a cell outside the source row's span is what it was, or a blank if it
did not exist and lies left of the drawn span -/
theorem C15_draw_outside (s : WSt) (src : Grid) (row col : Nat) (block : Bool) (a c : Nat)
    (ha : a < src.length) (hc : c < col ∨ col + (src.getD a []).length ≤ c) :
    cell (s.drawAt src row col block).buf (row + a) c =
      if c < (s.buf.getD (row + a) []).length then cell s.buf (row + a) c
      else if c < col + (src.getD a []).length then some ' ' else none :=
  drawInto_outside s.buf src row col a c ha hc

/-- the cursor is left on the row below: same column in block mode, first column otherwise -/
theorem C15_draw_cursor (s : WSt) (src : Grid) (row col : Nat) (block : Bool) :
    (s.drawAt src row col block).cur = (row + src.length, if block then col else 0) := rfl

/-! ### write

The *path* of a write is determined by `(row, col, width, block)` and the text alone: `pathFrom`
lists, for every character of the text, the position the typewriter is at when it meets that
character. -/

/-- the typewriter's position is the path's, whatever the buffer holds -/
theorem C15_write_cursor (buf : Grid) (text : List Char) (row col : Nat) (width : Option Int) (block : Bool) :
    ((typewrite buf text row col width block).x, (typewrite buf text row col width block).y) =
      text.foldl (advance col width block) (row, col) :=
  foldl_twStep_pos col width block text { buf := buf, x := row, y := col }

/-- the `i`-th character of the text, unless it is a line break, ends up in the cell at the `i`-th
path position -/
theorem C15_write_cell (buf : Grid) (text : List Char) (row col : Nat) (width : Option Int) (block : Bool)
    (i : Nat) (hi : i < text.length) (hc : text[i] ≠ '\n') :
    cell (typewrite buf text row col width block).buf
      ((pathFrom col width block (row, col) text).getD i (0, 0)).1
      ((pathFrom col width block (row, col) text).getD i (0, 0)).2 = some text[i] :=
  foldl_twStep_cell col width block text { buf := buf, x := row, y := col } i hi hc

/-- reading order: the path positions are strictly increasing (row first, then column) — every
character, line break or wrap moves the typewriter forward, so no cell is typed at twice -/
theorem C15_path_increasing (text : List Char) (row col : Nat) (width : Option Int) (block : Bool)
    (i j : Nat) (hij : i < j) (hj : j < text.length) :
    ((pathFrom col width block (row, col) text).getD i (0, 0)).1 <
        ((pathFrom col width block (row, col) text).getD j (0, 0)).1 ∨
      (((pathFrom col width block (row, col) text).getD i (0, 0)).1 =
          ((pathFrom col width block (row, col) text).getD j (0, 0)).1 ∧
        ((pathFrom col width block (row, col) text).getD i (0, 0)).2 <
          ((pathFrom col width block (row, col) text).getD j (0, 0)).2) :=
  path_increasing_gen col width block text (row, col) i j hij hj

/-- the path wraps at `col + width`: with a width `w ≥ 1` every character is typed left of column
`col + w` as long as the write starts there and returns to `col` (block mode) or to column 0 with
`col = 0` -/
theorem C15_path_within (text : List Char) (row col : Nat) (w : Nat) (hw : 1 ≤ w) (block : Bool)
    (hb : block = true ∨ col = 0) (i : Nat) (hi : i < text.length) :
    ((pathFrom col (some (w : Int)) block (row, col) text).getD i (0, 0)).2 < col + w ∧
    col ≤ ((pathFrom col (some (w : Int)) block (row, col) text).getD i (0, 0)).2 :=
  path_within_gen col block w hw hb text (row, col) i ⟨Nat.lt_add_of_pos_right hw, Nat.le_refl _⟩ hi

/-- a cell that is on no path position of a non-newline character is what it was, or a blank / absent
if it did not exist -/
theorem C15_write_frame (buf : Grid) (text : List Char) (row col : Nat) (width : Option Int) (block : Bool)
    (r c : Nat)
    (hoff : ∀ i, (hi : i < text.length) → text[i] ≠ '\n' →
      (pathFrom col width block (row, col) text).getD i (0, 0) ≠ (r, c)) :
    cell (typewrite buf text row col width block).buf r c = cell buf r c ∨
      (cell buf r c = none ∧
        (cell (typewrite buf text row col width block).buf r c = some ' ' ∨
         cell (typewrite buf text row col width block).buf r c = none)) :=
  foldl_twStep_frame col width block r c text { buf := buf, x := row, y := col } hoff

/-- writing the empty text changes nothing, cursor included -/
theorem C15_write_empty (s : WSt) (row col : Nat) (width : Option Int) (block : Bool) (m : Option Nat) :
    s.writeAt [] row col width block m = s := by
  simp [WSt.writeAt]

/-! Non-vacuity -/
example : (({ buf := ["abc".toList, "d".toList], cur := (0, 0) } : WSt).drawAt ["XY".toList, [], "Z".toList] 1 2 true) =
    { buf := ["abc".toList, "d XY".toList, [' ', ' '], "  Z".toList], cur := (4, 2) } := by decide +kernel

example : (({ buf := ["abc".toList], cur := (0, 0) } : WSt).writeAt "hi\nxyz".toList 0 1 (some 2) true) =
    { buf := ["ahi".toList, [], " xy".toList, " z".toList], cur := (3, 2) } := by
  lits
  decide +kernel

end Simpleline
