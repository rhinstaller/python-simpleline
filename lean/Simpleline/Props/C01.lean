/-
  C01 — Signals are dispatched by priority, first-in first-out within a priority.

  Property theorems only; helper lemmas live in `Simpleline/Lemmas/Loop*.lean`, vocabulary in
  `Simpleline/Spec/LoopSpec.lean`.

  `EQueue` is `EventQueue`: `entries` are triples (priority, arrival number, signal), `put` is
  `EventQueue.enqueue`.  A queue *object* is an index into `c.L.queues` (`c.queue q`); the trace event
  `.enq q s` records that `MainLoop.enqueue_signal` put `s` into queue object `q`, `.take q s` that
  one of the three consumers (`_mainloop`'s get, `process_signals(return_after=…)`, the partial
  `process_signals()`) removed `s` from `q` for dispatch, `.putBack q s` that the partial
  `process_signals()` looked at `s` and re-queued it.
-/
import Simpleline.Lemmas.LoopProps

namespace Simpleline

/-- Enqueueing keeps a queue well-formed: entries strictly ordered by (priority, arrival number),
arrival numbers below the counter, stored priorities equal to the signals' priorities. -/
theorem C01_put_sorted (q : EQueue) (s : Sig) (h : q.Sorted) : (q.put s).Sorted :=
  put_sorted s h

/-- Where an enqueued signal goes: behind every pending entry that is at least as urgent — in
particular behind every earlier signal of its own priority — and in front of every less urgent one;
nothing else moves. -/
theorem C01_put_place (q : EQueue) (s : Sig) (h : q.Sorted) :
    (q.put s).entries =
      q.entries.filter (fun x => x.1 ≤ s.prio) ++ [(s.prio, q.seq, s)] ++ q.entries.filter (fun x => s.prio < x.1) :=
  put_place s h

/-- In a well-formed queue the head is strictly before every other entry in dispatch order: nothing
pending is more urgent, and nothing of equal priority arrived earlier. -/
theorem C01_head_min (q : EQueue) (h : q.Sorted) (e : QEntry) (es : List QEntry) (he : q.entries = e :: es) :
    ∀ e' ∈ es, entryLt e e' :=
  sorted_head_min h he

/-- Arrival numbers are handed out in increasing order: `put` gives the new entry the current counter
value — larger than every pending entry's number — and increments the counter; every other entry of the
result is an old one, and the old entries keep their relative order. -/
theorem C01_arrival_order (q : EQueue) (s : Sig) (h : q.Sorted) :
    (q.put s).seq = q.seq + 1 ∧ (s.prio, q.seq, s) ∈ (q.put s).entries ∧
      (∀ e ∈ q.entries, e.2.1 < q.seq) ∧
      (∀ e ∈ (q.put s).entries, e = (s.prio, q.seq, s) ∨ e ∈ q.entries) ∧
      q.entries.Sublist (q.put s).entries :=
  ⟨rfl, mem_insertEntry.2 (.inl rfl), h.fresh, fun _ he => mem_insertEntry.1 he, insertEntry_sublist _ _⟩

/-- Hence in a well-formed queue: an entry nearer the head is at least as urgent as one further
back, and of two entries of equal priority the one nearer the head arrived (was enqueued) first. -/
theorem C01_fifo_within_priority (q : EQueue) (h : q.Sorted) (i j : Nat) (hij : i < j) (hj : j < q.entries.length) :
    q.entries[i].1 ≤ q.entries[j].1 ∧ (q.entries[i].1 = q.entries[j].1 → q.entries[i].2.1 < q.entries[j].2.1) := by
  rcases (List.pairwise_iff_getElem.1 h.ordered) i j (Nat.lt_trans hij hj) hj hij with h | ⟨h1, h2⟩
  · exact ⟨Int.le_of_lt h, fun e => absurd e (Int.ne_of_lt h)⟩
  · exact ⟨Int.le_of_eq h1, fun _ => h2⟩

/-- In every reachable configuration every queue object (every level of every nesting depth, also
closed ones) is well-formed. -/
theorem C01_queues_sorted (P : Prog) (c0 c : Cfg) (h0 : Started c0) (hr : Reach P c0 c) :
    ∀ q ∈ c.L.queues, q.Sorted := by
  intro q hq
  obtain ⟨i, hi, rfl⟩ := List.mem_iff_getElem.1 hq
  have heq : c.view.queue i = c.L.queues[i] := by
    show c.L.queues.getD i {} = _
    rw [List.getD_eq_getElem?_getD, List.getElem?_eq_getElem hi]; rfl
  exact heq ▸ (WF.reach h0 hr).sorted i

/-- Every transition out of a reachable configuration that takes a signal `s` from queue object `q`
for dispatch (whichever of the three consumers does it) takes the head of the *active* queue: with
`cm` the configuration at the moment of the take — `c` itself, or `c` after the reader thread's
delivery that `get` waited for because the active queue was empty — `q` is `cm`'s active queue, `s`
is its head entry's signal, every other pending entry `e'` of that queue comes strictly later in
dispatch order (is less urgent, or equally urgent and enqueued later), afterwards the queue holds
exactly the tail, no other queue object changes, and the take is the last event of the transition. -/
theorem C01_take_is_head (P : Prog) (c0 c c' : Cfg) (h0 : Started c0) (hr : Reach P c0 c) (ht : Trans P c c')
    (q : Nat) (s : Sig) (hm : Tr.take q s ∈ newTr c c') :
    ∃ cm : Cfg, (cm = c ∨ ((c.queue c.L.active).entries = [] ∧ c.deliver = some cm)) ∧
      q = cm.L.active ∧
      ∃ e es, (cm.queue q).entries = e :: es ∧ e.2.2 = s ∧ (∀ e' ∈ es, entryLt e e') ∧
        (c'.queue q).entries = es ∧ (∀ q', q' ≠ q → c'.queue q' = cm.queue q') ∧
        c'.tr = .take q s :: cm.tr := by
  obtain ⟨f⟩ := eff_take (trans_eff ht) hm
  obtain ⟨cm, hcm, hv⟩ : ∃ cm : Cfg, (cm = c ∨ ((c.queue c.L.active).entries = [] ∧ c.deliver = some cm)) ∧
      f.vm = cm.view := by
    rcases f.first with h1 | ⟨h1, d, hd, h2⟩
    · exact ⟨c, .inl rfl, h1⟩
    · exact ⟨d, .inr ⟨h1, hd⟩, h2⟩
  have wf : WF f.vm := (WF.reach h0 hr).plain f.plain
  have hq := takeV_queue f.takeV
  refine ⟨cm, hcm, by rw [f.active, hv]; rfl, f.e, f.es, by rw [← f.entries, hv]; rfl, f.sig,
    sorted_head_min (wf.sorted q) f.entries, ?_, ?_, ?_⟩
  · show (c'.view.queue q).entries = _
    rw [hq q, if_pos f.active.symm]
    show (f.vm.queue q).entries.tail = _
    rw [f.entries]; rfl
  · intro q' hne
    show c'.view.queue q' = _
    rw [hq q', if_neg (by rw [← f.active]; exact fun h => hne h.symm), hv]; rfl
  · have : c'.view.tr = _ := congrArg QView.tr f.after
    rw [view_tr] at this
    rw [this, hv]; rfl

/-- In particular: no signal is taken for dispatch while a more urgent one is pending in the same
queue — every signal still pending in `q` after the take has a priority value at least that of the
taken one. -/
theorem C01_no_more_urgent_pending (P : Prog) (c0 c c' : Cfg) (h0 : Started c0) (hr : Reach P c0 c)
    (ht : Trans P c c') (q : Nat) (s : Sig) (hm : Tr.take q s ∈ newTr c c') :
    ∀ s' ∈ (c'.queue q).sigs, s.prio ≤ s'.prio := by
  obtain ⟨cm, hcm, _, e, es, he, hs, hmin, hes, _, _⟩ := C01_take_is_head P c0 c c' h0 hr ht q s hm
  have srt := (WF.reach h0 (moment_static hr hcm).1).sorted q
  intro s' hs'
  unfold EQueue.sigs at hs'
  rw [hes] at hs'
  obtain ⟨e', he', rfl⟩ := List.mem_map.1 hs'
  have h1 := entryLt_prio_le (hmin e' he')
  have h2 : e.1 = e.2.2.prio := srt.prio e (by show e ∈ (cm.queue q).entries; rw [he]; simp)
  have h3 : e'.1 = e'.2.2.prio := srt.prio e' (by show e' ∈ (cm.queue q).entries; rw [he]; simp [he'])
  rw [← hs]; omega

/-- For every transition (no reachability needed) and every queue object `q`: either every entry of
`q` is still there afterwards in the same relative order (new ones may have been inserted), or the
transition took a signal from `q`, `q` is the active queue and exactly the head was removed. No queue
object is ever destroyed (`force_quit` empties the list of levels, not the queue objects). -/
theorem C01_only_head_removed (P : Prog) (c c' : Cfg) (ht : Trans P c c') (q : Nat) :
    c.L.queues.length ≤ c'.L.queues.length ∧
    ((c.queue q).entries.Sublist (c'.queue q).entries ∨
      ((∃ s, Tr.take q s ∈ newTr c c') ∧ q = c.L.active ∧
        (c'.queue q).entries = (c.queue q).entries.tail)) :=
  ⟨(eff_frame (trans_eff ht) q).1, eff_entries (trans_eff ht) q⟩

/-- A transition that adds a `.putBack q s` event (the partial "process the top priority batch" call
finding a head of another priority) leaves every queue object — contents and order — exactly as it
was: `s` is still the head of the active queue `q`. It adds the events `.putBack`, `.procEnd` only. -/
theorem C01_putback_keeps_place (P : Prog) (c c' : Cfg) (ht : Trans P c c') (q : Nat) (s : Sig)
    (hm : Tr.putBack q s ∈ newTr c c') :
    q = c.L.active ∧ (∃ e es, (c.queue q).entries = e :: es ∧ e.2.2 = s) ∧
      c'.L.queues = c.L.queues ∧ c'.L.levels = c.L.levels ∧ c'.L.active = c.L.active ∧
      newTr c c' = [.procEnd, .putBack q s] := by
  obtain ⟨vm, new, f, hp, hl, hn⟩ := (trans_eff ht).split
  rw [hn] at hm
  rcases List.mem_append.1 hm with hm | hm
  · cases hl with
    | putBack hvm e es he hv =>
      subst hvm
      -- the `Plain` part is empty, so it adds no event
      have h0 : f.new2 ++ f.new1 = [] := List.append_left_eq_self.1 f.tr.symm
      simp only [List.mem_cons, reduceCtorEq, Tr.putBack.injEq, List.not_mem_nil, or_false, false_or] at hm
      obtain ⟨rfl, rfl⟩ := hm
      exact ⟨rfl, ⟨e, es, he, rfl⟩, congrArg QView.queues hv, congrArg QView.levels hv,
        congrArg QView.active hv, by rw [hn, h0]; rfl⟩
    | _ => simp at hm
  · exact (PlainEv.not_putBack (f.ev _ hm)).elim

/-- End to end, in terms of the history only: in every reachable configuration the signals pending in
each queue object `q` (any nesting depth) are exactly what a *stable priority queue* holds after the
history's `.enq q _` events (insert behind everything at least as urgent, `stableInsert`) and
`.take q _` events (remove the head) — wherever the enqueues came from (start-up code, handlers at
any level, the reader thread, exception signals) — and every `.take q s` of the history removed the
head `s` of that stable priority queue. -/
theorem C01_history (P : Prog) (c0 c : Cfg) (h0 : Started c0) (hr : Reach P c0 c) :
    (∀ q, (c.queue q).sigs = replayQ q c.tr) ∧ TakesAreHeads c.tr :=
  ⟨(WF.reach h0 hr).replay, (WF.reach h0 hr).heads⟩

/-- The head of a stable priority queue is a most urgent pending signal, and `stableInsert` never
puts a signal in front of a pending one that is at least as urgent (so equal priorities leave in
enqueue order). -/
theorem C01_stableInsert_spec (s : Sig) (l : List Sig) :
    ∃ l1 l2, stableInsert s l = l1 ++ s :: l2 ∧ (∀ x ∈ l1, x.prio ≤ s.prio) ∧ (∀ x ∈ l2, s.prio < x.prio) ∧
      l1.Sublist l ∧ l2.Sublist l :=
  ⟨_, _, rfl, fun x hx => by simpa using (List.mem_filter.1 hx).2, fun x hx => by simpa using (List.mem_filter.1 hx).2,
    List.filter_sublist, List.filter_sublist⟩

/-- three signals of equal priority enqueued before the loop runs, then an urgent one -/
def C01_exP : Prog := { cc := asciiClass, runEmpty := true }

def C01_exC : Cfg :=
  initCfg [.enq (.user 0) 0 .none 1, .enq (.user 0) 0 .none 2, .enq (.user 0) 0 .none 3,
    .enq (.user 0) (-10) .none 4] [] none []

/-- dispatch order: the urgent signal first, then the three in enqueue order -/
example : (takesOf (runFuel C01_exP 100 C01_exC).1.tr).map (fun p => (p.1, p.2.id)) =
    [(0, 4), (0, 1), (0, 2), (0, 3)] := by
  decide +kernel

/-- a handler (for signal 1) enqueues 10, 13 (priority 5) and 11, 12 (priority -5) and calls the partial
`process_signals()` while 2 (priority 0) is pending -/
def C01_exP2 : Prog where
  cc := asciiClass
  runEmpty := true
  handlerScript := fun hid n =>
    if hid = 0 ∧ n = 0 then
      [.enq (.user 1) 5 .none 10, .enq (.user 1) (-5) .none 11, .enq (.user 1) (-5) .none 12,
       .enq (.user 1) 5 .none 13, .proc none]
    else []

def C01_exC2 : Cfg :=
  initCfg [.enq (.user 0) 0 .none 1, .enq (.user 0) 0 .none 2] [(.user 0, .user 0, none)] none []

/-- the batch 11, 12 is dispatched inside the handler, 2 is looked at and put back, and is dispatched —
still before 10 and 13 — when the handler has returned -/
example :
    (takesOf (runFuel C01_exP2 200 C01_exC2).1.tr).map (fun p => (p.1, p.2.id)) =
      [(0, 1), (0, 11), (0, 12), (0, 2), (0, 10), (0, 13)] ∧
    (runFuel C01_exP2 200 C01_exC2).1.tr.filterMap
      (fun t => match t with | .putBack q s => some (q, s.id) | _ => none) = [(0, 2)] := by
  decide +kernel

end Simpleline
