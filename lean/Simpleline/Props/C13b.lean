/-
  C13b — the hypothesis `LayoutOK` of the placement theorems of C13 follows from the render itself.

  `C13_place_items` / `C13_place_labels` assume `LayoutOK used labels grids` ("everything that is drawn
  respects the room it was rendered for").  Here that hypothesis is discharged for every successful
  `render` of a list container whose items respect the width they are given (text widgets first of
  all), under one side condition on the key pattern (`KeyPat.Plain`: no line break and no tab around
  the number), which is needed only for the clause "a label is at most one row high".

  Vocabulary (`Spec/LayoutOKSpec.lean`): `ListShape … r items' labels` bundles the facts
  `C13_render_shape` gives about a successful render `r`; `RespectsWidth cc it w` says that every row
  of a successful rendering of `it` at width `w` is at most `w` long; `Wd.Fits` is a decidable
  sufficient condition on the widget tree; `WidthOK` is `LayoutOK` without the one-row clause.
  Property theorems only; helper lemmas live in `Simpleline/Lemmas/LayoutOK*.lean`.
-/
import Simpleline.Props.C13
import Simpleline.Lemmas.LayoutOKExamples
import Simpleline.Lemmas.LayoutOKFits
import Simpleline.Lemmas.LayoutOKPlace
import Simpleline.Lemmas.Literals

namespace Simpleline

/-! ### the shape of a successful render, as a structure -/

/-- `C13_render_shape` once more: a successful render of a list container has rendered items
`items'` and number labels `labels` with the five facts bundled in `ListShape`. -/
theorem C13_list_shape (cc : CharClass) (st : WSt) (cm : Bool) (columns : Nat) (cw : Option Int)
    (spacing : Nat) (kp : Option KeyPat) (u : Option Int) (nw : List NumW) (items : List Wd) (w : Int) (r : Wd)
    (h : (Wd.list st cm columns cw spacing kp u nw items).render cc w = .ok r) :
    ∃ (items' : List Wd) (labels : List (Option NumW)),
      ListShape cc cm columns cw spacing kp items w r items' labels :=
  shape_of_render h

/-- The label of item `i` is as long as the text `kp.label i` (`kpLabelLen`: 0 without numbering): this
is how far right of its band's left edge the item is drawn. -/
theorem C13_label_len {cc : CharClass} {cm : Bool} {columns : Nat} {cw : Option Int} {spacing : Nat}
    {kp : Option KeyPat} {items : List Wd} {w : Int} {r : Wd} {items' : List Wd} {labels : List (Option NumW)}
    (sh : ListShape cc cm columns cw spacing kp items w r items' labels) (i : Nat) (hi : i < items.length) :
    labelLen labels i = kpLabelLen kp i :=
  shape_labelLen sh i hi

/-- A list container with at least one item renders successfully only if it has at least one column,
the columns width in use is positive and every number label leaves at least one character of room for
its item (otherwise Python raises `ValueError` / `ZeroDivisionError`: `C13_refuse`). -/
theorem C13_list_room (cc : CharClass) (st : WSt) (cm : Bool) (columns : Nat) (cw : Option Int)
    (spacing : Nat) (kp : Option KeyPat) (u : Option Int) (nw : List NumW) (items : List Wd) (w : Int) (r : Wd)
    (hne : items ≠ []) (h : (Wd.list st cm columns cw spacing kp u nw items).render cc w = .ok r) :
    1 ≤ columns ∧ 0 < usedWidth cw columns spacing w ∧
    ∀ k, kp = some k → ∀ i, i < items.length → 0 < usedWidth cw columns spacing w - (k.label i).length :=
  list_ok_room hne h

/-! ### number labels rendered at their own length -/

/-- Any text rendered at any width (C11 for an integer width): every row is at most `w` long. -/
theorem C13_text_rows (cc : CharClass) (st : WSt) (t : List Char) (w : Int) (s : WSt)
    (h : renderTextSt cc st t w = .ok s) : ∀ row ∈ s.buf, row.length ≤ w.toNat :=
  render_width_int cc st t w s h

/-- Every row of a number label (a `TextWidget` rendered at the length of its own text) is at most as
long as the label text — for every key pattern. (A label such as `"1) "` renders to the shorter row
`"1)"`: the trailing blank is dropped by `textwrap`.) -/
theorem C13_label_fits (cc : CharClass) (lbl : List Char) (s : WSt)
    (h : renderTextSt cc {} lbl lbl.length = .ok s) : ∀ row ∈ s.buf, row.length ≤ lbl.length :=
  render_width_int cc {} lbl lbl.length s h

/-- A text without a line break which, tabs expanded, is no longer than the width renders to at most
one row (`textwrap` puts all its chunks on the first line). -/
theorem C13_one_row (cc : CharClass) (st : WSt) (t : List Char) (w : Nat) (hw : 1 ≤ w)
    (hnl : '\n' ∉ t) (hlen : (munge t).length ≤ w) (s : WSt)
    (h : renderTextSt cc st t w = .ok s) : s.buf.length ≤ 1 :=
  render_one_row cc st t w hw hnl hlen s h

/-- The number label of a key pattern with no line break and no tab around the number is at most one
row high, whatever the number. -/
theorem C13_label_one_row (cc : CharClass) (k : KeyPat) (hk : k.Plain) (i : Nat) (s : WSt)
    (h : renderTextSt cc {} (k.label i) (k.label i).length = .ok s) : s.buf.length ≤ 1 :=
  label_render_one_row cc k hk i s h

/-! ### widgets that respect their width -/

/-- A `TextWidget` never exceeds the width it is rendered at (C11). -/
theorem C13_respects_text (cc : CharClass) (st : WSt) (t : List Char) (w : Int) :
    RespectsWidth cc (.text st t) w :=
  respects_text cc st t w

/-- A `SeparatorWidget` renders empty rows. -/
theorem C13_respects_sep (cc : CharClass) (st : WSt) (n : Nat) (w : Int) :
    RespectsWidth cc (.sep st n) w :=
  respects_sep cc st n w

/-- A `CenterWidget` never exceeds its width, whatever its child: in the model a child wider than
the width is refused (`outOfDomain`: Python would compute a negative column), otherwise the child is
drawn at column `(w - child width) / 2`. -/
theorem C13_respects_center (cc : CharClass) (st : WSt) (child : Wd) (w : Int) :
    RespectsWidth cc (.center st child) w :=
  respects_center cc st child w

/-- A `CheckboxWidget` stays within its width if the width is at least 3 (the box `[x]`) or if it has
a non-empty title or text (then the title/text is rendered at `w - 4`, which raises `ValueError`
unless `w ≥ 5`). See `C13_checkbox_overflows` for the excluded case. -/
theorem C13_respects_checkbox (cc : CharClass) (st : WSt) (key : List Char) (title text : Option (List Char))
    (completed : Bool) (w : Int)
    (hyp : 3 ≤ w ∨ (truthy title).isSome = true ∨ (truthy text).isSome = true) :
    RespectsWidth cc (.checkbox st key title text completed) w :=
  respects_checkbox cc st key title text completed w hyp

/-- A `WindowContainer` stays within its width if its items do (title and items are rendered at the
window's width and drawn from column 0). -/
theorem C13_respects_window (cc : CharClass) (st : WSt) (title : Option (List Char)) (items : List Wd) (w : Int)
    (hfit : ∀ it ∈ items, RespectsWidth cc it w) : RespectsWidth cc (.window st title items) w :=
  respects_window cc st title items w hfit

/-- A list container with no forced columns width stays within the width it is rendered at if its
items respect theirs (item `i` is rendered at the columns width minus the length of its label) — for
every key pattern, any number of columns and any spacing: the whole drawing, not only the bands of
`C13_within_width`, ends at or before column `w`. -/
theorem C13_respects_list (cc : CharClass) (st : WSt) (cm : Bool) (columns spacing : Nat)
    (kp : Option KeyPat) (u : Option Int) (nw : List NumW) (items : List Wd) (w : Int)
    (hfit : ∀ i, (hi : i < items.length) →
      RespectsWidth cc items[i] (usedWidth none columns spacing w - kpLabelLen kp i)) :
    RespectsWidth cc (.list st cm columns none spacing kp u nw items) w :=
  respects_list cc st cm columns spacing kp u nw items w hfit

/-- The decidable predicate `Wd.Fits` (text, separators, centered widgets, checkboxes with a title or
text, windows and unforced list containers of such widgets, nested to any depth) is sufficient for
respecting every width. -/
theorem C13_fits_respects (cc : CharClass) (it : Wd) (hf : it.Fits = true) (w : Int) :
    RespectsWidth cc it w :=
  fits_respects cc it hf w

/-- Excluded case 1: a checkbox without title and text does not look at its width — at width 2 the
box `[x]` is 3 characters wide. -/
theorem C13_checkbox_overflows :
    ¬ RespectsWidth asciiClass (.checkbox {} ['x'] none none true) 2 :=
  not_respects_of_row [['[', 'x', ']']] (by decide +kernel) ['[', 'x', ']'] (by simp) (by decide)

/-- Excluded case 2: a forced columns width is used as it is, whatever the width of the render — a
one-column list with `columns_width = 10` rendered at width 3 draws the 8-character word unbroken.
This is why `C13_within_width`, `C13_respects_list` and `Wd.Fits` ask for no forced width. -/
theorem C13_forced_width_overflows :
    ¬ RespectsWidth asciiClass
      (.list {} false 1 (some 10) 0 none none [] [.text {} ['a', 'a', 'a', 'a', 'a', 'a', 'a', 'a']]) 3 :=
  not_respects_of_row [['a', 'a', 'a', 'a', 'a', 'a', 'a', 'a']] (by decide +kernel)
    ['a', 'a', 'a', 'a', 'a', 'a', 'a', 'a'] (by simp) (by decide)

/-- A centered widget whose child comes out wider than the width is outside the model's domain
(`outOfDomain`; Python would compute a negative column), so `C13_respects_center` says nothing about
it: here the child is the checkbox of `C13_checkbox_overflows`. -/
theorem C13_center_wide_child_refused :
    errOf ((Wd.center {} (.checkbox {} ['x'] none none true)).render asciiClass 2) = some .outOfDomain := by
  decide +kernel

/-! Non-vacuity of `Wd.Fits`: a numbered column-major list holding a window (title, text, separator), a
nested two-column list, a checkbox with a title and a centered text satisfies `Wd.Fits` and renders at
width 30 (columns width 14, items rendered at width 11) without a row longer than 30. -/
example :
    (fun nested : Wd =>
      nested.Fits = true ∧
      (nested.render asciiClass 30).toOption.map Wd.lines =
        some ["1) T            3) [x] title".toList, "   ".toList, "   hello world".toList, "   ".toList,
              "2) ab    cd ef  4)     mid".toList])
      (.list {} true 2 none 2 (some {}) none []
        [ .window {} (some "T".toList) [.text {} "hello world".toList, .sep {} 1],
          .list {} false 2 none 1 none none [] [.text {} "ab".toList, .text {} "cd ef".toList],
          .checkbox {} ['x'] (some "title".toList) none true,
          .center {} (.text {} "mid".toList) ]) := by
  lits
  decide +kernel

/-! ### `LayoutOK` from the render -/

/-- All the width clauses of `LayoutOK` (`WidthOK`: positive columns width, every item row plus its
label within the columns width, every label row within the label's length, room left by the label)
hold for every successful render of a non-empty list container whose items respect the widths they
are rendered at — with *any* key pattern. -/
theorem C13_width_ok (cc : CharClass) (st : WSt) (cm : Bool) (columns : Nat) (cw : Option Int)
    (spacing : Nat) (kp : Option KeyPat) (u : Option Int) (nw : List NumW) (items : List Wd) (w : Int) (r : Wd)
    (items' : List Wd) (labels : List (Option NumW)) (hne : items ≠ [])
    (h : (Wd.list st cm columns cw spacing kp u nw items).render cc w = .ok r)
    (sh : ListShape cc cm columns cw spacing kp items w r items' labels)
    (hfit : ∀ i, (hi : i < items.length) →
      RespectsWidth cc items[i] (usedWidth cw columns spacing w - kpLabelLen kp i)) :
    WidthOK (usedWidth cw columns spacing w) labels (items'.map Wd.lines) :=
  widthOK_of_render (fun e => absurd e hne) h sh hfit

/-- `LayoutOK` holds for every successful render of a list container (row or column kind, any number
of columns, any spacing, numbered or not, forced or computed columns width) whose items respect the
widths they are rendered at, provided the key pattern is plain. The hypothesis `h0` is only about the
empty container, which renders successfully at any width without checking that the columns width is
positive (`C13_layout_ok_needs_items`). -/
theorem C13_layout_ok (cc : CharClass) (st : WSt) (cm : Bool) (columns : Nat) (cw : Option Int)
    (spacing : Nat) (kp : Option KeyPat) (u : Option Int) (nw : List NumW) (items : List Wd) (w : Int) (r : Wd)
    (items' : List Wd) (labels : List (Option NumW)) (hkp : kpPlain kp)
    (h0 : items = [] → 0 < usedWidth cw columns spacing w)
    (h : (Wd.list st cm columns cw spacing kp u nw items).render cc w = .ok r)
    (sh : ListShape cc cm columns cw spacing kp items w r items' labels)
    (hfit : ∀ i, (hi : i < items.length) →
      RespectsWidth cc items[i] (usedWidth cw columns spacing w - kpLabelLen kp i)) :
    LayoutOK (usedWidth cw columns spacing w) labels (items'.map Wd.lines) :=
  layoutOK_of_widthOK
    (widthOK_of_render h0 h sh hfit)
    (fun i hi => shape_label_rows sh hkp i (shape_grids_length sh ▸ hi))

/-- `LayoutOK` for list containers of `TextWidget`s: no hypothesis about the rendering is left. -/
theorem C13_layout_ok_text_items (cc : CharClass) (st : WSt) (cm : Bool) (columns : Nat) (cw : Option Int)
    (spacing : Nat) (kp : Option KeyPat) (u : Option Int) (nw : List NumW) (items : List Wd) (w : Int) (r : Wd)
    (items' : List Wd) (labels : List (Option NumW)) (hkp : kpPlain kp)
    (htext : ∀ it ∈ items, it.isText = true)
    (h0 : items = [] → 0 < usedWidth cw columns spacing w)
    (h : (Wd.list st cm columns cw spacing kp u nw items).render cc w = .ok r)
    (sh : ListShape cc cm columns cw spacing kp items w r items' labels) :
    LayoutOK (usedWidth cw columns spacing w) labels (items'.map Wd.lines) :=
  C13_layout_ok cc st cm columns cw spacing kp u nw items w r items' labels hkp h0 h sh
    (fun i hi => text_items_respect cc items htext i hi _)

/-- `LayoutOK` for list containers of arbitrary item trees satisfying the decidable `Wd.Fits`. -/
theorem C13_layout_ok_fits (cc : CharClass) (st : WSt) (cm : Bool) (columns : Nat) (cw : Option Int)
    (spacing : Nat) (kp : Option KeyPat) (u : Option Int) (nw : List NumW) (items : List Wd) (w : Int) (r : Wd)
    (items' : List Wd) (labels : List (Option NumW)) (hkp : kpPlain kp)
    (hf : ∀ it ∈ items, it.Fits = true)
    (h0 : items = [] → 0 < usedWidth cw columns spacing w)
    (h : (Wd.list st cm columns cw spacing kp u nw items).render cc w = .ok r)
    (sh : ListShape cc cm columns cw spacing kp items w r items' labels) :
    LayoutOK (usedWidth cw columns spacing w) labels (items'.map Wd.lines) :=
  C13_layout_ok cc st cm columns cw spacing kp u nw items w r items' labels hkp h0 h sh
    (fun _ hi => fits_respects cc _ (hf _ (List.getElem_mem hi)) _)

/-! ### the side conditions are needed -/

/-- A line break in the key pattern: the label `"1\n)"` of the pattern `"{:d}\n)"` renders to two
rows, so `LayoutOK` (clause `label_rows`) fails for a render that succeeds. -/
theorem C13_layout_ok_needs_no_newline :
    (∃ r, (Wd.list {} false 1 none 0 (some { pre := [], post := ['\n', ')'] }) none []
        [.text {} ['x']]).render asciiClass 10 = .ok r) ∧
    ∀ r items' labels,
      ListShape asciiClass false 1 none 0 (some { pre := [], post := ['\n', ')'] })
        [.text {} ['x']] 10 r items' labels →
      ¬ LayoutOK (usedWidth none 1 0 10) labels (items'.map Wd.lines) :=
  ⟨render_ok_of_isSome _ (by decide +kernel),
   fun _ _ _ sh => not_layoutOK_of_label_rows sh 0 (by decide) 2 (by decide) (by decide +kernel)⟩

/-- In general: a text with a line break renders to at least two rows at any width ≥ 1 … -/
theorem C13_newline_two_rows (cc : CharClass) (st : WSt) (t : List Char) (w : Nat) (hw : 1 ≤ w)
    (hnl : '\n' ∈ t) (s : WSt) (h : renderTextSt cc st t w = .ok s) : 2 ≤ s.buf.length :=
  render_newline_rows cc st t w hw hnl s h

/-- … so with a line break anywhere in the key pattern *no* render of a non-empty list container
satisfies `LayoutOK`: for line breaks the side condition `KeyPat.Plain` is exact. -/
theorem C13_layout_ok_never_with_newline {cc : CharClass} {cm : Bool} {columns : Nat} {cw : Option Int}
    {spacing : Nat} {k : KeyPat} {items : List Wd} {w : Int} {r : Wd} {items' : List Wd}
    {labels : List (Option NumW)}
    (sh : ListShape cc cm columns cw spacing (some k) items w r items' labels)
    (hne : items ≠ []) (hnl : '\n' ∈ k.pre ++ k.post) :
    ¬ LayoutOK (usedWidth cw columns spacing w) labels (items'.map Wd.lines) :=
  not_layoutOK_of_newline sh hne hnl

/-- A tab in the key pattern: `textwrap` expands it to blanks *after* the label's length was taken as
the width, so the label `"1\t)"` of the pattern `"{:d}\t)"` no longer fits and renders to two rows.
(Unlike a line break a tab is not always fatal: one that happens to expand to a single blank keeps the
label on one row by `C13_one_row`, and so does a leading or trailing tab, whose blanks `textwrap`
drops. `KeyPat.Plain` excludes every tab.) -/
theorem C13_layout_ok_needs_no_tab :
    (∃ r, (Wd.list {} false 1 none 0 (some { pre := [], post := ['\t', ')'] }) none []
        [.text {} ['x']]).render asciiClass 10 = .ok r) ∧
    ∀ r items' labels,
      ListShape asciiClass false 1 none 0 (some { pre := [], post := ['\t', ')'] })
        [.text {} ['x']] 10 r items' labels →
      ¬ LayoutOK (usedWidth none 1 0 10) labels (items'.map Wd.lines) :=
  ⟨render_ok_of_isSome _ (by decide +kernel),
   fun _ _ _ sh => not_layoutOK_of_label_rows sh 0 (by decide) 2 (by decide) (by decide +kernel)⟩

/-- The empty container renders successfully at width 0 although the columns width in use is 0:
`LayoutOK` (clause `used_pos`) fails, whence the hypothesis `h0` of `C13_layout_ok`. -/
theorem C13_layout_ok_needs_items :
    (∃ r, (Wd.list {} false 1 none 0 none none [] []).render asciiClass 0 = .ok r) ∧
    ∀ labels grids, ¬ LayoutOK (usedWidth none 1 0 0) labels grids :=
  ⟨render_ok_of_isSome _ (by decide +kernel), fun _ _ ok => absurd ok.used_pos (by decide)⟩

/-! ### placement for a successful render

The clause `label_rows` of `LayoutOK` ("a label is at most one row high") is not used by the placement
proofs: they go through with `WidthOK` (`LayoutOK` without that clause), which holds for every key
pattern (`C13_width_ok`). So items and labels are placed as computed also when a label wraps to several
rows; the label then occupies the first rows of its cell, every row from the band's left edge. -/

/-- `LayoutOK` implies `WidthOK` (it is `WidthOK` plus the one-row clause). -/
theorem C13_width_ok_of_layout_ok {used : Int} {labels : List (Option NumW)} {grids : List Grid}
    (ok : LayoutOK used labels grids) : WidthOK used labels grids :=
  widthOK_of_layoutOK ok

/-- `C13_place_items` from `WidthOK` alone: labels of any height. -/
theorem C13_place_items_any_labels (cm : Bool) (columns : Nat) (hc : 1 ≤ columns) (used : Int) (spacing : Nat)
    (labels : List (Option NumW)) (grids : List Grid) (rowH : Nat → Nat)
    (wo : WidthOK used labels grids)
    (hH : ∀ i, (hi : i < grids.length) →
      max grids[i].length (labelBuf labels i).length ≤ rowH (cellOf cm columns grids.length i).1)
    (i : Nat) (hi : i < grids.length) (a b : Nat) (ha : a < grids[i].length) (hb : b < (grids[i][a]).length) :
    cell (drawColumns used spacing labels grids rowH (orderedMap cm columns grids.length) {} 0).buf
      (rowTop rowH (cellOf cm columns grids.length i).1 + a)
      (colLeft used spacing (cellOf cm columns grids.length i).2 + labelLen labels i + b) = some (grids[i][a])[b] :=
  (container_placed wo spacing rowH cm columns hc hH i hi).item hi a b ha hb

/-- `C13_place_labels` from `WidthOK` alone and for every row `a` of the rendered label: it is shown
on row `a` of the cell from the band's left edge. -/
theorem C13_place_labels_any_labels (cm : Bool) (columns : Nat) (hc : 1 ≤ columns) (used : Int) (spacing : Nat)
    (labels : List (Option NumW)) (grids : List Grid) (rowH : Nat → Nat)
    (wo : WidthOK used labels grids)
    (hH : ∀ i, (hi : i < grids.length) →
      max grids[i].length (labelBuf labels i).length ≤ rowH (cellOf cm columns grids.length i).1)
    (i : Nat) (hi : i < grids.length) (a b : Nat) (ha : a < (labelBuf labels i).length)
    (hb : b < ((labelBuf labels i)[a]).length) :
    cell (drawColumns used spacing labels grids rowH (orderedMap cm columns grids.length) {} 0).buf
      (rowTop rowH (cellOf cm columns grids.length i).1 + a)
      (colLeft used spacing (cellOf cm columns grids.length i).2 + b) = some ((labelBuf labels i)[a])[b] :=
  (container_placed wo spacing rowH cm columns hc hH i hi).label a b ha hb

/-- Placement of the items for a successful render with *any* key pattern, items that respect their
widths. -/
theorem C13_place_items_any_pattern (cc : CharClass) (st : WSt) (cm : Bool) (columns : Nat) (cw : Option Int)
    (spacing : Nat) (kp : Option KeyPat) (u : Option Int) (nw : List NumW) (items : List Wd) (w : Int) (r : Wd)
    (items' : List Wd) (labels : List (Option NumW))
    (h : (Wd.list st cm columns cw spacing kp u nw items).render cc w = .ok r)
    (sh : ListShape cc cm columns cw spacing kp items w r items' labels)
    (hfit : ∀ i, (hi : i < items.length) →
      RespectsWidth cc items[i] (usedWidth cw columns spacing w - kpLabelLen kp i))
    (i : Nat) (hi : i < items'.length) (a b : Nat) (ha : a < items'[i].lines.length)
    (hb : b < (items'[i].lines[a]).length) :
    cell r.lines
      (rowTop (rowHeight cm columns (listHeights (items'.map Wd.lines) labels))
        (cellOf cm columns items.length i).1 + a)
      (colLeft (usedWidth cw columns spacing w) spacing (cellOf cm columns items.length i).2
        + labelLen labels i + b) = some (items'[i].lines[a])[b] := by
  have P := (render_placed h sh hfit i (sh.len_items ▸ hi)).item
    (by rw [List.length_map]; exact hi) a b (by rw [List.getElem_map]; exact ha)
    (by simp only [List.getElem_map]; exact hb)
  simpa only [List.getElem_map] using P

/-- Placement of every row of every number label for a successful render with *any* key pattern. -/
theorem C13_place_labels_any_pattern (cc : CharClass) (st : WSt) (cm : Bool) (columns : Nat) (cw : Option Int)
    (spacing : Nat) (kp : Option KeyPat) (u : Option Int) (nw : List NumW) (items : List Wd) (w : Int) (r : Wd)
    (items' : List Wd) (labels : List (Option NumW))
    (h : (Wd.list st cm columns cw spacing kp u nw items).render cc w = .ok r)
    (sh : ListShape cc cm columns cw spacing kp items w r items' labels)
    (hfit : ∀ i, (hi : i < items.length) →
      RespectsWidth cc items[i] (usedWidth cw columns spacing w - kpLabelLen kp i))
    (i : Nat) (hi : i < items.length) (a b : Nat) (ha : a < (labelBuf labels i).length)
    (hb : b < ((labelBuf labels i)[a]).length) :
    cell r.lines
      (rowTop (rowHeight cm columns (listHeights (items'.map Wd.lines) labels))
        (cellOf cm columns items.length i).1 + a)
      (colLeft (usedWidth cw columns spacing w) spacing (cellOf cm columns items.length i).2 + b)
      = some ((labelBuf labels i)[a])[b] :=
  (render_placed h sh hfit i hi).label a b ha hb

/-- End to end for `TextWidget` items with no side condition at all: the only hypothesis on the inputs
is that the items are text widgets (a successful render already implies `columns ≥ 1`). -/
theorem C13_place_items_text_any_pattern (cc : CharClass) (st : WSt) (cm : Bool) (columns : Nat)
    (cw : Option Int) (spacing : Nat) (kp : Option KeyPat) (u : Option Int) (nw : List NumW) (items : List Wd)
    (w : Int) (r : Wd) (items' : List Wd) (labels : List (Option NumW))
    (htext : ∀ it ∈ items, it.isText = true)
    (h : (Wd.list st cm columns cw spacing kp u nw items).render cc w = .ok r)
    (sh : ListShape cc cm columns cw spacing kp items w r items' labels)
    (i : Nat) (hi : i < items'.length) (a b : Nat) (ha : a < items'[i].lines.length)
    (hb : b < (items'[i].lines[a]).length) :
    cell r.lines
      (rowTop (rowHeight cm columns (listHeights (items'.map Wd.lines) labels))
        (cellOf cm columns items.length i).1 + a)
      (colLeft (usedWidth cw columns spacing w) spacing (cellOf cm columns items.length i).2
        + labelLen labels i + b) = some (items'[i].lines[a])[b] :=
  C13_place_items_any_pattern cc st cm columns cw spacing kp u nw items w r items' labels h sh
    (fun i hi => text_items_respect cc items htext i hi _) i hi a b ha hb

/-- … and every row of every number label. -/
theorem C13_place_labels_text_any_pattern (cc : CharClass) (st : WSt) (cm : Bool) (columns : Nat)
    (cw : Option Int) (spacing : Nat) (kp : Option KeyPat) (u : Option Int) (nw : List NumW) (items : List Wd)
    (w : Int) (r : Wd) (items' : List Wd) (labels : List (Option NumW))
    (htext : ∀ it ∈ items, it.isText = true)
    (h : (Wd.list st cm columns cw spacing kp u nw items).render cc w = .ok r)
    (sh : ListShape cc cm columns cw spacing kp items w r items' labels)
    (i : Nat) (hi : i < items.length) (a b : Nat) (ha : a < (labelBuf labels i).length)
    (hb : b < ((labelBuf labels i)[a]).length) :
    cell r.lines
      (rowTop (rowHeight cm columns (listHeights (items'.map Wd.lines) labels))
        (cellOf cm columns items.length i).1 + a)
      (colLeft (usedWidth cw columns spacing w) spacing (cellOf cm columns items.length i).2 + b)
      = some ((labelBuf labels i)[a])[b] :=
  C13_place_labels_any_pattern cc st cm columns cw spacing kp u nw items w r items' labels h sh
    (fun i hi => text_items_respect cc items htext i hi _) i hi a b ha hb

/-! With a plain key pattern the labels are one row high (`C13_layout_ok`), and the statements read
like `C13_place_items` / `C13_place_labels` with `LayoutOK` and the row-height hypothesis discharged. -/

/-- `C13_place_items` for a successful render: every character of the rendering of item `i` is shown
in the container's lines at the position of its cell, when the items respect their widths and the key
pattern is plain. Both `LayoutOK` and the row-height hypothesis are discharged; the row heights are
the ones the container computes (`rowHeight` of `listHeights`). -/
theorem C13_place_items_render (cc : CharClass) (st : WSt) (cm : Bool) (columns : Nat) (cw : Option Int)
    (spacing : Nat) (kp : Option KeyPat) (u : Option Int) (nw : List NumW) (items : List Wd) (w : Int) (r : Wd)
    (items' : List Wd) (labels : List (Option NumW)) (hkp : kpPlain kp)
    (h : (Wd.list st cm columns cw spacing kp u nw items).render cc w = .ok r)
    (sh : ListShape cc cm columns cw spacing kp items w r items' labels)
    (hfit : ∀ i, (hi : i < items.length) →
      RespectsWidth cc items[i] (usedWidth cw columns spacing w - kpLabelLen kp i))
    (i : Nat) (hi : i < items'.length) (a b : Nat) (ha : a < items'[i].lines.length)
    (hb : b < (items'[i].lines[a]).length) :
    cell r.lines
      (rowTop (rowHeight cm columns (listHeights (items'.map Wd.lines) labels))
        (cellOf cm columns items.length i).1 + a)
      (colLeft (usedWidth cw columns spacing w) spacing (cellOf cm columns items.length i).2
        + labelLen labels i + b) = some (items'[i].lines[a])[b] :=
  have _ := hkp
  C13_place_items_any_pattern cc st cm columns cw spacing kp u nw items w r items' labels h sh hfit i hi a b ha hb

/-- `C13_place_labels` for a successful render, same hypotheses. -/
theorem C13_place_labels_render (cc : CharClass) (st : WSt) (cm : Bool) (columns : Nat) (cw : Option Int)
    (spacing : Nat) (kp : Option KeyPat) (u : Option Int) (nw : List NumW) (items : List Wd) (w : Int) (r : Wd)
    (items' : List Wd) (labels : List (Option NumW)) (hkp : kpPlain kp)
    (h : (Wd.list st cm columns cw spacing kp u nw items).render cc w = .ok r)
    (sh : ListShape cc cm columns cw spacing kp items w r items' labels)
    (hfit : ∀ i, (hi : i < items.length) →
      RespectsWidth cc items[i] (usedWidth cw columns spacing w - kpLabelLen kp i))
    (i : Nat) (hi : i < items.length) (row : List Char) (hrow : labelBuf labels i = [row])
    (b : Nat) (hb : b < row.length) :
    cell r.lines
      (rowTop (rowHeight cm columns (listHeights (items'.map Wd.lines) labels))
        (cellOf cm columns items.length i).1)
      (colLeft (usedWidth cw columns spacing w) spacing (cellOf cm columns items.length i).2 + b)
      = some row[b] := by
  have _ := hkp
  have P := (render_placed h sh hfit i hi).2
  rw [hrow] at P
  exact P 0 b _ (cell_getElem [row] 0 b Nat.zero_lt_one hb)

/-- End to end for `TextWidget` items: in every successful render of a list container of text
widgets with a plain key pattern, every character of the (wrapped) rendering of item `i` is in the
container's lines at row `rowTop r + a`, column `colLeft c + label length + b` of its cell `(r, c)`.
The only hypotheses are on the inputs. -/
theorem C13_place_items_text (cc : CharClass) (st : WSt) (cm : Bool) (columns : Nat) (cw : Option Int)
    (spacing : Nat) (kp : Option KeyPat) (u : Option Int) (nw : List NumW) (items : List Wd) (w : Int) (r : Wd)
    (items' : List Wd) (labels : List (Option NumW)) (hkp : kpPlain kp)
    (htext : ∀ it ∈ items, it.isText = true)
    (h : (Wd.list st cm columns cw spacing kp u nw items).render cc w = .ok r)
    (sh : ListShape cc cm columns cw spacing kp items w r items' labels)
    (i : Nat) (hi : i < items'.length) (a b : Nat) (ha : a < items'[i].lines.length)
    (hb : b < (items'[i].lines[a]).length) :
    cell r.lines
      (rowTop (rowHeight cm columns (listHeights (items'.map Wd.lines) labels))
        (cellOf cm columns items.length i).1 + a)
      (colLeft (usedWidth cw columns spacing w) spacing (cellOf cm columns items.length i).2
        + labelLen labels i + b) = some (items'[i].lines[a])[b] :=
  C13_place_items_render cc st cm columns cw spacing kp u nw items w r items' labels hkp h sh
    (fun i hi => text_items_respect cc items htext i hi _) i hi a b ha hb

/-- … and the number label of item `i` (as rendered: one row) is on the first row of the cell from the
band's left edge. -/
theorem C13_place_labels_text (cc : CharClass) (st : WSt) (cm : Bool) (columns : Nat) (cw : Option Int)
    (spacing : Nat) (kp : Option KeyPat) (u : Option Int) (nw : List NumW) (items : List Wd) (w : Int) (r : Wd)
    (items' : List Wd) (labels : List (Option NumW)) (hkp : kpPlain kp)
    (htext : ∀ it ∈ items, it.isText = true)
    (h : (Wd.list st cm columns cw spacing kp u nw items).render cc w = .ok r)
    (sh : ListShape cc cm columns cw spacing kp items w r items' labels)
    (i : Nat) (hi : i < items.length) (row : List Char) (hrow : labelBuf labels i = [row])
    (b : Nat) (hb : b < row.length) :
    cell r.lines
      (rowTop (rowHeight cm columns (listHeights (items'.map Wd.lines) labels))
        (cellOf cm columns items.length i).1)
      (colLeft (usedWidth cw columns spacing w) spacing (cellOf cm columns items.length i).2 + b)
      = some row[b] :=
  C13_place_labels_render cc st cm columns cw spacing kp u nw items w r items' labels hkp h sh
    (fun i hi => text_items_respect cc items htext i hi _) i hi row hrow b hb

/-! Non-vacuity: a numbered two-column list of three texts that all wrap renders at width 15 (columns
width 6, labels 3 long, items rendered at width 3); the hypotheses of `C13_place_items_text` hold; the
`'f'` of `"ff"` (item 2, row `a = 1`, column `b = 0` of its rendering) is at the predicted cell: row
`rowTop 1 + 1 = 3`, column `colLeft 0 + 3 + 0 = 3`; the `'d'` of `"dd"` (item 1) at row 1, column 12. -/
example :
    kpPlain (some ({} : KeyPat)) ∧
    (∀ it ∈ [Wd.text {} "aa bb".toList, .text {} "cc dd".toList, .text {} "ee ff".toList],
      it.isText = true) ∧
    ((Wd.list {} false 2 none 3 (some {}) none []
        [.text {} "aa bb".toList, .text {} "cc dd".toList, .text {} "ee ff".toList]).render asciiClass 15).toOption.map
      (fun r => (r.lines,
        cell r.lines (rowTop (rowHeight false 2 [2, 2, 2]) (cellOf false 2 3 2).1 + 1)
          (colLeft (usedWidth none 2 3 15) 3 (cellOf false 2 3 2).2 + 3 + 0),
        cell r.lines (rowTop (rowHeight false 2 [2, 2, 2]) (cellOf false 2 3 1).1 + 1)
          (colLeft (usedWidth none 2 3 15) 3 (cellOf false 2 3 1).2 + 3 + 0))) =
      some (["1) aa    2) cc".toList, "   bb       dd".toList, "3) ee".toList, "   ff".toList],
        some 'f', some 'd') := by
  lits
  decide +kernel

/-! … and by construction: for that list the hypotheses of `C13_place_items_text` are satisfied together
(the render succeeds, `C13_list_shape` provides the shape, there are three rendered items). -/
example : ∃ r items' labels,
    ListShape asciiClass false 2 none 3 (some {})
      [.text {} "aa bb".toList, .text {} "cc dd".toList, .text {} "ee ff".toList] 15 r items' labels ∧
    items'.length = 3 ∧
    ∀ i (hi : i < items'.length) a b (ha : a < items'[i].lines.length) (hb : b < (items'[i].lines[a]).length),
      cell r.lines
        (rowTop (rowHeight false 2 (listHeights (items'.map Wd.lines) labels)) (cellOf false 2 3 i).1 + a)
        (colLeft (usedWidth none 2 3 15) 3 (cellOf false 2 3 i).2 + labelLen labels i + b)
        = some (items'[i].lines[a])[b] := by
  obtain ⟨r, hr⟩ := render_ok_of_isSome
    ((Wd.list {} false 2 none 3 (some {}) none []
      [.text {} "aa bb".toList, .text {} "cc dd".toList, .text {} "ee ff".toList]).render asciiClass 15)
    (by decide +kernel)
  obtain ⟨items', labels, sh⟩ := C13_list_shape _ _ _ _ _ _ _ _ _ _ _ _ hr
  exact ⟨r, items', labels, sh, sh.len_items, fun i hi a b ha hb =>
    C13_place_items_text _ _ _ _ _ _ _ _ _ _ _ _ _ _ (by decide) (by decide) hr sh i hi a b ha hb⟩

/-! Non-vacuity of the `_any_pattern` theorems: the pattern `"{:d}\n) "` (labels two rows high, 4 long)
in a two-column list with spacing 1 at width 15 (columns width 7): the `')'` of label 0 is on row 1 of
its cell at the band's left edge, the second `'b'` of item 0 (`"aa bb"` wrapped at width 3) at row 1,
column `0 + 4 + 1`. -/
example :
    ((Wd.list {} false 2 none 1 (some { pre := [], post := ['\n', ')', ' '] }) none []
        [.text {} "aa bb".toList, .text {} "c".toList, .text {} "d".toList]).render asciiClass 15).toOption.map
      (fun r => (r.lines,
        cell r.lines (rowTop (rowHeight false 2 [2, 2, 2]) (cellOf false 2 3 0).1 + 1)
          (colLeft (usedWidth none 2 1 15) 1 (cellOf false 2 3 0).2 + 0),
        cell r.lines (rowTop (rowHeight false 2 [2, 2, 2]) (cellOf false 2 3 0).1 + 1)
          (colLeft (usedWidth none 2 1 15) 1 (cellOf false 2 3 0).2 + 4 + 1))) =
      some (["1   aa  2   c".toList, ")   bb  )".toList, "3   d".toList, ")".toList],
        some ')', some 'b') := by
  lits
  decide +kernel

end Simpleline
