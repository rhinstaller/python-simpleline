/-
  C17 — Console output is append-only and stays within the configured width.

  The console of the machine is `c.A.out : List Str`: the chunks written to stdout, in order (the byte
  stream is `c.A.out.flatten`). Property theorems only; the vocabulary (`allowed`, `frameworkLiterals`,
  `chunkLinesOK`, `NormalChunk`, `killChunks`, `OutShape`) is in `Spec/OutputSpec.lean`, the helper lemmas
  in `Lemmas/Output*.lean`.

  All theorems hold for every program `P` (every width — also widths ≤ 0 —, every title, text and name,
  every script) and every execution (`Reach`: every session of typed lines and every timing of the reader
  thread); the transition theorems hold for every transition out of *any* configuration.
-/
import Simpleline.Lemmas.OutputInv
import Simpleline.Lemmas.Literals

namespace Simpleline
open Output

/-! ### 1. append-only -/

/-- The console starts empty. -/
theorem C17_starts_empty (c0 : Cfg) (h0 : Started c0) : c0.A.out = [] := by
  obtain ⟨init, hs, q, sin, rfl⟩ := h0; rfl

/-- Every transition (a machine step, the halting step, a delivery by the reader thread) leaves what is
on the console as it is and at most appends chunks at its end: the model has no operation on the output
other than appending, so nothing already printed is ever rewritten. -/
theorem C17_append_only (P : Prog) (c c' : Cfg) (ht : Trans P c c') : ∃ new, c'.A.out = c.A.out ++ new :=
  trans_append ht

/-- The same over any stretch of an execution: whatever is on the console at some moment is an
unchanged prefix of the console at every later moment (chunk by chunk, hence byte by byte). -/
theorem C17_never_rewritten (P : Prog) (c c' : Cfg) (h : Reach P c c') :
    ∃ new, c'.A.out = c.A.out ++ new ∧ c'.A.out.flatten = c.A.out.flatten ++ new.flatten := by
  obtain ⟨new, h1⟩ := reach_append h
  exact ⟨new, h1, by rw [h1, List.flatten_append]⟩

/-! ### 2. the alphabet -/

/-- Every chunk on the console is of a known kind: the separator, lines of a screen's window each ended
by a line break, one of the three prompt texts — followed, if and only if the run was killed (the crash
path of C02), by the two chunks of the screen stack dump, after which nothing is executed. -/
theorem C17_chunks (P : Prog) (c0 c : Cfg) (h0 : Started c0) (h : Reach P c0 c) : OutShape P c :=
  (outInv_reach h0 h).shape

/-- Every character ever written is a line break, a blank, `'='`, a character of one of the framework's
literal strings, a character of a screen name (printed as it is by the crash dump only), or a character
of a title or a text of the application that is **not** one of `'\t' '\n' '\x0b' '\x0c' '\r' ' '`.
In particular the framework never *introduces* a carriage return, a backspace or an escape character:
none of them is in `frameworkLiterals` (`C17_no_control`). -/
theorem C17_alphabet (P : Prog) (c0 c : Cfg) (h0 : Started c0) (h : Reach P c0 c) :
    ∀ ch ∈ c.A.out.flatten, allowed P ch :=
  outShape_allowed (C17_chunks P c0 c h0 h)

/-- As long as the run has not been killed, screen names do not reach the console either. -/
theorem C17_alphabet_alive (P : Prog) (c0 c : Cfg) (h0 : Started c0) (h : Reach P c0 c) (hk : Tr.kill ∉ c.tr) :
    ∀ ch ∈ c.A.out.flatten, ch = '\n' ∨ ch = ' ' ∨ ch = '=' ∨ ch ∈ frameworkLiterals.flatten ∨
      (textChar P ch ∧ isWs6 ch = false) :=
  outShape_chars_alive (C17_chunks P c0 c h0 h) hk

/-- No carriage return, backspace or escape character on the console unless the application supplied
it: `'\r'` appears only if a screen *name* contains it (in titles and texts it is turned into a blank);
backspace and ESC appear only if a screen name, a title or a text contains them. -/
theorem C17_no_control (P : Prog) (c0 c : Cfg) (h0 : Started c0) (h : Reach P c0 c) (ctl : Char)
    (hctl : ctl = '\r' ∨ ctl = '\x08' ∨ ctl = '\x1b')
    (hname : ¬ nameChar P ctl) (htext : ctl ≠ '\r' → ¬ textChar P ctl) : ctl ∉ c.A.out.flatten := by
  intro hm
  rcases allowed_control hctl (C17_alphabet P c0 c h0 h ctl hm) with h1 | ⟨h1, h2⟩
  · exact hname h1
  · exact htext h1 h2

/-! ### 3. the separator -/

/-- The separator is two lines of exactly `w` characters `'='`, each ended by a line break. -/
theorem C17_separator_shape (w : Int) :
    spacer w = List.replicate w.toNat '=' ++ ['\n'] ++ List.replicate w.toNat '=' ++ ['\n'] ∧
    splitOn '\n' (spacer w) = [List.replicate w.toNat '=', List.replicate w.toNat '=', []] :=
  ⟨rfl, spacer_lines w⟩

/-- Whenever a transition begins the draw of a stack entry `e` (adds the trace event `show e`), the same
transition appended exactly the separator of the configured width to the console — and nothing at all
if the screen disables the separator. As the console is append-only, everything the draw prints (window
lines, prompt) comes after it. -/
theorem C17_separator (P : Prog) (c c' : Cfg) (ht : Trans P c c') (e : Entry) (he : Tr.show e ∈ newTr c c') :
    c'.A.out = c.A.out ++ (if (P.spec e.screen).noSeparator then [] else [spacer P.width]) :=
  (trans_show ht e he).2

/-- Only the instruction that begins a draw adds a `show` event: a transition that adds `show e` is the
step of `drawScreen e` (the only instruction that starts the `show` callback and with it the printing of
the window). -/
theorem C17_only_draw_shows (P : Prog) (c c' : Cfg) (ht : Trans P c c') (e : Entry)
    (he : Tr.show e ∈ newTr c c') : ∃ rest, c.code = .drawScreen e :: rest :=
  (trans_show ht e he).1

/-- And every draw begins that way: the step of `drawScreen e` never fails and adds exactly the event
`show e` (so `C17_separator` applies to every draw). -/
theorem C17_draw_begins (P : Prog) (c : Cfg) (e : Entry) (rest : List Instr)
    (hc : c.code = .drawScreen e :: rest) : ∃ c', step P c = .ok c' ∧ newTr c c' = [.show e] := by
  have he := stepEff_draw (step_eff P c) e rest hc
  cases hs : step P c with
  | ok c' => exact ⟨c', rfl, by rwa [hs] at he⟩
  | error p => simp [step, hc] at hs

/-! ### 4. the width -/

/-- (a) Every line of a screen's window — the wrapped title, the empty line after it, the wrapped text —
has at most the configured width. -/
theorem C17_width_window (P : Prog) (scr : Nat) (g : Grid) (h : windowLines P scr = .ok g) :
    ∀ l ∈ g, l.length ≤ P.width.toNat :=
  fun l hl => (window_lines P scr g h l hl).1

/-- (b) Every pending print instruction of a reachable configuration carries only lines of a window (of
the screen being drawn), and the chunk it will write is those lines, each followed by a line break. -/
theorem C17_pending_lines (P : Prog) (c0 c : Cfg) (h0 : Started c0) (h : Reach P c0 c) (ls : List Str)
    (hl : Instr.printLines ls ∈ c.code) :
    WindowLines P ls ∧ NormalChunk P (ls.flatMap fun l => l ++ ['\n']) := by
  have := (outInv_reach h0 h).code ls (mem_prints.mpr hl)
  exact ⟨this, .lines ls this⟩

/-- (b') The step of such an instruction appends exactly one chunk: its lines — none longer than the
configured width, none containing a line break — each followed by a line break. -/
theorem C17_print_step (P : Prog) (c0 c c' : Cfg) (h0 : Started c0) (h : Reach P c0 c) (ls : List Str)
    (rest : List Instr) (hc : c.code = .printLines ls :: rest) (hs : step P c = .ok c') :
    c'.A.out = c.A.out ++ [ls.flatMap fun l => l ++ ['\n']] ∧
    ∀ l ∈ ls, l.length ≤ P.width.toNat ∧ '\n' ∉ l :=
  ⟨print_step P c c' ls rest hc hs,
    windowLines_fit (C17_pending_lines P c0 c h0 h ls (by rw [hc]; simp)).1⟩

/-- (c) Every prompt text, at every width: each of its lines has, ignoring trailing blanks, at most the
configured width (the lines are those of the prompt rendered as text; the last one gets one blank). -/
theorem C17_width_prompt (P : Prog) (p : Prompt) : chunkLinesOK P.width.toNat (promptText P p) :=
  textPrompt_ok _ _ _

/-- (d) The separator lines have exactly the configured width. -/
theorem C17_width_separator (w : Int) :
    ∀ l ∈ splitOn '\n' (spacer w), l = [] ∨ (l.length = w.toNat ∧ ∀ ch ∈ l, ch = '=') := by
  intro l hl
  rw [spacer_lines] at hl
  simp only [List.mem_cons, List.not_mem_nil, or_false] at hl
  rcases hl with rfl | rfl | rfl
  · exact .inr ⟨by simp, fun ch h => List.eq_of_mem_replicate h⟩
  · exact .inr ⟨by simp, fun ch h => List.eq_of_mem_replicate h⟩
  · exact .inl rfl

/-- Every kind of normal chunk satisfies the width clause. -/
theorem C17_width_chunk (P : Prog) (chunk : Str) (h : NormalChunk P chunk) : chunkLinesOK P.width.toNat chunk :=
  normalChunk_linesOK h

/-- The width clause for the whole console: every chunk ever written — separator, window lines, prompts —
has only lines that are, ignoring trailing blanks, no longer than the configured width; the only
exception are the two chunks of the crash dump, which are the last two chunks of a killed run.
(The clause is per written chunk: a prompt is written without a final line break and the next chunk
continues on the same line of the byte stream; on a real console the user's ENTER ends that line.) -/
theorem C17_width (P : Prog) (c0 c : Cfg) (h0 : Started c0) (h : Reach P c0 c) :
    (Tr.kill ∉ c.tr ∧ ∀ ch ∈ c.A.out, chunkLinesOK P.width.toNat ch) ∨
    (Tr.kill ∈ c.tr ∧ c.code = [] ∧
      ∃ pre stack, c.A.out = pre ++ killChunks P stack ∧ ∀ ch ∈ pre, chunkLinesOK P.width.toNat ch) :=
  outShape_width (C17_chunks P c0 c h0 h)

/-- In a run that has not been killed every chunk satisfies the width clause. -/
theorem C17_width_alive (P : Prog) (c0 c : Cfg) (h0 : Started c0) (h : Reach P c0 c) (hk : Tr.kill ∉ c.tr) :
    ∀ ch ∈ c.A.out, chunkLinesOK P.width.toNat ch := by
  rcases C17_width P c0 c h0 h with ⟨_, h1⟩ | ⟨h1, _⟩
  · exact h1
  · exact absurd h1 hk

/-! ### 5. non-vacuity -/

/-- one screen with a long title and a text with a tab, a hyphenated word and a carriage return, width
10; the user types `c` -/
def C17_exP : Prog :=
  { cc := asciiClass, width := 10,
    screens := [{ name := "S".toList, title := some "A long title here".toList,
                  text := some "Some\ttext to be-wrapped\rnow".toList }] }

def C17_exC : Cfg := initCfg [.schedule 0 none] [] none ["c".toList]

/-- where a run of bounded length from `C17_exC` stops is a reachable configuration, whatever the program -/
theorem C17_ex_reach (P : Prog) (n : Nat) : Reach P C17_exC (runFuel P n C17_exC).1 :=
  reach_runFuel n .init

/-- the theorems apply to the example runs -/
example : OutShape C17_exP (runFuel C17_exP 200 C17_exC).1 :=
  C17_chunks _ _ _ ⟨_, _, _, _, rfl⟩ (C17_ex_reach _ _)

/-- the whole console of the session: separator, window, prompt; three chunks, all within width 10 -/
example :
    (runFuel C17_exP 200 C17_exC).2 = .returned ∧
    (runFuel C17_exP 200 C17_exC).1.A.out.flatten =
      ("==========\n==========\nA long\ntitle here\n\nSome\ntext to\nbe-wrapped\nnow\n" ++
       "Please\nmake a\nselection\nfrom the\nabove ['c'\nto\ncontinue,\n'q' to\nquit, 'r'\nto\nrefresh]: ").toList ∧
    (runFuel C17_exP 200 C17_exC).1.A.out.length = 3 ∧
    (∀ ch ∈ (runFuel C17_exP 200 C17_exC).1.A.out, chunkLinesOK 10 ch) ∧
    Tr.show { eid := 0, screen := 0, args := none, modal := false } ∈ (runFuel C17_exP 200 C17_exC).1.tr := by
  rw [String.toList_append]
  lits
  decide +kernel

def C17_exK : Prog :=
  { cc := asciiClass, width := 10,
    screens := [{ name := "S\rx".toList, title := some "T".toList }],
    screenScript := fun _ cb _ => if cb = .refresh then { acts := [.raiseErr] } else {} }

/-- a killed run: `refresh` raises, nobody handles the exception signal; the screen name (with its
carriage return) is dumped as it is, and the dump is wider than the configured width — the two reasons
for the name hypothesis of `C17_no_control` and for the exception in `C17_width` -/
theorem C17_no_control_needs_names :
    (runFuel C17_exK 200 C17_exC).2 = .killed 1 ∧
    ¬ textChar C17_exK '\r' ∧
    '\r' ∈ (runFuel C17_exK 200 C17_exC).1.A.out.flatten := by
  decide +kernel

theorem C17_width_needs_kill_exception :
    (runFuel C17_exK 200 C17_exC).1.A.out = killChunks C17_exK [{ eid := 0, screen := 0, args := none, modal := false }] ∧
    ¬ ∀ ch ∈ (runFuel C17_exK 200 C17_exC).1.A.out, chunkLinesOK 10 ch := by
  decide +kernel

/-- a screen that disables the separator: the draw writes the window only -/
example :
    (runFuel { C17_exP with screens := [{ title := some "Hi".toList, noSeparator := true, inputRequired := false }] }
        60 C17_exC).1.A.out = ["Hi\n\n".toList] := by
  decide +kernel

end Simpleline
