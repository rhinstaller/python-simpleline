/-
  C09 — The application stops exactly when told to, completely, and says so once.

  Property theorems only; helper lemmas live in `Simpleline/Lemmas/Dispatch*.lean`, vocabulary in
  `Simpleline/Spec/DispatchSpec.lean`.

  How stopping appears in the machine.  `apprun` (`App.run()`) refuses an empty schedule or pushes
  `[mainCheck 0, catchExit, quitCb]`: the outermost `_mainloop` activation, the `except ExitMainLoop`
  scope of `run()`, the quit callback.  An exit request — a handler raising `ExitMainLoop`, the
  scheduler finding the screen stack empty, `close_loop` popping the outermost level — is
  `Cfg.raise .exit`: it traces `.exit` and drops every pending instruction up to the first `catchExit`.
  `force_quit` (`Act.forceQuit`) sets the flag, clears the levels and lowers `_run_loop`, tracing
  `.forceQuit`.  `mainCheck q` leaving its loop traces `.loopReturn q`.  `AfterStart c` says that no
  `apprun` is pending in `c` (`run()` has been entered — `apprun` resets the force-quit flag once).
  `Live P c0 c`: `c` is a configuration of a run that has not halted.
-/
import Simpleline.Lemmas.DispatchStop

namespace Simpleline
open Dispatch Machine

/-! ### 1. after force-quit no handler is invoked, ever -/

/-- Once force-quit is set after `run()` was entered, it stays set: in every later configuration of the
execution, whatever happens. -/
theorem C09_force_quit_stays (P : Prog) (c c' : Cfg) (hA : AfterStart c) (hf : c.L.forceQuit = true)
    (hs : Steps P c c') : AfterStart c' ∧ c'.L.forceQuit = true := by
  induction hs with
  | refl => exact ⟨hA, hf⟩
  | tail _ ht ih => exact ⟨afterStart_trans ih.1 ht, fq_persist_trans ih.1 ih.2 ht⟩


/-- Out of a reachable configuration with force-quit set no transition adds a handler call to the history: a
call event comes from a `callH` at the head of the code (`trans_origin`), and such an instruction is only there
while force-quit is down (`CodeInv.headCall`). This needs no start-up hypothesis. -/
theorem C09_force_quit_no_call_step (P : Prog) (c0 c c' : Cfg) (h0 : Started c0) (hr : Reach P c0 c)
    (hf : c.L.forceQuit = true) (ht : Trans P c c') (h : HRef) (d : Option Nat) (s : Sig) :
    Tr.call h d s ∉ newTr c c' := by
  intro hm
  obtain ⟨_, _, _, _, hf0⟩ := (codeInv_reach h0 hr).headCall h d s ((trans_origin ht).toNewTr.2 _ hm)
  rw [hf] at hf0; cases hf0

/-- **No handler after force-quit.**  Take a reachable configuration, reached after `run()` was entered,
in which force-quit is set.  Then no transition of the rest of the execution — at any nesting depth,
including the remaining handlers of the signal being dispatched and of every signal still queued —
adds a handler call to the history: the flag stays set (`C09_force_quit_stays`). -/
theorem C09_force_quit_no_call (P : Prog) (c0 c c1 c2 : Cfg) (h0 : Started c0) (hr : Reach P c0 c)
    (hA : AfterStart c) (hf : c.L.forceQuit = true) (hs : Steps P c c1) (ht : Trans P c1 c2)
    (h : HRef) (d : Option Nat) (s : Sig) : Tr.call h d s ∉ newTr c1 c2 :=
  C09_force_quit_no_call_step P c0 c1 c2 h0 (reach_steps hr hs) (C09_force_quit_stays P _ _ hA hf hs).2 ht h d s

/-! ### 2. after force-quit new signals are discarded and every loop winds down -/

/-- Under force-quit `enqueue_signal` changes no queue: the signal is dropped (only a `.dropped` event is
added to the model's history). -/
theorem C09_force_quit_discards (c : Cfg) (s : Sig) (hf : c.L.forceQuit = true) :
    c.enqueue s = { c with tr := .dropped s :: c.tr } := by
  simp [Cfg.enqueue, Cfg.trace, hf]

/-- In every reachable configuration with force-quit set, `_run_loop` is down and no level is left — and
(by `C09_force_quit_stays`) this remains so. -/
theorem C09_force_quit_winds_down (P : Prog) (c0 c : Cfg) (h0 : Started c0) (hr : Reach P c0 c)
    (hf : c.L.forceQuit = true) : c.L.runLoop = false ∧ c.L.levels = [] :=
  fqInv_reach h0 hr hf

/-- Consequently each loop construct gives up at its next test, at any depth: `execute_new_loop` is a no-op … -/
theorem C09_force_quit_no_new_loop (P : Prog) (c : Cfg) (s : Sig) (rest : List Instr) (hc : c.code = .newLoop s :: rest)
    (hf : c.L.forceQuit = true) : step P c = .ok { c with code := rest } := by
  simp [step, hc, hf]

/-- … a `_mainloop` activation leaves its `while` (and returns) as soon as `_run_loop` is down, and its epilogue
does not raise the flag again under force-quit … -/
theorem C09_mainloop_exits (P : Prog) (c : Cfg) (q : Nat) (rest : List Instr) :
    (c.code = .mainCheck q :: rest → c.L.runLoop = false →
      step P c = .ok { c with code := .restoreRun :: rest, tr := .loopReturn q :: c.tr }) ∧
    (c.code = .loopCheck :: rest → c.L.runLoop = false → step P c = .ok { c with code := rest }) ∧
    (c.code = .restoreRun :: rest → c.L.forceQuit = true → step P c = .ok { c with code := rest }) :=
  ⟨fun hc hr => by simp [step, hc, hr, push, Cfg.trace], fun hc hr => by simp [step, hc, hr],
    fun hc hf => by simp [step, hc, hf]⟩

/-- … and both forms of `process_signals` return without taking a signal. -/
theorem C09_process_signals_exits (P : Prog) (c : Cfg) (rest : List Instr) (hr : c.L.runLoop = false) :
    (∀ cls t, c.code = .waitStep cls t :: rest →
      step P c = .ok { c with code := rest, tr := .waitEnd cls t false :: c.tr }) ∧
    (∀ p, c.code = .procIter p :: rest → step P c = .ok { c with code := rest, tr := .procEnd :: c.tr }) :=
  ⟨fun cls t hc => by simp [step, hc, hr, Cfg.trace], fun p hc => step_procIter_down P c p rest hc hr⟩

/-! ### 3. an exit request unwinds everything, the quit callback runs once, `run()` returns -/

/-- **An exit request drops every pending instruction up to the `except ExitMainLoop` of `run()`** — all
loop tests, dispatches and handler bodies of all nesting depths in between. -/
theorem C09_exit_unwinds (c : Cfg) (pre rest : List Instr) (hcode : c.code = pre ++ .catchExit :: rest)
    (hpre : ∀ i ∈ pre, isCatchExit i = false) : c.raise .exit = .ok { c with code := rest, tr := .exit :: c.tr } := by
  have h1 : c.raise .exit = unwind .exit (pre ++ .catchExit :: rest) (preRaise c .exit) := by rw [raise_eq, hcode]
  rw [h1, unwind_exit_catch hpre]; rfl

/-- **After the start an exit request always succeeds and leaves exactly the quit callback to run**: if a
transition out of a reachable configuration in which `run()` has been entered records an exit request,
the next configuration's pending code is `[quitCb]`. -/
theorem C09_exit_lands_on_quit_callback (P : Prog) (c0 c c' : Cfg) (h0 : Started c0) (hr : Reach P c0 c)
    (hA : AfterStart c) (ht : Trans P c c') (hx : Tr.exit ∈ newTr c c') : c'.code = [.quitCb] :=
  (exit_cases h0 hr ht hx).elim (·.2) fun h => absurd hA h.1

/-- (Before the start there is no `except ExitMainLoop` scope yet: an exit request raised by start-up code is not
caught, the run dies with it.) -/
theorem C09_exit_before_start (P : Prog) (c0 c c' : Cfg) (h0 : Started c0) (hr : Reach P c0 c)
    (hA : ¬ AfterStart c) (ht : Trans P c c') (hx : Tr.exit ∈ newTr c c') :
    c'.code = [] ∧ ∃ o, step P c = .error (o, c') :=
  (exit_cases h0 hr ht hx).elim (fun h => absurd h.1 hA) (·.2)

/-- In every reachable configuration whose history contains an exit request, nothing but the quit callback is
pending (or nothing at all) … -/
theorem C09_after_exit (P : Prog) (c0 c : Cfg) (h0 : Started c0) (hr : Reach P c0 c) (hx : Tr.exit ∈ c.tr) :
    c.code = [.quitCb] ∨ c.code = [] :=
  exit_over_reach h0 hr hx

/-- … so **no handler runs after an exit request**: no transition of the rest of the execution adds a handler call. -/
theorem C09_exit_no_call (P : Prog) (c0 c c1 c2 : Cfg) (h0 : Started c0) (hr : Reach P c0 c) (hx : Tr.exit ∈ c.tr)
    (hs : Steps P c c1) (ht : Trans P c1 c2) (h : HRef) (d : Option Nat) (s : Sig) : Tr.call h d s ∉ newTr c1 c2 := by
  obtain ⟨new, hnew⟩ := (steps_static hs).2.2.2.1
  exact over_no_call ht (exit_over_reach h0 (reach_steps hr hs) (hnew ▸ List.mem_append_right _ hx)) h d s

/-- With only the quit callback pending the next step runs it — logging `quitcb d` for the registered `d`, if
one is registered — and then the machine halts with outcome `returned`: `run()` returns. -/
theorem C09_quit_then_returns (P : Prog) (c : Cfg) (hc : c.code = [.quitCb]) :
    ∃ c', step P c = .ok c' ∧ c'.code = [] ∧ step P c' = .error (.returned, c') ∧
      ∃ lg, (∀ e ∈ lg, softE e = true) ∧ c'.log = lg ++ c.L.quitCb.toList.map Ev.quitcb ++ c.log := by
  cases hq : c.L.quitCb with
  | none =>
    refine ⟨{ c with code := [] }, by simp [step, hc, hq], rfl, by simp [step], [], by simp, by simp⟩
  | some d =>
    obtain ⟨Q, A', n, tr', lg', -, hl, he⟩ := emit_nf P { c with code := [] } (.quitcb d)
    have hcode : (({ c with code := [] } : Cfg).emit P (.quitcb d)).code = [] := by rw [he]
    exact ⟨_, by simp [step, hc, hq], hcode, step_nil hcode, lg', hl, by rw [he]; simp⟩


/-- **The quit callback is invoked at most once, with the argument it was registered with, as the very
last thing.**  In every reachable configuration the log contains at most one quit-callback event; if it
contains one, nothing is pending any more; every such event carries the datum registered at start-up; and
the registration itself never changes. -/
theorem C09_quit_callback_once (P : Prog) (c0 c : Cfg) (h0 : Started c0) (hr : Reach P c0 c) :
    c.log.countP isQuitcbEv ≤ 1 ∧ (c.log.countP isQuitcbEv = 1 → c.code = []) ∧
    (∀ d, Ev.quitcb d ∈ c.log → c0.L.quitCb = some d) ∧ c.L.quitCb = c0.L.quitCb := by
  obtain ⟨hq, he⟩ := quitInv_reach h0 hr
  refine ⟨?_, ?_, hq.arg, he⟩
  · rcases hq.count with h | ⟨h, -⟩ <;> omega
  · intro h1
    rcases hq.count with h | ⟨-, h⟩
    · omega
    · exact h

/-- … and it is there **iff the run has passed it**: the transition that logs it is the step of the last
pending instruction `quitCb`, and a run that returns has logged it (if one is registered). -/
theorem C09_quit_callback_when (P : Prog) (c0 c c' : Cfg) (h0 : Started c0) (hr : Reach P c0 c) (ht : Trans P c c')
    (d : Nat) (hm : Ev.quitcb d ∈ newLog c c') :
    c.code = [.quitCb] ∧ c'.code = [] ∧ c.L.quitCb = some d :=
  let ⟨h1, h2, h3, _⟩ := quitcb_logged (shape_reach h0 hr) ht hm
  ⟨h1, h2, h3⟩

/-- The machine halts with outcome `returned` exactly when no instruction is pending.  (Every other way
of halting has another outcome: an empty queue with nothing to wait for is `blocked`, an uncaught exception
`raised`, the unhandled `ExceptionSignal` `killed 1`, the refusal to start `raised "NothingScheduled"`.) -/
theorem C09_returned_iff (P : Prog) (c c' : Cfg) : step P c = .error (.returned, c') ↔ c.code = [] ∧ c' = c := by
  constructor
  · intro hs
    cases hc : c.code with
    | nil => rw [step_nil hc] at hs; cases hs; exact ⟨rfl, rfl⟩
    | cons ins rest =>
      rcases halt_outcome hc hs with ⟨-, h | ⟨k, h⟩⟩ | ⟨-, h⟩ | ⟨-, h⟩ | ⟨-, h | h⟩ | ⟨-, h⟩
      · cases h
      · cases k <;> cases h
      all_goals cases h
  · rintro ⟨hc, rfl⟩; exact step_nil hc

/-- A run returns only through the quit callback: when a run that has not died halts with outcome `returned`, the
registered quit callback has been logged (exactly once, by `C09_quit_callback_once`). -/
theorem C09_returned_ran_quit_callback (P : Prog) (c0 c c' : Cfg) (h0 : Started c0) (hl : Live P c0 c)
    (hs : step P c = .error (.returned, c')) (d : Nat) (hd : c0.L.quitCb = some d) : Ev.quitcb d ∈ c.log :=
  (liveInv_live h0 hl).done ((C09_returned_iff P c c').1 hs).1 d hd

/-! ### 4. nothing else ends the loop -/

/-- An empty queue does not end the loop: when `_mainloop`'s get (or a waiting `process_signals`) finds nothing to take
and no typed line can be delivered, the machine halts with outcome `blocked` — the real loop blocks — never `returned`. -/
theorem C09_empty_queue_blocks (P : Prog) (c c' : Cfg) (o : Outcome) (rest : List Instr)
    (hc : c.code = .getDispatch :: rest ∨ ∃ cls t, c.code = .waitStep cls t :: rest)
    (hs : step P c = .error (o, c')) : o = .blocked := by
  have key : ∀ {ins : Instr}, c.code = ins :: rest → (ins = .getDispatch ∨ ∃ cls t, ins = .waitStep cls t) → o = .blocked := by
    intro ins hc hi
    rcases halt_outcome hc hs with ⟨ho, -⟩ | ⟨h, -⟩ | ⟨-, h⟩ | ⟨h, -⟩ | ⟨⟨s, h⟩, -⟩
    · rcases hi with rfl | ⟨cls, t, rfl⟩ <;> cases ho
    · rcases hi with rfl | ⟨cls, t, rfl⟩ <;> cases h
    · exact h
    · rcases hi with rfl | ⟨cls, t, rfl⟩ <;> cases h
    · rcases hi with rfl | ⟨cls, t, rfl⟩ <;> cases h
  rcases hc with hc | ⟨cls, t, hc⟩
  · exact key hc (.inl rfl)
  · exact key hc (.inr ⟨cls, t, rfl⟩)

/-- A `_mainloop` activation leaves its `while` loop only when `_run_loop` is down … -/
theorem C09_loop_left_only_when_flag_down (P : Prog) (c c' : Cfg) (ht : Trans P c c') (q : Nat)
    (hm : Tr.loopReturn q ∈ newTr c c') : c.code.head? = some (.mainCheck q) ∧ c.L.runLoop = false :=
  (trans_origin ht).toNewTr.2 _ hm

/-- … and `_run_loop` goes down only in `force_quit` and when `close_loop` pops a level that is not the
outermost (popping the outermost one is an exit request instead): not by a failing handler, not by an
empty queue, not by anything else. -/
theorem C09_flag_lowered_only_by (P : Prog) (c c' : Cfg) (ht : Trans P c c') (h1 : c.L.runLoop = true)
    (h2 : c'.L.runLoop = false) :
    (c.code.head? = some (.act .forceQuit) ∧ Tr.forceQuit ∈ newTr c c') ∨
    (c.code.head? = some .popLevel ∧ ∃ q, Tr.closeLevel q ∈ newTr c c') :=
  runLoop_cleared ht h1 h2

/-- A failing handler does not touch the loop state: the caught exception changes neither `_run_loop` nor the
force-quit flag nor the levels (it only enqueues the `ExceptionSignal`; see `C02_failure_contained`). -/
theorem C09_failing_handler_keeps_loop (c c' : Cfg) (h : c.raise .err = .ok c') :
    c'.L.runLoop = c.L.runLoop ∧ c'.L.forceQuit = c.L.forceQuit ∧ c'.L.levels = c.L.levels ∧ c'.code <:+ c.code := by
  have hf : Fin c (.raise .err) c' := .caught h
  exact ⟨hf.frame.runLoop, hf.frame.forceQuit, hf.frame.levels, hf.suffix⟩

/-- The outermost `_mainloop` activation finds `_run_loop` down only after a force-quit: closing an inner level never
reaches it (the flag an inner `close_loop` lowers is consumed by an inner activation).  Proved by counting: while
`run()`'s loop is pending, the number of open levels, plus one if the flag is down, never exceeds the number of
pending `_mainloop` activations — which needs that an ordinary exception never unwinds an activation
(bracket invariant `Chained` of `Lemmas/ShapeChain`). -/
theorem C09_outer_loop_left_only_after_force_quit (P : Prog) (c0 c : Cfg) (h0 : Started c0) (hr : Reach P c0 c)
    (hc : c.code = [.mainCheck 0, .catchExit, .quitCb]) (hf : c.L.runLoop = false) : Tr.forceQuit ∈ c.tr :=
  outer_down_forceQuit h0 hr hc hf

/-- **Nothing else ends the loop.**  If a run that has not died halts with outcome `returned`, then its history
contains an exit request — a handler raising `ExitMainLoop`, the scheduler finding no screen left, `close_loop`
closing the outermost level: all of them `Cfg.raise .exit` — or a force-quit (after which the outermost
activation left its loop).  A failing handler, closing an inner level, an empty queue do not end it. -/
theorem C09_nothing_else_ends (P : Prog) (c0 c c' : Cfg) (h0 : Started c0) (hl : Live P c0 c)
    (hs : step P c = .error (.returned, c')) :
    Tr.exit ∈ c.tr ∨ (Tr.loopReturn 0 ∈ c.tr ∧ Tr.forceQuit ∈ c.tr) :=
  (liveInv_live h0 hl).why.resolve_left fun h => h.not_over.1 ((C09_returned_iff P c c').1 hs).1

/-! ### 5. `run()` refuses to start with nothing scheduled -/

/-- With an empty screen stack and the default configuration `run()` raises `NothingScheduled` before anything
runs (the machine halts there; nothing else changes) … -/
theorem C09_refuses_empty (P : Prog) (c : Cfg) (rest : List Instr) (hc : c.code = .apprun :: rest)
    (he : P.runEmpty = false) (hs : c.A.stack = []) :
    step P c = .error (.raised "NothingScheduled", { c with code := rest }) := by
  simp [step, hc, he, hs]

/-- … and with a screen scheduled, or when configured to run empty, it starts: the force-quit flag is reset,
`_run_loop` raised, and the outermost loop, the `except ExitMainLoop` scope and the quit callback are pending. -/
theorem C09_starts (P : Prog) (c : Cfg) (rest : List Instr) (hc : c.code = .apprun :: rest)
    (h : P.runEmpty = true ∨ c.A.stack ≠ []) :
    step P c = .ok { c with code := .mainCheck 0 :: .catchExit :: .quitCb :: rest,
                            L := { c.L with forceQuit := false, runLoop := true } } := by
  simp only [step, hc]
  rw [if_neg]
  · simp [push]
  · rcases h with h | h <;> simp [h]

/-! ### non-vacuity -/

/-- callback 1 force-quits and then enqueues a signal; callback 2 is registered for the same class -/
def C09_fqProg : Prog :=
  { cc := asciiClass, runEmpty := true,
    handlerScript := fun hid _ => if hid = 1 then [.forceQuit, .enq (.user 0) 0 .none 8] else [] }

/-- force-quit inside the first handler of a signal: the second handler of that signal is not called, the
signal enqueued afterwards is dropped, `run()` returns and the quit callback ran once -/
example :
    let r := runFuel C09_fqProg 100
      (initCfg [.enq (.user 0) 0 .none 7] [(.user 0, .user 1, none), (.user 0, .user 2, none)] (some 5) [])
    r.2 = .returned ∧ r.1.L.forceQuit = true ∧ AfterStart r.1 ∧ Tr.forceQuit ∈ r.1.tr ∧
      callsOf { id := 7, cls := .user 0, prio := 0, src := .none } r.1.tr = [(.user 1, none)] ∧
      Tr.dropped { id := 8, cls := .user 0, prio := 0, src := .none } ∈ r.1.tr ∧
      r.1.log.countP isQuitcbEv = 1 ∧ Ev.quitcb 5 ∈ r.1.log := by
  decide +kernel

/-- callback 1 opens a nested loop, in which callback 2 raises `ExitMainLoop`; callback 3 is registered
behind callback 1 -/
def C09_exitProg : Prog :=
  { cc := asciiClass, runEmpty := true,
    handlerScript := fun hid _ =>
      if hid = 1 then [.newLoop (.user 1) 0 9] else if hid = 2 then [.raiseExit] else [] }

/-- an exit request at nesting depth 2: no handler runs afterwards (callback 3 is never called), `run()` returns,
the quit callback ran once with its argument -/
example :
    let r := runFuel C09_exitProg 100
      (initCfg [.enq (.user 0) 0 .none 7]
        [(.user 0, .user 1, none), (.user 1, .user 2, none), (.user 0, .user 3, none)] (some 5) [])
    r.2 = .returned ∧ Tr.exit ∈ r.1.tr ∧ r.1.tr.head? = some .exit ∧ r.1.L.levels.length = 2 ∧
      callsOf { id := 7, cls := .user 0, prio := 0, src := .none } r.1.tr = [(.user 1, none)] ∧
      r.1.log.countP isQuitcbEv = 1 ∧ Ev.quitcb 5 ∈ r.1.log := by
  decide +kernel

/-- … as a live run that returns: `C09_nothing_else_ends` and `C09_returned_ran_quit_callback` apply to it -/
example :
    ∃ c, Live C09_exitProg
        (initCfg [.enq (.user 0) 0 .none 7]
          [(.user 0, .user 1, none), (.user 1, .user 2, none), (.user 0, .user 3, none)] (some 5) []) c ∧
      step C09_exitProg c = .error (.returned, c) ∧ Tr.exit ∈ c.tr ∧ Tr.forceQuit ∉ c.tr :=
  ⟨runLive C09_exitProg 100 _, runLive_live 100 .init,
    (C09_returned_iff _ _ _).2 ⟨List.isEmpty_iff.1 (by decide +kernel), rfl⟩, by decide +kernel, by decide +kernel⟩

/-- … and the force-quit run: it returns without any exit request, after the outermost loop was left -/
example :
    ∃ c, Live C09_fqProg
        (initCfg [.enq (.user 0) 0 .none 7] [(.user 0, .user 1, none), (.user 0, .user 2, none)] (some 5) []) c ∧
      step C09_fqProg c = .error (.returned, c) ∧ Tr.exit ∉ c.tr ∧ Tr.loopReturn 0 ∈ c.tr ∧ Tr.forceQuit ∈ c.tr :=
  ⟨runLive C09_fqProg 100 _, runLive_live 100 .init,
    (C09_returned_iff _ _ _).2 ⟨List.isEmpty_iff.1 (by decide +kernel), rfl⟩, by decide +kernel, by decide +kernel,
    by decide +kernel⟩

/-- Why `Live` and not `Reach` in `C09_nothing_else_ends`: `Reach` also contains the *final* configuration of a run that
died (here: killed by an unhandled `ExceptionSignal`), which has no code left either, so that the machine, stepped once
more from there, reports `returned` — although that run neither saw an exit request nor a force-quit. -/
theorem C09_nothing_else_ends_needs_live :
    ∃ (P : Prog) (c0 c : Cfg), Started c0 ∧ Reach P c0 c ∧ step P c = .error (.returned, c) ∧
      Tr.kill ∈ c.tr ∧ Tr.exit ∉ c.tr ∧ Tr.forceQuit ∉ c.tr :=
  ⟨{ C09_fqProg with handlerScript := fun _ _ => [.raiseErr] },
    initCfg [.enq (.user 0) 0 .none 7] [(.user 0, .user 1, none)] none [], _, ⟨_, _, _, _, rfl⟩,
    reach_runFuel 100 .init, (C09_returned_iff _ _ _).2 ⟨List.isEmpty_iff.1 (by decide +kernel), rfl⟩,
    by decide +kernel, by decide +kernel, by decide +kernel⟩

/-- nothing scheduled, default configuration: refused -/
example :
    (runFuel { C09_exitProg with runEmpty := false } 100 (initCfg [.enq (.user 0) 0 .none 7] [] none [])).2 =
      .raised "NothingScheduled" := by
  decide +kernel

end Simpleline
