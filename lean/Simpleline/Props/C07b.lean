/-
  C07 for the library's own input-driven dialogs (simpleline/render/adv_widgets.py): what `input()` of YesNoDialog,
  PasswordDialog, HelpScreen, ErrorDialog and GetInputScreen returns - the value the scheduler then turns into exactly
  one follow-up (Props/C07.lean) - and what the dialog remembers. Model: `Model/Dialogs.lean`, compared with the real
  classes on every run of the C07 check.
-/
import Simpleline.Model.Dialogs

namespace Simpleline

/-- `YesNoDialog.input` with the replies written as in the statements below -/
theorem yesNo_input_eq (d : YesNo) (key : List Char) :
    d.input key = if key = "yes".toList then ({ answer := some true }, .close)
      else if key = "no".toList then ({ answer := some false }, .close) else (d, .discarded) := rfl

/-- YesNoDialog closes for exactly the two replies, and rejects every other line. -/
theorem C07_yesno_closes_iff (d : YesNo) (key : List Char) :
    (d.input key).2 = .close ↔ (key = "yes".toList ∨ key = "no".toList) := by
  rw [yesNo_input_eq]
  split
  · simp_all
  · split <;> simp_all

/-- Every other line is rejected (`DISCARDED`: it counts as a wrong input) and leaves the answer as it was. -/
theorem C07_yesno_rejects (d : YesNo) (key : List Char) (h1 : key ≠ "yes".toList) (h2 : key ≠ "no".toList) :
    d.input key = (d, .discarded) := by
  rw [yesNo_input_eq, if_neg h1, if_neg h2]

/-- The answer is `True` exactly after "yes", `False` exactly after "no", whatever it was before. -/
theorem C07_yesno_answer (d : YesNo) (key : List Char) :
    ((d.input key).1.answer = some true ↔ (key = "yes".toList ∨ (d.answer = some true ∧ key ≠ "no".toList))) ∧
    ((d.input key).1.answer = some false ↔ (key = "no".toList ∨ (d.answer = some false ∧ key ≠ "yes".toList))) := by
  rw [yesNo_input_eq]
  split
  · next h => simp [h]
  · split
    · next h => simp [h]
    · simp_all

/-- The dialog never ends the process and never answers with anything but the two values the scheduler knows. -/
theorem C07_yesno_ret (d : YesNo) (key : List Char) : (d.input key).2 = .close ∨ (d.input key).2 = .discarded := by
  rw [yesNo_input_eq]
  split
  · exact .inl rfl
  · split
    · exact .inl rfl
    · exact .inr rfl

def YesNo.run (d : YesNo) (keys : List (List Char)) : YesNo := keys.foldl (fun d k => (d.input k).1) d

/-- After any sequence of lines the answer is that of the last line that was a reply (or the initial one). -/
theorem C07_yesno_last_reply (d : YesNo) (keys : List (List Char)) (k : List Char) :
    (d.run (keys ++ [k])).answer =
      if k = "yes".toList then some true else if k = "no".toList then some false else (d.run keys).answer := by
  rw [YesNo.run, List.foldl_append, List.foldl_cons, List.foldl_nil, yesNo_input_eq]
  split
  · rfl
  · split <;> rfl

/-- PasswordDialog: a non-empty line is stored as the password and closes the dialog; the empty line is rejected and
changes nothing. -/
theorem C07_password (d : PwDialog) (key : List Char) :
    (key ≠ [] → d.input key = ({ password := some key }, .close)) ∧ (key = [] → d.input key = (d, .discarded)) := by
  unfold PwDialog.input
  constructor <;> intro h <;> simp [h]

/-- HelpScreen closes on any line; ErrorDialog ends the process on any line. -/
theorem C07_help_error (key : List Char) : helpInput key = .close ∧ errorInput key = .exit1 := ⟨rfl, rfl⟩

/-- `_test_input` accepts iff every condition accepts … -/
theorem C07_getinput_accepts_iff (cs : List Cond) (key : List Char) :
    (testInput cs key).1 = true ↔ ∀ c ∈ cs, c.eval key = true := by
  induction cs with
  | nil => simp [testInput]
  | cons c cs ih =>
    unfold testInput
    by_cases h : c.eval key = true
    · simp [h, ih]
    · simp [h]

/-- … and asks the conditions in the order they were added, stopping at the first one that rejects: the number of
conditions asked is the length of the longest accepting prefix, plus one if some condition rejects. -/
theorem C07_getinput_asks_prefix (cs : List Cond) (key : List Char) :
    (testInput cs key).2 = (cs.takeWhile (·.eval key)).length + (if (testInput cs key).1 then 0 else 1) := by
  induction cs with
  | nil => simp [testInput]
  | cons c cs ih =>
    unfold testInput
    by_cases h : c.eval key = true
    · simp only [h, if_true, List.takeWhile_cons_of_pos, List.length_cons]
      rw [ih]; omega
    · simp [h]

/-- GetInputScreen: an accepted line is stored as the value and closes the screen; a rejected line is `DISCARDED`
and leaves the value (and the conditions) as they were. -/
theorem C07_getinput (d : GetInput) (key : List Char) :
    ((∀ c ∈ d.conds, c.eval key = true) → d.input key = ({ d with value := some key }, .close)) ∧
    ((∃ c ∈ d.conds, c.eval key = false) → d.input key = (d, .discarded)) := by
  unfold GetInput.input
  constructor
  · intro h
    rw [if_pos ((C07_getinput_accepts_iff d.conds key).2 h)]
  · rintro ⟨c, hc, hf⟩
    have : ¬ (testInput d.conds key).1 = true := by
      intro ht
      have := (C07_getinput_accepts_iff d.conds key).1 ht c hc
      simp_all
    rw [if_neg this]

/-- Without conditions every line - the empty one too - is accepted. -/
theorem C07_getinput_no_conditions (v : Option (List Char)) (key : List Char) :
    ({ value := v, conds := [] } : GetInput).input key = ({ value := some key, conds := [] }, .close) := by
  simp [GetInput.input, testInput]

/-- the hypotheses occur: a dialog with two conditions rejects "ab" at the second one and accepts "abc" -/
example :
    let d : GetInput := { conds := [.startsWith 'a', .minLen 3, .differs "abcd".toList] }
    d.input "ab".toList = (d, .discarded) ∧ (testInput d.conds "ab".toList).2 = 2 ∧
    d.input "abc".toList = ({ d with value := some "abc".toList }, .close) ∧ (testInput d.conds "abc".toList).2 = 3 := by
  decide

example : ((({} : YesNo).run ["x".toList, "yes".toList, "maybe".toList]).answer = some true) ∧
    ((({} : YesNo).run ["yes".toList, "no".toList]).answer = some false) := by decide

end Simpleline
