/-
  C06b — Typed lines reach `input()` in the order typed (the positive half of C06's order clause).

  The property theorems; the lemmas they rest on are in `Simpleline/Lemmas/InputOrder*.lean` (on top of `Lemmas/Input*.lean`,
  `Lemmas/Loop*.lean` and, for the instructions that stand only at the head of the code, `Lemmas/ShapeMarkers.lean`), the vocabulary in `Simpleline/Spec/InputOrderSpec.lean`.

  `Props/C06.lean` proves the order up to the hand-off (`C06_reads_in_order`, `C06_one_line_at_a_time`) and shows
  that beyond it the order can be violated (`C06_order_can_be_violated`, finding K5). Here: **when** it is kept.

  `readLines c.log` are the lines read from the console so far, `inputLines c.log` the lines handed to `input`
  callbacks so far, both oldest first. "In the order typed, none twice" is `inputLines c.log <+ readLines c.log`
  (`List.Sublist`: a subsequence — positions, not only values: `C06_order_positions`). It is stronger than
  `C06_at_most_once`.

  Two decidable predicates over the history make it true; each excludes exactly one mechanism by which a later
  line overtakes an earlier one, and each is needed (kernel-checked counterexamples below):

  * `NoReadyCovered c.tr` — at no moment was a successful `InputReadySignal` pending in a *covered* loop level
    (a level of `MainLoop._event_queues` that is not the innermost one). It fails if the hand-off *routes* the
    signal into an enclosing level (K5 as found), **or** if a nested loop is *opened* (a modal screen,
    `execute_new_loop`) while the signal waits in the queue of the level that becomes covered. The second way is
    not seen by the routing-only condition `ReadyInTop` ("every `InputReadySignal` was put into the level that was
    innermost at that moment"), which is therefore **not** sufficient: `C06_order_within_level_needs_NoReadyCovered`.
  * `NoReadyReentry c.tr` — no successful `InputReadySignal` was taken for dispatch while an earlier one was still
    on its way to its `InputHandler`. It fails only if the application registered a handler of its own for
    `InputReadySignal` (such handlers run before the `InputHandler`'s) that re-enters the loop, and a further
    line is typed, handed off and dispatched in there — **even with a single loop level**:
    `C06_order_within_level_needs_NoReadyReentry`. For applications that register no handler for `InputReadySignal`
    (`NoReadyHandler c0`, a decidable condition on the start configuration) it is not needed:
    `C06_order_no_ready_handler`, `C06_exactly_typed_order_single_level`.

  For the harness: the right history classifier of finding K5 is `¬ NoReadyCovered` (not the routing-only flag
  `¬ ReadyInTop`); order violations outside it are classified by `¬ NoReadyReentry` (a second, independent finding:
  re-entrant dispatch of `InputReadySignal`).
-/
import Simpleline.Lemmas.InputOrderMain
import Simpleline.Lemmas.InputOrderStatic
import Simpleline.Props.C06

namespace Simpleline
open Input InputOrder

/-! ### the order theorem -/

/-- **Lines reach `input()` in the order typed.** For every program and every reachable configuration whose history
never had a successful `InputReadySignal` pending in a covered loop level (`NoReadyCovered`) and never dispatched one
inside the dispatch of another (`NoReadyReentry`): the lines handed to `input` callbacks so far are a subsequence of
the lines read from the console so far — every line at most once, and in the order read, which is the order typed
(`C06_reads_in_order`). No bound on the number of screens, levels or lines; every timing of the reader thread.

Why it holds: a line is read only after the previous one was handed off (`C06_one_line_at_a_time`); under
`NoReadyCovered` the hand-off puts the successful signal, at priority 0, into the *active* queue, behind the
successful signals already there (C01: first-in first-out within a priority); signals are only ever taken from the
active queue (C03), whose successful `InputReadySignal`s therefore leave in hand-off order; opening a level starts
with an empty queue, and a level that becomes active again on `close_loop` holds none; under `NoReadyReentry` a taken
signal reaches its `InputHandler` — and the one-shot callback reaches `input` — before the next one is taken. -/
theorem C06_order_within_level (P : Prog) (c0 c : Cfg) (h0 : Started c0) (hU : UserHandlers c0) (hF : NoForge P c0)
    (hr : Reach P c0 c) (hC : NoReadyCovered c.tr) (hE : NoReadyReentry c.tr) :
    (inputLines c.log).Sublist (readLines c.log) :=
  order_reach h0 hU hF hr hC (.inl hE)

/-- **The same for applications without a handler for `InputReadySignal`** (`NoReadyHandler c0`: none registered
before `run()`; the model has no later registration): between taking a successful `InputReadySignal` from the queue
and calling the handler of its `InputHandler` no application code runs at all, so nothing can be dispatched in
between, and only `NoReadyCovered` is left as a hypothesis on the history. It is still needed:
the program of `C06_order_within_level_needs_NoReadyCovered` registers no such handler. -/
theorem C06_order_no_ready_handler (P : Prog) (c0 c : Cfg) (h0 : Started c0) (hU : UserHandlers c0) (hF : NoForge P c0)
    (hH : NoReadyHandler c0) (hr : Reach P c0 c) (hC : NoReadyCovered c.tr) :
    (inputLines c.log).Sublist (readLines c.log) :=
  order_reach h0 hU hF hr hC (.inr fun _ => takeQuiet_reach h0 hU hF hH)

/-- `List.Sublist` is exactly "an embedding at strictly increasing positions" (`EmbedsAt`, in
`Spec/InputOrderSpec.lean`) -/
theorem C06_sublist_positions {α} (l₁ l₂ : List α) (h : l₁.Sublist l₂) : ∃ f, EmbedsAt f l₁ l₂ := by
  induction h with
  | slnil => exact ⟨id, ⟨fun i j _ hj => (by cases hj), fun k hk => (by cases hk)⟩⟩
  | @cons l₁ l₂ a _ ih =>
    obtain ⟨f, h1, h2⟩ := ih
    refine ⟨fun k => f k + 1, fun i j hij hj => Nat.succ_lt_succ (h1 i j hij hj), fun k hk => ?_⟩
    obtain ⟨h3, h4⟩ := h2 k hk
    exact ⟨by simp; omega, by simpa using h4⟩
  | @cons_cons l₁ l₂ a _ ih =>
    obtain ⟨f, h1, h2⟩ := ih
    refine ⟨fun k => match k with | 0 => 0 | k + 1 => f k + 1, ?_, ?_⟩
    · intro i j hij hj
      cases j with
      | zero => omega
      | succ j =>
        cases i with
        | zero => simp
        | succ i =>
          simp only [List.length_cons] at hj
          exact Nat.succ_lt_succ (h1 i j (by omega) (by omega))
    · intro k hk
      cases k with
      | zero => simp
      | succ k =>
        simp only [List.length_cons] at hk
        obtain ⟨h3, h4⟩ := h2 k (by omega)
        exact ⟨by simp; omega, by simpa using h4⟩

/-- **… with the positions made explicit.** There is a strictly increasing `f` such that the `k`-th line handed to an
`input` callback is line number `f k` of the console input (the empty line beyond its end): equal texts typed twice
are told apart, and the `k`-th delivery never goes back behind the `(k-1)`-th. -/
theorem C06_order_positions (P : Prog) (c0 c : Cfg) (h0 : Started c0) (hU : UserHandlers c0) (hF : NoForge P c0)
    (hr : Reach P c0 c) (hC : NoReadyCovered c.tr) (hE : NoReadyReentry c.tr) :
    ∃ f : Nat → Nat, (∀ i j, i < j → j < (inputLines c.log).length → f i < f j) ∧
      ∀ k, k < (inputLines c.log).length →
        f k < (readLines c.log).length ∧ (inputLines c.log)[k]? = some (c0.A.stdin.getD (f k) []) := by
  obtain ⟨f, h1, h2⟩ := C06_sublist_positions _ _ (order_reach h0 hU hF hr hC (.inl hE))
  refine ⟨f, h1, fun k hk => ?_⟩
  obtain ⟨h3, h4⟩ := h2 k hk
  refine ⟨h3, ?_⟩
  rw [h4]
  have hro := (objInv_reach h0 hr).read_eq
  generalize hn : (readLines c.log).length = n at hro h3
  rw [hro, List.getElem?_map, List.getElem?_range h3]
  rfl

/-- **What is still waiting is in order, too.** Under the same hypotheses: the lines already handed to `input`,
followed by the lines of the successful `InputReadySignal`s waiting in the active queue *in queue order*, are a
subsequence of the lines read. So whatever the loop dispatches next from this queue is later than everything
delivered, and the waiting lines will be delivered in the order typed. -/
theorem C06_pending_in_order (P : Prog) (c0 c : Cfg) (h0 : Started c0) (hU : UserHandlers c0) (hF : NoForge P c0)
    (hr : Reach P c0 c) (hC : NoReadyCovered c.tr) (hE : NoReadyReentry c.tr) :
    (inputLines c.log ++ ((c.queue c.L.active).sigs.filter Sig.okReady).map (·.line)).Sublist (readLines c.log) := by
  rw [← readyQ_eq]
  refine List.Sublist.trans ?_ (ordInv_reach h0 hU hF hr hC (.inl hE))
  refine (List.Sublist.refl _).append ?_
  exact (List.sublist_append_left _ _).trans (List.sublist_append_right _ _)

/-- **Under `NoReadyCovered` the state agrees with the history:** no covered level holds a successful
`InputReadySignal` (`levelsOf c.tr` is `c.L.levels`, `readyPending q c.tr` counts queue object `q`). -/
theorem C06_covered_levels_hold_no_line (P : Prog) (c0 c : Cfg) (h0 : Started c0) (hr : Reach P c0 c)
    (hC : NoReadyCovered c.tr) :
    levelsOf c.tr = c.L.levels ∧ (∀ q, readyPending q c.tr = (c.queue q).sigs.countP Sig.okReady) ∧
      ∀ q ∈ c.L.levels.dropLast, ∀ s ∈ (c.queue q).sigs, s.okReady = false :=
  ⟨levOK_reach h0 hr, readyPending_reach h0 hr, covered_no_ready h0 hr hC⟩

/-! ### a single loop level -/

/-- a history without `execute_new_loop` satisfies `NoReadyCovered` -/
theorem C06_single_level_never_covered (tr : List Tr) (hO : NoOpenLevel tr) : NoReadyCovered tr := by
  induction tr with
  | nil => trivial
  | cons t tr ih =>
    refine ⟨?_, ih (fun t' ht' => hO t' (List.mem_cons_of_mem _ ht'))⟩
    intro q hq
    have := levelsOf_length_of_noOpen hO
    have hl : (levelsOf (t :: tr)).dropLast = [] := by
      rw [← List.length_eq_zero_iff, List.length_dropLast]; omega
    rw [hl] at hq; cases hq

/-- **Applications that never open a nested loop** (no modal screen, no `execute_new_loop`: the history has no
`.openLevel`) **and register no handler for `InputReadySignal`**: the lines reach `input()` in the order typed, each
at most once — no further hypothesis on the history (`NoReadyCovered` holds by itself: there is never a covered
level). The condition on the handlers cannot be dropped: `C06_order_within_level_needs_NoReadyReentry` is a
single-level program. -/
theorem C06_exactly_typed_order_single_level (P : Prog) (c0 c : Cfg) (h0 : Started c0) (hU : UserHandlers c0)
    (hF : NoForge P c0) (hH : NoReadyHandler c0) (hr : Reach P c0 c) (hO : NoOpenLevel c.tr) :
    (inputLines c.log).Sublist (readLines c.log) :=
  C06_order_no_ready_handler P c0 c h0 hU hF hH hr (C06_single_level_never_covered _ hO)

/-- … or, with handlers for `InputReadySignal` registered, provided `NoReadyReentry`. -/
theorem C06_exactly_typed_order_single_level_of_NoReadyReentry (P : Prog) (c0 c : Cfg) (h0 : Started c0)
    (hU : UserHandlers c0) (hF : NoForge P c0) (hr : Reach P c0 c) (hO : NoOpenLevel c.tr)
    (hE : NoReadyReentry c.tr) : (inputLines c.log).Sublist (readLines c.log) :=
  order_reach h0 hU hF hr (C06_single_level_never_covered _ hO) (.inl hE)

/-! ### non-vacuity -/

/-- one screen, three lines: "hello" and "x" are not understood (the screen asks again), "c" closes the screen and
ends the application -/
def C06b_exP : Prog := { cc := asciiClass, screens := [{ name := ['A'], title := some ['T'] }] }
def C06b_exC : Cfg := initCfg [.schedule 0 (some 7)] [] none ["hello".toList, ['x'], ['c']]

example :
    let c := (runFuel C06b_exP 600 C06b_exC).1
    (runFuel C06b_exP 600 C06b_exC).2 = .returned ∧
    UserHandlers C06b_exC ∧ C06b_exC.NoForge ∧ NoReadyHandler C06b_exC ∧ NoReadyCovered c.tr ∧ NoReadyReentry c.tr ∧
    NoOpenLevel c.tr ∧
    readLines c.log = ["hello".toList, ['x'], ['c']] ∧ inputLines c.log = ["hello".toList, ['x'], ['c']] := by
  decide +kernel

/-- two levels: "one" makes screen 0 open the modal screen 1 (a nested loop), which gets "two" (not understood) and
"c" (closes it, the nested loop ends): three lines, two levels, every hand-off into the innermost level -/
def C06b_modalP : Prog :=
  { cc := asciiClass, screens := [{ name := ['A'] }, { name := ['B'] }],
    screenScript := fun scr cb n =>
      if scr = 0 ∧ cb = .input ∧ n = 0 then { acts := [.pushModal 1 none], ret := .state "PROCESSED" } else {} }
def C06b_modalC : Cfg := initCfg [.schedule 0 none] [] none ["one".toList, "two".toList, ['c']]

example :
    let c := (runFuel C06b_modalP 3000 C06b_modalC).1
    UserHandlers C06b_modalC ∧ C06b_modalC.NoForge ∧ NoReadyHandler C06b_modalC ∧ NoReadyCovered c.tr ∧
    NoReadyReentry c.tr ∧ ¬ NoOpenLevel c.tr ∧
    readLines c.log = ["one".toList, "two".toList, ['c']] ∧
    c.log.reverse.filterMap (fun e => match e with | .cb s .input _ k => some (s, k) | _ => none) =
      [(0, some "one".toList), (1, some "two".toList), (1, some ['c'])] := by
  decide +kernel

/-! ### the hypotheses are needed -/

/-- the K5 witness of `Props/C06.lean` (`C06_order_can_be_violated`) is excluded by `NoReadyCovered` — there the
hand-off routes the signal into the outer, covered level (`ReadyInTop` fails as well) -/
example :
    ¬ NoReadyCovered (runFuel C06_orderP 2000 C06_orderC).1.tr ∧ ¬ ReadyInTop (runFuel C06_orderP 2000 C06_orderC).1.tr ∧
      NoReadyReentry (runFuel C06_orderP 2000 C06_orderC).1.tr := by
  decide +kernel

def C06b_coverP : Prog :=
  { cc := asciiClass,
    screens := [{ name := ['A'] }, { name := ['B'], inputRequired := false }],
    handlerScript := fun hid n =>
      if hid = 0 ∧ n = 0 then [.enq (.user 1) 0 .none 6]
      else if hid = 1 ∧ n = 0 then [.pushModal 1 none]
      else if hid = 2 ∧ n = 0 then [.push 0 none] else [],
    screenScript := fun scr cb n =>
      if scr = 1 ∧ cb = .show ∧ n = 0 then { acts := [.enq (.user 2) 0 .none 7] }
      else if scr = 1 ∧ cb = .show ∧ n = 1 then { acts := [.closeDirect] } else {},
    deliverAt := [5] }
def C06b_coverC : Cfg :=
  initCfg [.schedule 0 none, .enq (.user 0) 0 .none 5]
    [(.user 0, .user 0, none), (.user 1, .user 1, none), (.user 2, .user 2, none)] none
    ["one".toList, "two".toList, ['c'], ['c']]

theorem C06b_coverP_noForge : C06b_coverP.NoForge := by
  constructor
  · intro scr cb n a ha
    simp only [C06b_coverP] at ha
    split at ha
    · simp only [List.mem_singleton] at ha; subst ha; rfl
    · split at ha
      · simp only [List.mem_singleton] at ha; subst ha; rfl
      · cases ha
  · intro hid n a ha
    simp only [C06b_coverP] at ha
    split at ha
    · simp only [List.mem_singleton] at ha; subst ha; rfl
    · split at ha
      · simp only [List.mem_singleton] at ha; subst ha; rfl
      · split at ha
        · simp only [List.mem_singleton] at ha; subst ha; rfl
        · cases ha

/-- **The routing condition `ReadyInTop` is not enough; `NoReadyCovered` is needed** — ordinary user signals, one
modal screen and the timing of the reader thread suffice. Screen 0 asks in the outermost level. While the handler of
user signal 0 runs, "one" is read (its `InputReceivedSignal` is enqueued); then that handler enqueues user signal 1:
the queue is [received "one", user 1]. The hand-off puts the successful `InputReadySignal` for "one" *behind* user
signal 1 — into the outermost level, which is the innermost one at that moment. User signal 1 is dispatched first:
its handler opens the modal screen 1, a nested loop; "one" is now covered. Inside, screen 0 is pushed again, asks
again and gets "two" and "c"; "one" arrives when the modal screen has been closed. Every `InputReadySignal` of the
history was put into the then-innermost level (`ReadyInTop`), no application handler for `InputReadySignal` exists
(`NoReadyHandler`, hence no re-entry) — and the order is violated. -/
theorem C06_order_within_level_needs_NoReadyCovered :
    ∃ c, Reach C06b_coverP C06b_coverC c ∧ UserHandlers C06b_coverC ∧ NoForge C06b_coverP C06b_coverC ∧
      NoReadyHandler C06b_coverC ∧ ReadyInTop c.tr ∧ NoReadyReentry c.tr ∧ ¬ NoReadyCovered c.tr ∧
      readLines c.log = ["one".toList, "two".toList, ['c'], ['c']] ∧
      inputLines c.log = ["two".toList, ['c'], "one".toList, ['c']] ∧
      ¬ (inputLines c.log).Sublist (readLines c.log) :=
  reach_of_run 3000 ⟨by decide, ⟨C06b_coverP_noForge, by decide⟩, by decide, by decide +kernel⟩

def C06b_reentryP : Prog :=
  { cc := asciiClass, screens := [{ name := ['A'] }],
    handlerScript := fun hid n => if hid = 0 ∧ n = 0 then [.schedRedraw, .proc (some .inputReady)] else [],
    screenScript := fun scr cb _ => if scr = 0 ∧ cb = .input then { ret := .state "PROCESSED" } else {} }
def C06b_reentryC : Cfg :=
  initCfg [.schedule 0 none] [(.inputReady, .user 0, none)] none ["one".toList, "two".toList]

theorem C06b_reentryP_noForge : C06b_reentryP.NoForge := by
  constructor
  · intro scr cb n a ha
    simp only [C06b_reentryP] at ha
    split at ha <;> cases ha
  · intro hid n a ha
    simp only [C06b_reentryP] at ha
    split at ha
    · simp only [List.mem_cons, List.not_mem_nil, or_false] at ha
      rcases ha with rfl | rfl <;> rfl
    · cases ha

/-- **`NoReadyReentry` is needed — even with a single loop level.** The application registered a handler for
`InputReadySignal`; it runs before the `InputHandler`'s own handler. When "one" is dispatched, that handler redraws
and processes signals until the next `InputReadySignal` (`process_signals(return_after=InputReadySignal)`): the
screen is drawn and asks again, "two" is typed, handed off and dispatched to `input()` — inside the dispatch of
"one", which reaches `input()` only when the handler returns. No nested loop was ever opened. -/
theorem C06_order_within_level_needs_NoReadyReentry :
    ∃ c, Reach C06b_reentryP C06b_reentryC c ∧ UserHandlers C06b_reentryC ∧ NoForge C06b_reentryP C06b_reentryC ∧
      ¬ NoReadyHandler C06b_reentryC ∧ NoOpenLevel c.tr ∧ NoReadyCovered c.tr ∧ ReadyInTop c.tr ∧
      ¬ NoReadyReentry c.tr ∧
      readLines c.log = ["one".toList, "two".toList] ∧ inputLines c.log = ["two".toList, "one".toList] ∧
      ¬ (inputLines c.log).Sublist (readLines c.log) :=
  reach_of_run 3000 ⟨by decide, ⟨C06b_reentryP_noForge, by decide⟩, by decide, by decide +kernel⟩

end Simpleline
