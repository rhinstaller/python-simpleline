/-
  C20d — The abstract scheduling core of C20 (`Model/GLoop.lean`: `mrun` = `MainLoop`, `grun` = `GLibEventLoop`, about
  which `Props/C20.lean` speaks) *is* what the two validated machines do, for flat applications.

  A flat application (`Spec/FlatSpec.lean`) registers user handlers `hs` for user signal classes
  (`FlatHandlers hs`), enqueues the signals `init` before `App.run()`, and its handlers only enqueue further user
  signals (`Flat P`); `absProg P hs` is its abstract handler program (the driver's `flatProg`, which the C20 check runs
  against both real loops): the state is the invocation counter per handler id, dispatching a signal runs the handlers
  of its class in registration order.  The theorems quantify over every flat program, every handler registration,
  every start-up enqueue list, every quit callback and typed input (both irrelevant), and every number `n` of dispatches.

  `MRel hs c m` / `GRel hs c g` (`Spec/FlatSpec.lean`) say that the machine configuration `c` is at a dispatch boundary
  and corresponds to the abstract state: pending code = the loop frame (+ the `gDisp`s of the rest of the batch), pending
  signals = `m.queue` (attached sources = `g.attached`, rest of the batch = `g.batch`), invocation counters = `st`, and
  the whole observable log (oldest first) = `runLog hs done`, i.e. for every dispatched signal, in order, the events
  `H hid sid data 1`, `h< hid` of every handler registered for its class, in registration order.

  `runFuel P k c0 = (c, .fuel)` means: the first `k` steps from `c0` succeed and lead to `c`.
-/
import Simpleline.Lemmas.FlatMRun
import Simpleline.Lemmas.FlatGSim
import Simpleline.Lemmas.FlatExamples
import Simpleline.Props.C20

namespace Simpleline.Flat
open Simpleline Simpleline.GLoop

/-- The MainLoop machine refines `mrun`: for every flat application and every `n`, the machine, started from its start
configuration, reaches (by some number `k` of successful steps) a dispatch boundary that corresponds to the abstract
`MainLoop` state after `n` dispatches: the same signals are pending in the same order, the handlers have been invoked
the same number of times, and the log is exactly `(mrun … n …).done` expanded into the per-handler invocations. So
the machine's macro step "take the head, run all its handlers, insert what they enqueue" is `mstep`
(`mrel_step`), and the theorems of `Props/C20.lean` about `mrun` are theorems about the validated machine. -/
theorem C20d_machine_refines_mrun (P : Prog) (hP : Flat P) (hs : List (Cls × HRef × Option Nat)) (hhs : FlatHandlers hs)
    (init : List GSig) (quitCb : Option Nat) (stdin : List Str) (n : Nat) :
    ∃ k c, runFuel P k (initCfg (initActs init) hs quitCb stdin) = (c, .fuel) ∧
      MRel hs c (mrun (absProg P hs) n (minit [] init)) := by
  obtain ⟨c, hst, hrel⟩ := machine_reaches P hP hhs init quitCb stdin n
  obtain ⟨k, hk⟩ := hst.runFuel
  exact ⟨k, c, by simpa [runFuel] using hk 0, hrel.toRel⟩

/-- … and the machine blocks in `get()` exactly when `mstep` has nothing to dispatch: if the abstract run is quiescent
after `n` dispatches, then with any sufficiently large fuel the machine run ends `blocked`, in one and the same
configuration, whose log is `(mrun … n …).done` expanded. (If `mstep` has something to dispatch the machine goes on to
the next boundary: the previous theorem for `n + 1`.) -/
theorem C20d_machine_quiescent (P : Prog) (hP : Flat P) (hs : List (Cls × HRef × Option Nat)) (hhs : FlatHandlers hs)
    (init : List GSig) (quitCb : Option Nat) (stdin : List Str) (n : Nat)
    (hq : mstep (absProg P hs) (mrun (absProg P hs) n (minit [] init)) = none) :
    ∃ K c, (∀ k, K ≤ k → runFuel P k (initCfg (initActs init) hs quitCb stdin) = (c, .blocked)) ∧
      c.log.reverse = runLog hs (mrun (absProg P hs) n (minit [] init)).done := by
  obtain ⟨c1, hst, hrel⟩ := machine_reaches P hP hhs init quitCb stdin n
  obtain ⟨k0, hk0⟩ := hst.runFuel
  obtain ⟨c2, hb, hlog⟩ := mrel_blocked P hrel hq
  refine ⟨k0 + 2, c2, fun k hk => ?_, by rw [hlog]; exact hrel.toRel.log⟩
  have : k = k0 + (2 + (k - (k0 + 2))) := by omega
  rw [this, hk0, hb]

/-- The GLib machine refines `grun`: for every flat application and every `n`, the GLib machine reaches a dispatch
boundary that corresponds to the abstract GLib state after `n` dispatches: the sources attached to the context are
`attached` (attach order), the pending `gDisp` instructions of the current iteration are `batch`, same counters, and
the log is `(grun … n …).done` expanded. So one dispatch of the machine — preceded by the collection of a new batch when
the current one is exhausted — is `gstep` (`grel_step`). -/
theorem C20d_gmachine_refines_grun (P : Prog) (hP : Flat P) (hs : List (Cls × HRef × Option Nat)) (hhs : FlatHandlers hs)
    (init : List GSig) (quitCb : Option Nat) (stdin : List Str) (n : Nat) :
    ∃ k c, G.runFuel P k (G.initCfg (initActs init) hs quitCb stdin) = (c, .fuel) ∧
      GRel hs c (grun (absProg P hs) n (ginit [] init)) := by
  obtain ⟨c, hst, hrel⟩ := gmachine_reaches P hP hhs init quitCb stdin n
  obtain ⟨k, hk⟩ := hst.runFuel
  exact ⟨k, c, by simpa [G.runFuel] using hk 0, hrel.toRel⟩

/-- … and the GLib machine blocks in a blocking iteration exactly when `gstep` has nothing to dispatch. -/
theorem C20d_gmachine_quiescent (P : Prog) (hP : Flat P) (hs : List (Cls × HRef × Option Nat)) (hhs : FlatHandlers hs)
    (init : List GSig) (quitCb : Option Nat) (stdin : List Str) (n : Nat)
    (hq : gstep (absProg P hs) (grun (absProg P hs) n (ginit [] init)) = none) :
    ∃ K c, (∀ k, K ≤ k → G.runFuel P k (G.initCfg (initActs init) hs quitCb stdin) = (c, .blocked)) ∧
      c.log.reverse = runLog hs (grun (absProg P hs) n (ginit [] init)).done := by
  obtain ⟨c1, hst, hrel⟩ := gmachine_reaches P hP hhs init quitCb stdin n
  obtain ⟨k0, hk0⟩ := hst.runFuel
  obtain ⟨c2, hb, hlog⟩ := grel_blocked P hrel hq
  refine ⟨k0 + 2, c2, fun k hk => ?_, by rw [hlog]; exact hrel.toRel.log⟩
  have : k = k0 + (2 + (k - (k0 + 2))) := by omega
  rw [this, hk0, hb]

/-- The two machines agree on calm flat applications: if the abstract `MainLoop` run is calm along its first `n`
dispatches (`calmRun`, the hypothesis of `C20_flat_calm_equiv`: while other signals are pending, handlers enqueue
nothing more urgent than the signal being dispatched), then the MainLoop machine and the GLib machine reach dispatch
boundaries — corresponding to `mrun … n` and `grun … n` — with the *same log*: the same handlers invoked with the same
signals and data in the same order (`invocations`), for every `n`. -/
theorem C20d_flat_machines_agree (P : Prog) (hP : Flat P) (hs : List (Cls × HRef × Option Nat)) (hhs : FlatHandlers hs)
    (init : List GSig) (quitCb : Option Nat) (stdin : List Str) (n : Nat)
    (hcalm : calmRun (absProg P hs) n (minit [] init) = true) :
    ∃ k k' c c', runFuel P k (initCfg (initActs init) hs quitCb stdin) = (c, .fuel) ∧
      G.runFuel P k' (G.initCfg (initActs init) hs quitCb stdin) = (c', .fuel) ∧
      MRel hs c (mrun (absProg P hs) n (minit [] init)) ∧ GRel hs c' (grun (absProg P hs) n (ginit [] init)) ∧
      c.log = c'.log ∧ invocations c.log = invocations c'.log := by
  obtain ⟨k, c, hk, hm⟩ := C20d_machine_refines_mrun P hP hs hhs init quitCb stdin n
  obtain ⟨k', c', hk', hg⟩ := C20d_gmachine_refines_grun P hP hs hhs init quitCb stdin n
  have hdone := (C20_flat_calm_equiv (absProg P hs) [] init n hcalm).1
  have hlog : c.log = c'.log := by
    have : c.log.reverse = c'.log.reverse := by rw [hm.log, hg.log, hdone]
    simpa using this
  exact ⟨k, k', c, c', hk, hk', hm, hg, hlog, congrArg invocations hlog⟩

/-- … and they stop together: if moreover the abstract run is quiescent after `n` dispatches, both machine runs end
`blocked` for every sufficiently large fuel, with the same final log, which is `(mrun … n …).done` expanded. -/
theorem C20d_flat_machines_agree_final (P : Prog) (hP : Flat P) (hs : List (Cls × HRef × Option Nat))
    (hhs : FlatHandlers hs) (init : List GSig) (quitCb : Option Nat) (stdin : List Str) (n : Nat)
    (hcalm : calmRun (absProg P hs) n (minit [] init) = true)
    (hq : mstep (absProg P hs) (mrun (absProg P hs) n (minit [] init)) = none) :
    ∃ K c c', (∀ k, K ≤ k → runFuel P k (initCfg (initActs init) hs quitCb stdin) = (c, .blocked) ∧
        G.runFuel P k (G.initCfg (initActs init) hs quitCb stdin) = (c', .blocked)) ∧
      c.log = c'.log ∧ c.log.reverse = runLog hs (mrun (absProg P hs) n (minit [] init)).done := by
  have hq' := (C20_quiescent (absProg P hs) [] init n hcalm).1 hq
  obtain ⟨K, c, hk, hl⟩ := C20d_machine_quiescent P hP hs hhs init quitCb stdin n hq
  obtain ⟨K', c', hk', hl'⟩ := C20d_gmachine_quiescent P hP hs hhs init quitCb stdin n hq'
  have hdone := (C20_flat_calm_equiv (absProg P hs) [] init n hcalm).1
  refine ⟨max K K', c, c', fun k hkk => ⟨hk k (by omega), hk' k (by omega)⟩, ?_, hl⟩
  have : c.log.reverse = c'.log.reverse := by rw [hl, hl', hdone]
  simpa using this

/-- the programs of the examples are flat (they are given by tables) and so are their handlers -/
example : Flat exCalmP ∧ Flat exUrgentP ∧ FlatHandlers exHs :=
  ⟨flat_tableProg _ _, flat_tableProg _ _, by decide⟩

/-- Non-vacuity: a flat application with two classes and three handlers (two of them on the same class, one with
data), handlers that enqueue; the abstract run is calm; both machines, run by `runFuel`, end `blocked` with the same
log: eight handler invocations for five signals, equal to the abstract runs `mrun` and `grun` expanded. -/
example :
    calmRun (absProg exCalmP exHs) 10 (minit [] exCalmInit) = true ∧
    (mLog exCalmP exCalmInit 200).2 = .blocked ∧ (gLog exCalmP exCalmInit 200).2 = .blocked ∧
    (mLog exCalmP exCalmInit 200).1 = (gLog exCalmP exCalmInit 200).1 ∧
    invocations (mLog exCalmP exCalmInit 200).1 = [(10, 1), (11, 1), (12, 2), (12, 3), (10, 4), (11, 4), (10, 5), (11, 5)] ∧
    (mLog exCalmP exCalmInit 200).1.reverse = runLog exHs (mrun (absProg exCalmP exHs) 10 (minit [] exCalmInit)).done ∧
    (gLog exCalmP exCalmInit 200).1.reverse = runLog exHs (grun (absProg exCalmP exHs) 10 (ginit [] exCalmInit)).done := by
  decide +kernel

/-- Calm is needed at the level of the machines too (finding G1): signals 1 and 2 of priority 0 are pending and handler
10, called for signal 1, enqueues signal 3 of priority -10. The MainLoop machine calls handler 12 for signal 3 before
the handlers of signal 2, the GLib machine finishes its batch first; each machine still follows its abstract run. -/
theorem C20d_machines_need_calm :
    calmRun (absProg exUrgentP exHs) 3 (minit [] exUrgentInit) = false ∧
    invocations (mLog exUrgentP exUrgentInit 200).1 = [(10, 1), (11, 1), (12, 3), (10, 2), (11, 2)] ∧
    invocations (gLog exUrgentP exUrgentInit 200).1 = [(10, 1), (11, 1), (10, 2), (11, 2), (12, 3)] ∧
    (mLog exUrgentP exUrgentInit 200).1.reverse = runLog exHs (mrun (absProg exUrgentP exHs) 3 (minit [] exUrgentInit)).done ∧
    (gLog exUrgentP exUrgentInit 200).1.reverse = runLog exHs (grun (absProg exUrgentP exHs) 3 (ginit [] exUrgentInit)).done := by
  decide +kernel

end Simpleline.Flat
