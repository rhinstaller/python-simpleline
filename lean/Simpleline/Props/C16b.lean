/-
  C16b — Rendering depends only on current content and width, not on render history: `ColumnWidget`
  and `EntryWidget`.

  `c : ColW` is a `ColumnWidget` object: its own buffer and cursor `c.st`, its spacing, and its columns
  `(width or None, [widgets])`, every widget carrying the state of its Python object. `c.reset` forgets
  all the state (the column widget's and, by `Wd.reset`, every widget's) and keeps the contents.
  `c.render cc w` is `c.render(w)`: the object afterwards, or the exception a child raised (the model
  then has no object: in Python the object's contents are as before, see `C16_column_other_width_and_back`).
-/
import Simpleline.Lemmas.ColumnRender

namespace Simpleline

/-- The buffer and cursor a `ColumnWidget` was left with by earlier renders, draws or writes do not
matter: `render` starts by clearing them. -/
theorem C16_column_forgets_buffer (cc : CharClass) (c : ColW) (s : WSt) (w : Int) :
    ColW.render cc { c with st := s } w = ColW.render cc c w := rfl

/-- The result of `render(w)` (the lines, the cursor, the state of every widget in every column — or
the exception) is the same whatever state the column widget and its widgets were in: it is a function
of the contents and the width. -/
theorem C16_column_fresh (cc : CharClass) (c : ColW) (w : Int) : c.render cc w = c.reset.render cc w :=
  ColW.render_reset cc c w

/-- `render` changes state only: spacing, column widths and the widgets' contents are untouched. -/
theorem C16_column_keeps_contents (cc : CharClass) (c r : ColW) (w : Int) (h : c.render cc w = .ok r) :
    r.reset = c.reset := by
  obtain ⟨st, cols', h1, rfl⟩ := ColW.render_ok h
  have := renderColumnsFrom_keeps cc _ _ _ _ _ _ _ h1
  simp only [resetCols] at this
  simp only [ColW.reset, this]

/-- Two column widgets with the same contents (same spacing, same column widths, widgets equal up to
their forgotten state) render alike at every width, whatever their histories: both raise the same
exception, or both succeed with the same lines and cursor (the whole resulting objects are equal, so
every widget inside shows the same lines too) and again the same contents. -/
theorem C16_column_state_independent (cc : CharClass) (c d : ColW) (w : Int) (h : c.reset = d.reset) :
    c.render cc w = d.render cc w ∧
    ((∃ e, c.render cc w = .error e ∧ d.render cc w = .error e) ∨
     (∃ r r', c.render cc w = .ok r ∧ d.render cc w = .ok r' ∧ r.lines = r'.lines ∧ r.st.cur = r'.st.cur ∧
        r.reset = r'.reset ∧ r'.reset = d.reset)) := by
  have heq := ColW.render_congr_reset cc w h
  refine ⟨heq, ?_⟩
  cases hr : d.render cc w with
  | error e => exact Or.inl ⟨e, by rw [heq, hr], rfl⟩
  | ok r => exact Or.inr ⟨r, r, by rw [heq, hr], rfl, rfl, rfl, rfl, C16_column_keeps_contents cc d r w hr⟩

/-- Rendering twice at the same width gives the same object (lines, cursor, children) as rendering once. -/
theorem C16_column_render_twice (cc : CharClass) (c r : ColW) (w : Int) (h : c.render cc w = .ok r) :
    r.render cc w = .ok r := by
  rw [ColW.render_congr_reset cc w (C16_column_keeps_contents cc c r w h), h]

/-- Rendering at another width `w'` first — successfully, or with an exception (then the object keeps
its contents; the model keeps the object as it was) — and then at `w` gives the same result as rendering
at `w` directly. -/
theorem C16_column_other_width_and_back (cc : CharClass) (c : ColW) (w w' : Int) :
    (match c.render cc w' with
     | .ok c1 => c1
     | .error _ => c).render cc w = c.render cc w := by
  cases h : c.render cc w' with
  | error e => rfl
  | ok c1 => exact ColW.render_congr_reset cc w (C16_column_keeps_contents cc c c1 w' h)

/-- `EntryWidget(title, value)` is the `TextWidget` of `_create_text(title, value)`: the title alone
when the value is `None` or empty, otherwise the title, a line break and the value. (The driver builds
an entry as `Wd.text {} (entryText title value)`, so everything proved for text widgets — C11, C16 —
holds for entries.) -/
theorem C16_entry_text (t : List Char) :
    entryText t none = t ∧ entryText t (some []) = t ∧
    ∀ (c : Char) (v : List Char), entryText t (some (c :: v)) = t ++ '\n' :: c :: v := by
  refine ⟨rfl, rfl, fun c v => ?_⟩
  simp [entryText, truthy]

/-- … so the rendering of an entry depends on its title, value and the width only -/
theorem C16_entry_render (cc : CharClass) (s s' : WSt) (t : List Char) (v : Option (List Char)) (w : Int) :
    (Wd.text s (entryText t v)).render cc w = (Wd.text s' (entryText t v)).render cc w := by
  rw [render_reset cc (Wd.text s _), render_reset cc (Wd.text s' _)]
  rfl

/-! Non-vacuity: a two-column widget rendered at 20, at 12, at a width where a child refuses (the
`None` column has no room left), and at 20 again. -/
example :
    let c : ColW := { spacing := 2, cols :=
      [(some 6, [.text {} "aaa bbb ccc".toList, .text {} (entryText ['x'] (some ['y']))]),
       (none, [.text {} "hello world again".toList])] }
    (match c.render asciiClass 20 with
     | .ok c1 => (match c1.render asciiClass 12 with
        | .ok c2 => (c1.lines, c2.lines, (match c2.render asciiClass 8 with | .ok _ => false | .error _ => true),
            (match c2.render asciiClass 20 with | .ok c3 => c3.lines | .error _ => []))
        | .error _ => ([], [], false, []))
     | .error _ => ([], [], false, [])) =
    (["aaa     hello world".toList, "bbb     again".toList, "ccc".toList, "x".toList, "y".toList],
     ["aaa     hell".toList, "bbb     o wo".toList, "ccc     rld ".toList, "x       agai".toList, "y       n".toList],
     true,
     ["aaa     hello world".toList, "bbb     again".toList, "ccc".toList, "x".toList, "y".toList]) := by
  decide +kernel

end Simpleline
