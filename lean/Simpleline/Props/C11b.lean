/-
  C11 (second part) — the wrapped text is exactly the greedy word wrap of each source line: no
  spurious blank lines, no dropped or repeated words, for every text and every width.

  `greedyLines cc w chunks` (Spec/GreedySpec.lean) is the textbook greedy rule on the chunks of
  `TextWrapper._split`, written independently of the model of `_wrap_chunks` (`wrapStep`/`wrapLoop` of
  Model/Text.lean): a line is the longest prefix of the remaining chunks that fits; a chunk longer
  than a whole line is cut and fills the room left; one whitespace-only chunk is dropped at the start
  of a line other than the first and at the end of every line; empty lines are not emitted.

  The lemmas are in `Lemmas/TextWrap.lean` (one iteration), `Lemmas/TextWrapLoop.lean` (the loop) and
  `Lemmas/GreedyFacts.lean` (the greedy rule).
  One iteration of the outer loop of `_wrap_chunks` is `wrapStep cc w haveLines chunks`, where
  `haveLines` says whether a line has been emitted before (`lines` non-empty in Python) and `chunks`
  are the chunks left; `stepCur cc w haveLines chunks` (Lemmas/TextWrap.lean) is Python's `cur_line`
  at the end of the iteration before its trailing blank chunk is dropped, `dropLead cc haveLines
  chunks` the chunks after the leading blank chunk was dropped. Statements about one iteration hold
  for every `haveLines` and `chunks`, hence for every iteration of every run.
-/
import Simpleline.Lemmas.GreedyFacts
import Simpleline.Lemmas.TextWrapLoop
import Simpleline.Lemmas.Literals

namespace Simpleline

/-- `_wrap_chunks` computes the greedy wrap: from every state of its outer loop (`haveLines`: a line
has been emitted; `chunks`: the chunks left) the lines it still produces are those of the textbook
greedy rule, chunk for chunk. No hypothesis on the chunks; width ≥ 1 as `textwrap` requires. -/
theorem C11_eq_greedy (cc : CharClass) (w : Nat) (hw : 1 ≤ w) (haveLines : Bool)
    (chunks : List (List Char)) :
    wrapLoop cc w haveLines chunks = (greedyFrom cc w (!haveLines) chunks).map List.flatten := by
  induction haveLines, chunks using wrapLoop.induct cc w with
  | case1 hl => rw [wrapLoop, if_pos rfl, greedyFrom_nil]; rfl
  | case2 hl chunks hne hlt l hl' ih =>
    rw [wrapLoop, if_neg hne, if_pos hlt, hl', ih, greedyFrom_step cc w hw hl chunks hne, hl']
    rfl
  | case3 hl chunks hne hlt hl' ih =>
    rw [wrapLoop, if_neg hne, if_pos hlt, hl', ih, greedyFrom_step cc w hw hl chunks hne, hl']
  | case4 hl chunks hne hlt =>
    exact absurd (wrapStep_measure_lt cc w hl chunks hw hne) hlt

/-- The whole run of `_wrap_chunks` (no line emitted yet) on any list of chunks is the greedy wrap. -/
theorem C11_eq_greedyLines (cc : CharClass) (w : Nat) (hw : 1 ≤ w) (chunks : List (List Char)) :
    wrapLoop cc w false chunks = (greedyLines cc w chunks).map List.flatten :=
  C11_eq_greedy cc w hw false chunks

/-- `textwrap.wrap(line, w)` is the greedy wrap of the chunks of the (whitespace-munged) line, for
every text and every width ≥ 1. -/
theorem C11_wrap_eq_greedy (cc : CharClass) (l : List Char) (w : Nat) (hw : 1 ≤ w) :
    pyWrap cc l w = (greedyLines cc w (splitChunks cc (munge l))).map List.flatten :=
  C11_eq_greedy cc w hw false _

/-- One iteration of the outer loop is one step of the greedy rule: `cur_line` is the line of
`greedyLine` (taken after the leading blank chunk was dropped), and so are the chunks left. -/
theorem C11_step_eq_greedy (cc : CharClass) (w : Nat) (haveLines : Bool) (chunks : List (List Char)) :
    stepCur cc w haveLines chunks = (greedyLine w (dropLead cc haveLines chunks)).1 ∧
    (wrapStep cc w haveLines chunks).2 = (greedyLine w (dropLead cc haveLines chunks)).2 :=
  ⟨stepCur_eq_greedyLine cc w haveLines chunks, wrapStep_snd_eq_greedyLine cc w haveLines chunks⟩

/-- What "the longest prefix that fits" of the greedy rule means: the first `fitCount w chunks`
chunks fit in `w` columns, and no longer prefix of the chunks does. -/
theorem C11_greedy_longest_prefix (w : Nat) (chunks : List (List Char)) :
    fitCount w chunks ≤ chunks.length ∧
    chunksWidth (chunks.take (fitCount w chunks)) ≤ w ∧
    ∀ n, n ≤ chunks.length → chunksWidth (chunks.take n) ≤ w → n ≤ fitCount w chunks :=
  ⟨fitCount_le_length w chunks, fitCount_fits w chunks, fitCount_max w chunks⟩

/-- A line break happens only where the next chunk does not fit: if an iteration leaves chunks, the
first of them, `c` — the chunk the line was ended before; the next iteration starts with it and
drops it if it is whitespace-only — together with what was put on the line (before the trailing blank
chunk is dropped) exceeds the width. When a long word was cut, `c` is its remainder.
(With `c` read as the first chunk of the next *line* the statement would be false: the whitespace
dropped in between counts, see the example below.) -/
theorem C11_greedy_maximal (cc : CharClass) (w : Nat) (haveLines : Bool) (chunks : List (List Char))
    (c : List Char) (rest : List (List Char)) (h : (wrapStep cc w haveLines chunks).2 = c :: rest) :
    w < totalLen (stepCur cc w haveLines chunks) + c.length := by
  rw [wrapStep_snd_eq_greedyLine] at h
  rw [stepCur_eq_greedyLine, ← chunksWidth_eq_totalLen]
  exact greedyLine_maximal w _ c rest h

/-- A chunk longer than a whole line is cut so that every piece but the last fills its line exactly
or ends right after a hyphen. Whenever an iteration meets, after the chunks `pre` that fit, a chunk
`c` longer than the width, it puts the first `k = cutPoint c room` characters of `c` on the line
(`room` = the columns left) and leaves the remainder `c.drop k` as the first chunk for the next
iteration (which treats it the same way, with `pre = []`, while it is still longer than the width).
The line is then full — or `k` is smaller than `room`, the piece ends with a hyphen that is not
part of a leading run of hyphens, and it is the last hyphen of `c` that leaves it on this line. -/
theorem C11_long_word_fills (cc : CharClass) (w : Nat) (haveLines : Bool) (chunks : List (List Char))
    (pre : List (List Char)) (c : List Char) (post : List (List Char))
    (hs : dropLead cc haveLines chunks = pre ++ c :: post) (hpre : totalLen pre ≤ w)
    (hc : w < c.length) :
    ∃ k, k = cutPoint c (w - totalLen pre) ∧
      stepCur cc w haveLines chunks = pre ++ [c.take k] ∧
      (wrapStep cc w haveLines chunks).2 = c.drop k :: post ∧
      (totalLen (stepCur cc w haveLines chunks) = w ∨
       (totalLen (stepCur cc w haveLines chunks) < w ∧ 2 ≤ k ∧ c[k - 1]? = some '-' ∧
        (∃ x ∈ c.take (k - 1), x ≠ '-') ∧
        ∀ i, k ≤ i → i < w - totalLen pre → c[i]? ≠ some '-')) := by
  obtain ⟨h1, h2⟩ := wrapStep_long cc w haveLines chunks pre c post hs hpre hc
  refine ⟨_, rfl, h1, h2, ?_⟩
  have hle := cutPoint_le c (w - totalLen pre)
  have hlen : totalLen (stepCur cc w haveLines chunks) =
      totalLen pre + cutPoint c (w - totalLen pre) := by
    rw [h1]
    simp only [totalLen_append, totalLen_cons, totalLen_nil, List.length_take]
    omega
  rw [hlen]
  rcases cutPoint_rule c (w - totalLen pre) with h | ⟨h3, h4, h5, h6, h7⟩
  · left; omega
  · right; exact ⟨by omega, h4, h5, h6, h7⟩

/-- No word is lost or repeated, by the loop: the characters of the chunks are the produced lines,
in order, with whitespace-only stretches (the dropped blank chunks) re-inserted before, between and
after them. -/
theorem C11_no_word_lost_or_repeated (cc : CharClass) (w : Nat) (hw : 1 ≤ w) (haveLines : Bool)
    (chunks : List (List Char)) :
    WithBlanks cc chunks.flatten (wrapLoop cc w haveLines chunks) :=
  wrapLoop_withBlanks cc w haveLines chunks hw

/-- No word is lost or repeated, by `textwrap.wrap`: the source line (tabs expanded, each
whitespace character replaced by a blank) is the concatenation of its wrapped lines with
whitespace-only stretches re-inserted; nothing else is deleted, nothing is added or reordered. -/
theorem C11_wrap_no_word_lost_or_repeated (cc : CharClass) (l : List Char) (w : Nat) (hw : 1 ≤ w) :
    WithBlanks cc (munge l) (pyWrap cc l w) :=
  pyWrap_withBlanks cc l w hw

/-! Non-vacuity: a text with a word longer than the line, hyphenated words (one split by
`wordsep_re`, one cut by the hyphen rule of `_handle_long_word`) and runs of blanks, at width 5 and
8; the model and the greedy rule side by side (the same lines as CPython's `textwrap.wrap`). -/

/-- The chunks of the text (`_munge_whitespace`, then `_split`), evaluated once for the four examples:
`well-known` is split at its hyphen, `r2-d2345678` is one chunk. -/
theorem C11_example_chunks :
    splitChunks asciiClass (munge "ab  extraordinarily well-known  r2-d2345678   yz".toList) =
      ["ab", "  ", "extraordinarily", " ", "well-", "known", "  ", "r2-d2345678", "   ", "yz"].map
        String.toList := by
  simp only [List.map]
  lits
  decide +kernel

example : pyWrap asciiClass "ab  extraordinarily well-known  r2-d2345678   yz".toList 5 =
    ["ab  e", "xtrao", "rdina", "rily", "well-", "known", "r2-", "d2345", "678", "yz"].map String.toList := by
  rw [pyWrap, C11_example_chunks]
  decide +kernel

example : greedyLines asciiClass 5
      (splitChunks asciiClass (munge "ab  extraordinarily well-known  r2-d2345678   yz".toList)) =
    [["ab", "  ", "e"], ["xtrao"], ["rdina"], ["rily"], ["well-"], ["known"], ["r2-"], ["d2345"],
     ["678"], ["yz"]].map (List.map String.toList) := by
  rw [C11_example_chunks]
  decide +kernel

example : pyWrap asciiClass "ab  extraordinarily well-known  r2-d2345678   yz".toList 8 =
    ["ab  extr", "aordinar", "ily", "well-", "known  r", "2-", "d2345678", "yz"].map String.toList := by
  rw [pyWrap, C11_example_chunks]
  decide +kernel

example : greedyLines asciiClass 8
      (splitChunks asciiClass (munge "ab  extraordinarily well-known  r2-d2345678   yz".toList)) =
    [["ab", "  ", "extr"], ["aordinar"], ["ily"], ["well-"], ["known", "  ", "r"], ["2-"],
     ["d2345678"], ["yz"]].map (List.map String.toList) := by
  rw [C11_example_chunks]
  decide +kernel

/-- The hypotheses of `C11_long_word_fills` and both of its alternatives occur: at width 8 the chunk
`2-d2345678` left over from `r2-d2345678` is cut after its hyphen (2 of 8 columns used), and its
remainder `d2345678` fills a line exactly. -/
example :
    stepCur asciiClass 8 true ["2-d2345678".toList, "   ".toList, "yz".toList] = ["2-".toList] ∧
    (wrapStep asciiClass 8 true ["2-d2345678".toList, "   ".toList, "yz".toList]).2 =
      ["d2345678".toList, "   ".toList, "yz".toList] ∧
    stepCur asciiClass 5 true ["extraordinarily".toList, " ".toList] = ["extra".toList] := by
  lits
  decide +kernel

/-- `C11_greedy_maximal` must count the chunk the line was ended before, not the first chunk of the
next line: `abc   d` on width 5 gives `abc` / `d` although `abc` and `d` together have 4 characters —
the line was ended before the three blanks, which did not fit and were then dropped. -/
example : pyWrap asciiClass "abc   d".toList 5 = ["abc".toList, "d".toList] ∧
    (wrapStep asciiClass 5 false ["abc".toList, "   ".toList, "d".toList]).2 =
      ["   ".toList, "d".toList] := by
  decide +kernel

end Simpleline
