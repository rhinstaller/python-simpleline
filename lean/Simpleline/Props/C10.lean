/-
  C10 — Waiting for a signal wakes up for that signal, and only for it.

  Property theorems only; helper lemmas live in `Simpleline/Lemmas/Dispatch*.lean`, vocabulary in
  `Simpleline/Spec/DispatchSpec.lean`.

  How waiting appears in the machine.  `process_signals(return_after=cls)` is `procWait cls`: it takes a
  *ticket* `{line := cls, id := t, marked := false}` with a fresh id `t` (trace `.waitBegin cls t`) and then
  loops `waitStep cls t` / `waitCheck cls t`: `waitStep` takes the head of the active queue (trace
  `.take q s`) and pushes `[processSignal s, waitCheck cls t]`; `waitCheck` returns — removes the ticket,
  trace `.waitEnd cls t true` — iff the ticket is marked, else loops; `waitStep` also returns when
  `_run_loop` is down (`.waitEnd cls t false`).  Tickets are marked by `processSignal s` — wherever it
  runs, at any nesting of processing calls —: `mark ts s.cls` marks every ticket whose line is `s.cls`.
  The non-waiting form `process_signals()` is `procIter none`, then `procIter (some p)` with `p` the priority
  of the first signal taken (trace `.procBegin … .procEnd`).  `since e tr` is the part of the history `tr`
  (newest first) that is newer than the event `e`.
-/
import Simpleline.Lemmas.DispatchWait

namespace Simpleline
open Dispatch

/-! ### 1. the ticket machine -/

/-- In every reachable configuration the outstanding tickets have distinct ids below the ticket counter, and
so have all waits ever begun: an id is never reused, `.waitBegin cls t` occurs at most once for a given `t`. -/
theorem C10_tickets_unique (P : Prog) (c0 c : Cfg) (h0 : Started c0) (hr : Reach P c0 c) :
    (∀ k ∈ c.L.tickets, k.id < c.L.tcounter) ∧ (c.L.tickets.map (·.id)).Nodup ∧
    (∀ cls t, Tr.waitBegin cls t ∈ c.tr → t < c.L.tcounter) :=
  let h := ticketInv_reach h0 hr
  ⟨h.lt, h.nodup, h.begun⟩

/-- The only ways a transition changes the ticket table: `procWait` appends a fresh unmarked ticket,
`processSignal s` marks the line of the class of `s`, `waitCheck cls t` removes its own ticket. -/
theorem C10_ticket_changes (P : Prog) (c c' : Cfg) (ht : Trans P c c') :
    c'.L.tickets = c.L.tickets ∨
    (∃ cls, c.code.head? = some (.procWait cls) ∧
      c'.L.tickets = c.L.tickets ++ [({ line := cls, id := c.L.tcounter, marked := false } : Ticket)]) ∨
    (∃ s, c.code.head? = some (.processSignal s) ∧ c'.L.tickets = mark c.L.tickets s.cls) ∨
    (∃ cls t, c.code.head? = some (.waitCheck cls t) ∧
      c'.L.tickets = c.L.tickets.filter fun k => ¬ (k.line = cls ∧ k.id = t)) :=
  trans_tickets ht

/-- A ticket becomes marked only by the processing of a signal of **exactly** its class: if the ticket with
id `k.id` is unmarked before a transition out of a reachable configuration and marked after it, the instruction
executed was `processSignal s` with `s.cls = k.line`. -/
theorem C10_marked_only_by_own_class (P : Prog) (c0 c c' : Cfg) (h0 : Started c0) (hr : Reach P c0 c) (ht : Trans P c c')
    (k k' : Ticket) (hk : k ∈ c.L.tickets) (hk' : k' ∈ c'.L.tickets) (hid : k'.id = k.id)
    (hu : k.marked = false) (hm : k'.marked = true) :
    ∃ s, c.code.head? = some (.processSignal s) ∧ s.cls = k.line :=
  mark_origin (ticketInv_reach h0 hr) ht hk hk' hid hu hm

/-! ### 2. a waiter returns only after a signal of exactly its class was dispatched since it began -/

/-- **Only after, and only for its own class.**  If a transition out of a reachable configuration makes the
waiting call with ticket `t` for class `cls` return as satisfied (adds `.waitEnd cls t true`), then the call
did begin (`.waitBegin cls t` is in the history) and *since it began* a signal `s` with `s.cls = cls` —
exactly that class — was taken for dispatch.  This holds at any nesting: the take may have been made by
this call's own loop, by the main loop, or by a processing call nested inside some handler. -/
theorem C10_only_after (P : Prog) (c0 c c' : Cfg) (h0 : Started c0) (hr : Reach P c0 c) (ht : Trans P c c')
    (cls : Cls) (t : Nat) (hm : Tr.waitEnd cls t true ∈ newTr c c') :
    Tr.waitBegin cls t ∈ c.tr ∧ ∃ q s, s.cls = cls ∧ Tr.take q s ∈ since (.waitBegin cls t) c.tr := by
  obtain ⟨-, k, hk, rfl, rfl, hmk⟩ := (trans_origin ht).toNewTr.2 _ hm
  obtain ⟨h1, h2⟩ := (ticketInv_reach h0 hr).marked k hk
  exact ⟨h1, h2 hmk⟩


/-- The other way a waiting call returns, stated, not hidden: *unsatisfied* (`.waitEnd cls t false`), which
happens only at its loop test `waitStep cls t` when `_run_loop` is down — the level was closed, or force-quit. -/
theorem C10_unsatisfied_only_when_flag_down (P : Prog) (c c' : Cfg) (ht : Trans P c c') (cls : Cls) (t : Nat)
    (hm : Tr.waitEnd cls t false ∈ newTr c c') : c.code.head? = some (.waitStep cls t) ∧ c.L.runLoop = false :=
  (trans_origin ht).toNewTr.2 _ hm

/-- A satisfied return happens only at the call's own check, on its own marked ticket. -/
theorem C10_satisfied_origin (P : Prog) (c c' : Cfg) (ht : Trans P c c') (cls : Cls) (t : Nat)
    (hm : Tr.waitEnd cls t true ∈ newTr c c') :
    c.code.head? = some (.waitCheck cls t) ∧ ∃ k ∈ c.L.tickets, k.line = cls ∧ k.id = t ∧ k.marked = true :=
  (trans_origin ht).toNewTr.2 _ hm

/-- Every signal is processed right after it was taken: `processSignal` is only ever the next instruction, and when
`processSignal s` is next, `s` was taken from a queue after every outstanding wait began. -/
theorem C10_process_follows_take (P : Prog) (c0 c : Cfg) (h0 : Started c0) (hr : Reach P c0 c) :
    (∀ s, Instr.processSignal s ∉ c.code.tail) ∧
    ∀ s, c.code.head? = some (.processSignal s) →
      ∀ k ∈ c.L.tickets, ∃ q, Tr.take q s ∈ since (.waitBegin k.line k.id) c.tr := by
  refine ⟨fun s hm => ?_, (ticketInv_reach h0 hr).head⟩
  have := (codeInv_reach h0 hr).noPS _ hm
  simp [isPS] at this

/-! ### 3. dispatches that preceded the call do not count -/

/-- The ticket a waiting call takes is fresh and **unmarked**, whatever was dispatched before (nothing else
changes but the counter; the wait begins now). -/
theorem C10_not_before (P : Prog) (c : Cfg) (cls : Cls) (rest : List Instr) (hc : c.code = .procWait cls :: rest) :
    step P c = .ok { c with code := .waitStep cls c.L.tcounter :: rest,
                            L := { c.L with tcounter := c.L.tcounter + 1,
                                            tickets := c.L.tickets ++ [({ line := cls, id := c.L.tcounter, marked := false } : Ticket)] },
                            tr := .waitBegin cls c.L.tcounter :: c.tr } := by
  simp [step, hc, push, Cfg.trace]

/-- … and an unmarked ticket makes the call take the next signal instead of returning. -/
theorem C10_unmarked_continues (P : Prog) (c : Cfg) (cls : Cls) (t : Nat) (rest : List Instr)
    (hc : c.code = .waitCheck cls t :: rest) (hm : ∀ k ∈ c.L.tickets, k.line = cls → k.id = t → k.marked = false) :
    step P c = .ok { c with code := .waitStep cls t :: rest } := by
  have : ¬ (c.L.tickets.any (fun k => decide (k.line = cls ∧ k.id = t ∧ k.marked = true)) = true) := by
    simp only [List.any_eq_true, decide_eq_true_eq, not_exists, not_and]
    intro k hk h1 h2 h3
    rw [hm k hk h1 h2] at h3; cases h3
  simp only [step, hc]
  rw [if_neg this]
  simp [push]

/-! ### 4. one dispatch releases all waiters on the class -/

/-- Processing one signal `s` marks **every** outstanding ticket whose line is the class of `s`, at once (and
no ticket of another line; ids and lines are untouched), before any handler of `s` runs. -/
theorem C10_all_waiters (P : Prog) (c : Cfg) (s : Sig) (rest : List Instr) (hc : c.code = .processSignal s :: rest) :
    ∃ c', step P c = .ok c' ∧ c'.L.tickets = mark c.L.tickets s.cls ∧
      (∀ k ∈ c'.L.tickets, k.line = s.cls → k.marked = true) ∧
      (mark c.L.tickets s.cls).length = c.L.tickets.length ∧
      ∀ i (hi : i < c.L.tickets.length) (hi' : i < (mark c.L.tickets s.cls).length),
        (mark c.L.tickets s.cls)[i].line = c.L.tickets[i].line ∧ (mark c.L.tickets s.cls)[i].id = c.L.tickets[i].id ∧
        ((mark c.L.tickets s.cls)[i].marked = true ↔ c.L.tickets[i].marked = true ∨ c.L.tickets[i].line = s.cls) := by
  refine ⟨_, processSignal_step P c s rest hc, ?_, ?_, (mark_spec _ _).1, (mark_spec _ _).2⟩
  · split
    · rfl
    · split <;> rfl
  · intro k hk
    have : k ∈ mark c.L.tickets s.cls := by
      revert hk; split
      · exact id
      · split <;> exact id
    exact mark_all _ _ k this

/-! ### 5. a released waiter returns at its next check, without taking another signal -/

/-- `waitCheck` on a marked ticket returns: the ticket is handed back, `.waitEnd cls t true` is recorded, and the
continuation of the call is next — `waitStep` is **not** pushed, no further signal is taken. -/
theorem C10_prompt_return (P : Prog) (c : Cfg) (cls : Cls) (t : Nat) (rest : List Instr)
    (hc : c.code = .waitCheck cls t :: rest) (hm : ∃ k ∈ c.L.tickets, k.line = cls ∧ k.id = t ∧ k.marked = true) :
    step P c = .ok { c with code := rest,
                            L := { c.L with tickets := c.L.tickets.filter fun k => ¬ (k.line = cls ∧ k.id = t) },
                            tr := .waitEnd cls t true :: c.tr } := by
  have : c.L.tickets.any (fun k => decide (k.line = cls ∧ k.id = t ∧ k.marked = true)) = true := by
    obtain ⟨k, hk, h1, h2, h3⟩ := hm
    simp only [List.any_eq_true, decide_eq_true_eq]
    exact ⟨k, hk, h1, h2, h3⟩
  simp only [step, hc]
  rw [if_pos this]
  simp [Cfg.trace]

/-- … and a mark is never lost before that: a marked ticket stays in the table, marked, through every
transition except the `waitCheck` of its own waiter. -/
theorem C10_mark_persists (P : Prog) (c c' : Cfg) (ht : Trans P c c') (k : Ticket) (hk : k ∈ c.L.tickets)
    (hm : k.marked = true) : k ∈ c'.L.tickets ∨ c.code.head? = some (.waitCheck k.line k.id) := by
  rcases trans_tickets ht with h | ⟨cls, -, h⟩ | ⟨s, hs, h⟩ | ⟨cls, t, hhead, h⟩
  · left; rw [h]; exact hk
  · left; rw [h]; exact List.mem_append_left _ hk
  · left; rw [h]
    simp only [Simpleline.mark, List.mem_map]
    refine ⟨k, hk, ?_⟩
    split
    · cases k; simp_all
    · rfl
  · by_cases hkk : k.line = cls ∧ k.id = t
    · right; rw [hhead, hkk.1, hkk.2]
    · left; rw [h]; exact List.mem_filter.mpr ⟨hk, by simpa using Classical.not_and_iff_not_or_not.mp hkk⟩

/-! ### 6. the non-waiting form: just the most urgent priority batch, never blocking -/

/-- The non-waiting form never halts the machine — in particular it never blocks on an empty queue (it does
not use the blocking `get`). -/
theorem C10_nonwaiting_never_blocks (P : Prog) (c : Cfg) (p : Option Int) (rest : List Instr)
    (hc : c.code = .procIter p :: rest) : ∃ c', step P c = .ok c' := by
  simp only [step, hc]
  split
  · exact ⟨_, rfl⟩
  · split
    · exact ⟨_, rfl⟩
    · cases p with
      | none => exact ⟨_, rfl⟩
      | some pr => simp only; split <;> exact ⟨_, rfl⟩

/-- On an empty queue (or with `_run_loop` down) it ends at once. -/
theorem C10_nonwaiting_empty (P : Prog) (c : Cfg) (p : Option Int) (rest : List Instr) (hc : c.code = .procIter p :: rest)
    (he : c.L.activeQ.entries = [] ∨ c.L.runLoop = false) :
    step P c = .ok { c with code := rest, tr := .procEnd :: c.tr } := by
  rcases he with he | he
  · exact step_procIter_empty P c p rest hc he
  · exact step_procIter_down P c p rest hc he

/-- It takes the head of the active queue if that is the first signal it sees, or has the priority of the first
one it took; the priority it continues with is that of the signal taken. -/
theorem C10_nonwaiting_takes (P : Prog) (c : Cfg) (p : Option Int) (rest : List Instr) (hc : c.code = .procIter p :: rest)
    (e : Int × Nat × Sig) (es : List (Int × Nat × Sig)) (he : c.L.activeQ.entries = e :: es) (hr : c.L.runLoop = true)
    (hp : p = none ∨ p = some e.2.2.prio) :
    step P c = .ok { c with code := .processSignal e.2.2 :: .procIter (some e.2.2.prio) :: rest,
                            L := { c.L with queues := listSet c.L.queues c.L.active fun q => { q with entries := es } },
                            tr := .take c.L.active e.2.2 :: c.tr } := by
  have he' : ({ c with code := rest } : Cfg).L.activeQ.entries = e :: es := he
  simp only [step, hc]
  split
  · rename_i heq; rw [he'] at heq; cases heq
  · rename_i e' es' heq
    rw [he'] at heq; cases heq
    rcases hp with rfl | rfl
    · simp [hr, push]
    · simp [hr, push]

/-- It ends when the head of the queue has another priority — leaving that signal in its place: the queues are
unchanged (`putBack` is only a trace event). -/
theorem C10_nonwaiting_stops (P : Prog) (c : Cfg) (pr : Int) (rest : List Instr) (hc : c.code = .procIter (some pr) :: rest)
    (e : Int × Nat × Sig) (es : List (Int × Nat × Sig)) (he : c.L.activeQ.entries = e :: es) (hr : c.L.runLoop = true)
    (hp : e.2.2.prio ≠ pr) :
    step P c = .ok { c with code := rest, tr := .procEnd :: .putBack c.L.active e.2.2 :: c.tr } := by
  have he' : ({ c with code := rest } : Cfg).L.activeQ.entries = e :: es := he
  simp only [step, hc]
  split
  · rename_i heq; rw [he'] at heq; cases heq
  · rename_i e' es' heq
    rw [he'] at heq; cases heq
    simp [hr, hp, Cfg.trace]


/-- On the history: every signal the non-waiting form takes while it continues with priority `pr` has priority
`pr`, and whenever it ends the queues are as they were. -/
theorem C10_nonwaiting_history (P : Prog) (c c' : Cfg) (ht : Trans P c c') :
    (∀ pr q s, c.code.head? = some (.procIter (some pr)) → Tr.take q s ∈ newTr c c' → s.prio = pr) ∧
    (Tr.procEnd ∈ newTr c c' → c'.L.queues = c.L.queues) := by
  have horig := (trans_origin ht).toNewTr.2
  refine ⟨fun pr q s hh hm => ?_, fun hm => ?_⟩
  · obtain ⟨-, h | ⟨cls, t, h, -⟩ | ⟨p, h, hp, -⟩⟩ := horig _ hm
    · rw [hh] at h; cases h
    · rw [hh] at h; cases h
    · rw [hh] at h; cases h
      rcases hp with hp | hp
      · cases hp
      · cases hp; rfl
  · obtain ⟨p, -, hq, -⟩ := horig _ hm
    exact hq

/-! ### non-vacuity -/

/-- callbacks 1 and 2 wait for class `user 1`; callback 5 calls the non-waiting form -/
def C10_exProg : Prog :=
  { cc := asciiClass, runEmpty := true,
    handlerScript := fun hid _ =>
      if hid = 1 ∨ hid = 2 then [.proc (some (.user 1))] else if hid = 5 then [.proc none] else [] }

/-- Signals of classes 0, 2, 1, 3 are queued; the handler of class 0 waits for class 1, and while it waits the
handler of class 2 — dispatched by that wait — waits for class 1 too.  The one dispatch of the class-1 signal
(made by the inner waiter's loop) releases both waiters, the inner first; neither takes the class-3 signal, which
the main loop dispatches afterwards; then the run blocks on the empty queue. -/
example :
    let r := runFuel C10_exProg 200
      (initCfg [.enq (.user 0) 0 .none 1, .enq (.user 2) 0 .none 2, .enq (.user 1) 0 .none 3, .enq (.user 3) 0 .none 4]
        [(.user 0, .user 1, none), (.user 2, .user 2, none), (.user 1, .user 3, none), (.user 3, .user 4, none)] none [])
    r.2 = .blocked ∧
      r.1.tr.reverse.filter (fun t => match t with | .waitBegin .. | .waitEnd .. => true | .take _ s => s.id ≥ 3 | _ => false) =
        [.waitBegin (.user 1) 0, .waitBegin (.user 1) 1,
         .take 0 { id := 3, cls := .user 1, prio := 0, src := .none },
         .waitEnd (.user 1) 1 true, .waitEnd (.user 1) 0 true,
         .take 0 { id := 4, cls := .user 3, prio := 0, src := .none }] ∧
      r.1.L.tickets = [] := by
  decide +kernel

/-- The non-waiting form called from a handler with priorities −5, −5, 0 pending: it dispatches exactly the two
signals of priority −5 and puts the third back. -/
example :
    let r := runFuel C10_exProg 200
      (initCfg [.enq (.user 0) (-10) .none 1, .enq (.user 1) (-5) .none 2, .enq (.user 1) (-5) .none 3, .enq (.user 3) 0 .none 4]
        [(.user 0, .user 5, none), (.user 1, .user 3, none), (.user 3, .user 4, none)] none [])
    r.2 = .blocked ∧
      r.1.tr.reverse.filter (fun t => match t with | .procBegin | .procEnd | .putBack .. | .take .. => true | _ => false) =
        [.take 0 { id := 1, cls := .user 0, prio := -10, src := .none }, .procBegin,
         .take 0 { id := 2, cls := .user 1, prio := -5, src := .none },
         .take 0 { id := 3, cls := .user 1, prio := -5, src := .none },
         .putBack 0 { id := 4, cls := .user 3, prio := 0, src := .none }, .procEnd,
         .take 0 { id := 4, cls := .user 3, prio := 0, src := .none }] := by
  decide +kernel

end Simpleline
