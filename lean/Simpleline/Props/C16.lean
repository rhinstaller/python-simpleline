/-
  C16 — Rendering depends only on current content and width, not on render history.

  A widget tree `t : Wd` carries, on every node, the state of the Python object (buffer, cursor, and for
  list containers the remembered number labels and columns width). `t.reset` forgets all of it.
  `t.render cc w` is `t.render(w)`: the object afterwards, or the exception.
-/
import Simpleline.Lemmas.Widgets

namespace Simpleline

/-- The result of a render (lines, cursor, and the state of every sub-object — or the error) is the
same whatever state the objects of the tree were in: it is a function of the contents and the width. -/
theorem C16_render_fresh (cc : CharClass) (t : Wd) (w : Int) : t.render cc w = t.reset.render cc w :=
  render_reset cc t w

/-- rendering changes state only: contents are untouched -/
theorem C16_render_keeps_contents (cc : CharClass) (t t' : Wd) (w : Int) (h : t.render cc w = .ok t') :
    t'.reset = t.reset :=
  render_keeps cc t t' w h

/-- two trees with the same contents render alike, whatever their histories -/
theorem C16_same_contents (cc : CharClass) (t u : Wd) (w : Int) (h : t.reset = u.reset) :
    t.render cc w = u.render cc w := by
  rw [render_reset cc t, render_reset cc u, h]

/-- rendering twice gives the same lines -/
theorem C16_render_twice (cc : CharClass) (t t1 : Wd) (w : Int) (h1 : t.render cc w = .ok t1) :
    t1.render cc w = .ok t1 := by
  rw [C16_same_contents cc t1 t w (render_keeps cc t t1 w h1), h1]

/-- rendering at another width (successfully or not) and then again at the first width gives the
same result as rendering at the first width directly -/
theorem C16_other_width_between (cc : CharClass) (t t1 : Wd) (w w' : Int) (h1 : t.render cc w' = .ok t1) :
    t1.render cc w = t.render cc w :=
  C16_same_contents cc t1 t w (render_keeps cc t t1 w' h1)

/-- adding an item after a render gives the same result as adding it to the container that was
never rendered -/
theorem C16_add_after_render (cc : CharClass) (t t1 x : Wd) (w w' : Int) (h1 : t.render cc w' = .ok t1) :
    (t1.add x).render cc w = (t.add x).render cc w := by
  apply C16_same_contents
  rw [Wd.reset_add, Wd.reset_add, render_keeps cc t t1 w' h1]

/-! Non-vacuity: a numbered list rendered, extended, rendered again at another width. -/
example :
    let t : Wd := .list {} false 2 none 3 (some {}) none [] [.text {} "aaa bbb".toList, .text {} ['x']]
    (match t.render asciiClass 40 with
     | .ok t1 => (match (t1.add (.text {} ['y'])).render asciiClass 12 with
        | .ok t2 => t2.lines
        | .error _ => [])
     | .error _ => []) =
    ["1) a   2) x".toList, "   a".toList, "   a".toList, "   b".toList, "   b".toList, "   b".toList, "3) y".toList] := by
  decide +kernel

end Simpleline
