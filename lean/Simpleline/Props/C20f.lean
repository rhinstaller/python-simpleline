/-
  C20f — the quit callback on the GLib machine (the analogue of `C09_quit_callback_once` for `MainLoop`).  The
  invariant is in `Lemmas/GMfInv.lean`.
-/
import Simpleline.Lemmas.GMfInv

namespace Simpleline.G

/-- **The quit callback is invoked at most once, with the argument it was registered with.**  In every execution of the
GLib machine — every program, every start-up, every reachable configuration, every timing of the reader thread — the log
contains at most one quit-callback event; every such event carries the datum registered before `run()`; the registration
itself never changes; and once the event is logged neither `apprun` nor the `quitCb` instruction is pending any more (so it
cannot happen again). -/
theorem C20f_quit_callback_at_most_once (P : Prog) (c0 c : Cfg) (h0 : Started c0) (hr : Reach P c0 c) :
    c.log.countP isQ ≤ 1 ∧ (∀ d, Ev.quitcb d ∈ c.log → c0.L.quitCb = some d) ∧ c.L.quitCb = c0.L.quitCb ∧
    (c.log.countP isQ = 1 → Instr.quitCb ∉ c.code ∧ Instr.apprun ∉ c.code) := by
  obtain ⟨h1, h2, h3⟩ := qInv_reach h0 hr
  rw [← List.countP_eq_length_filter] at h2
  refine ⟨by omega, h3, h1, fun h => ?_⟩
  have hz : c.code.countP qa = 0 := by omega
  rw [List.countP_eq_zero] at hz
  exact ⟨fun hm => by simpa [qa] using hz _ hm, fun hm => by simpa [qa] using hz _ hm⟩

/-- non-vacuity: a run that ends by an exit request logs the registered quit callback exactly once, as the last event
(the program of `C20c_exit_batch_continues`) -/
example :
    let P : Prog := { cc := asciiClass, runEmpty := true, handlerScript := fun hid n => if hid = 0 ∧ n = 0 then [.raiseExit] else [] }
    let r := runFuel P 200 (initCfg [.enq (.user 0) 0 .none 7, .enq (.user 0) 0 .none 8] [(.user 0, .user 0, none), (.user 0, .user 1, none)] (some 9) [])
    r.2 = .returned ∧ r.1.log.countP isQ = 1 ∧ r.1.log.head? = some (.quitcb 9) := by
  decide +kernel

end Simpleline.G
