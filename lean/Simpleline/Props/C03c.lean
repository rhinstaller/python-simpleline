/-
  C03c — The sources of an `EventQueue` behave as a finite set, `enqueue_if_source_belongs` enqueues exactly for
  registered sources, and the refinement of C01b extends to the whole object.

  `Model/EventQueueObj.lean` (namespace `EQObj`) is the whole class of simpleline/event_loop/event_queue.py over the
  heap-based `HQueue` of `Model/Heapq.lean`: calls `Op` = `put s` (`enqueue`), `get`, `getTop p`
  (`get_top_event_if_priority`), `addSource x`, `removeSource x`, `contains x` (`contains_source`), `putIf s x`
  (`enqueue_if_source_belongs`); `step q o` = (answer, object after the call), `run q ops` = (answers, final object).
  Answers `Out`: `done` (`None`), `sig s`, `noSig`, `blocked`, `removeError` (`EventQueueError`), `bool b`.
  `_contained_screens` (a Python `set`) is the list `sources`, kept duplicate-free.
  `Registered x ops` (`Spec/EQObjSpec.lean`): in the history `ops` some `add_source(x)` is not followed by a
  `remove_source(x)`.  `stepE`/`runE` are the same calls on the sorted-list `EQueue` of the machine model.
-/
import Simpleline.Lemmas.EQObjHist
import Simpleline.Props.C01b

namespace Simpleline

open Heapq EQObj

/-- After any sequence of calls on a new `EventQueue()`: `x` belongs to the queue iff the history contains an
`add_source(x)` with no `remove_source(x)` after it. Nothing else (no `enqueue`, `get`, `contains_source`,
`enqueue_if_source_belongs`, no call about another source) has any influence. -/
theorem C03c_contains_history (ops : List EQObj.Op) (x : Src) :
    containsSource (EQObj.run HQueue.empty ops).2 x = true ↔ Registered x ops := by
  rw [contains_run, regAfter_iff]
  simp [containsSource, HQueue.empty]

/-- What `contains_source(x)` answers as call number `pre.length` of any history: `True` iff `x` is registered in
the calls before it; and the call changes nothing. -/
theorem C03c_contains_answer (pre post : List EQObj.Op) (x : Src) :
    (∃ b, (EQObj.run HQueue.empty (pre ++ EQObj.Op.contains x :: post)).1[pre.length]? = some (.bool b) ∧
      (b = true ↔ Registered x pre)) ∧
    ∀ q, (EQObj.step q (.contains x)).2 = q :=
  ⟨⟨_, run_out_at _ pre post _, C03c_contains_history pre x⟩, fun _ => rfl⟩

/-- `add_source(x)` makes `x` a member and changes the membership of no other source; it always answers `None`. -/
theorem C03c_add (q : HQueue) (x y : Src) :
    (EQObj.step q (.addSource x)).1 = .done ∧
    containsSource (EQObj.step q (.addSource x)).2 y = (decide (y = x) || containsSource q y) :=
  ⟨rfl, contains_step q (.addSource x) y⟩

/-- `add_source` is idempotent: adding a source that already belongs changes nothing at all (the same source is
held once), so adding twice is adding once. -/
theorem C03c_add_idempotent (q : HQueue) (x : Src) :
    (containsSource q x = true → (EQObj.step q (.addSource x)).2 = q) ∧
    (EQObj.step (EQObj.step q (.addSource x)).2 (.addSource x)).2 = (EQObj.step q (.addSource x)).2 :=
  ⟨fun h => if_pos h, if_pos ((contains_step q (.addSource x) x).trans (by simp))⟩

/-- `remove_source(x)` raises `EventQueueError` iff `x` does not belong, and then changes nothing; otherwise it
answers `None`, `x` no longer belongs and the membership of every other source is unchanged. -/
theorem C03c_remove (q : HQueue) (x : Src) :
    ((EQObj.step q (.removeSource x)).1 = .removeError ↔ containsSource q x = false) ∧
    (containsSource q x = false → EQObj.step q (.removeSource x) = (.removeError, q)) ∧
    (containsSource q x = true → (EQObj.step q (.removeSource x)).1 = .done ∧
      ∀ y, containsSource (EQObj.step q (.removeSource x)).2 y = (containsSource q y && !decide (y = x))) := by
  have absent (h : containsSource q x = false) : EQObj.step q (.removeSource x) = (.removeError, q) := by
    unfold containsSource at h
    simp only [EQObj.step, removeSource, h, Bool.false_eq_true, if_false]
  have present (h : containsSource q x = true) : (EQObj.step q (.removeSource x)).1 = .done := by
    unfold containsSource at h
    simp only [EQObj.step, removeSource, if_pos h]
  refine ⟨⟨fun h => ?_, fun h => by rw [absent h]⟩, absent, fun h => ⟨present h, contains_step q (.removeSource x)⟩⟩
  cases hc : containsSource q x with
  | false => rfl
  | true => rw [present hc] at h; cases h

/-- In terms of the history: call number `pre.length` being `remove_source(x)`, it raises `EventQueueError` iff
`x` is not registered in the calls before it (never added, or removed since the last `add_source(x)`). -/
theorem C03c_remove_answer (pre post : List EQObj.Op) (x : Src) :
    ∃ r, (EQObj.run HQueue.empty (pre ++ EQObj.Op.removeSource x :: post)).1[pre.length]? = some r ∧
      (r = .removeError ↔ ¬ Registered x pre) ∧ (r = .done ↔ Registered x pre) := by
  refine ⟨_, run_out_at _ pre post _, ?_⟩
  rw [← C03c_contains_history pre x]
  cases hc : containsSource (EQObj.run HQueue.empty pre).2 x with
  | false => rw [(C03c_remove _ x).2.1 hc]; simp
  | true => rw [((C03c_remove _ x).2.2 hc).1]; simp

/-- The first `remove_source(x)` after an `add_source(x)` always succeeds — so "registered" may equally be read
as "some `add_source(x)` has no later *successful* `remove_source(x)`". -/
theorem C03c_first_remove_succeeds (pre mid post : List EQObj.Op) (x : Src) (h : EQObj.Op.removeSource x ∉ mid) :
    (EQObj.run HQueue.empty ((pre ++ EQObj.Op.addSource x :: mid) ++ EQObj.Op.removeSource x :: post)).1[
      (pre ++ EQObj.Op.addSource x :: mid).length]? = some .done := by
  obtain ⟨r, hr, _, hd⟩ := C03c_remove_answer (pre ++ EQObj.Op.addSource x :: mid) post x
  rw [hr, hd.2 ⟨pre, mid, rfl, h⟩]

/-- The list standing for the set never holds a source twice. -/
theorem C03c_sources_nodup (ops : List EQObj.Op) : (EQObj.run HQueue.empty ops).2.sources.Nodup :=
  nodup_run ops HQueue.empty List.nodup_nil

/-- `enqueue_if_source_belongs(s, x)` answers whether `x` belongs to the queue, and enqueues `s` — exactly as
`enqueue(s)` does, taking the next arrival number — iff it does; otherwise nothing changes (no arrival number is
used up). -/
theorem C03c_putIf (q : HQueue) (s : Sig) (x : Src) :
    EQObj.step q (.putIf s x) = (.bool (containsSource q x), if containsSource q x then q.put s else q) :=
  step_putIf q s x

/-- In terms of the history: call number `pre.length` being `enqueue_if_source_belongs(s, x)`, it answers `True`
(and enqueues) iff `x` is registered in the calls before it. -/
theorem C03c_putIf_answer (pre post : List EQObj.Op) (s : Sig) (x : Src) :
    ∃ b, (EQObj.run HQueue.empty (pre ++ EQObj.Op.putIf s x :: post)).1[pre.length]? = some (.bool b) ∧
      (b = true ↔ Registered x pre) ∧
      (EQObj.run HQueue.empty (pre ++ [EQObj.Op.putIf s x])).2 =
        if b then (EQObj.run HQueue.empty pre).2.put s else (EQObj.run HQueue.empty pre).2 := by
  refine ⟨containsSource (EQObj.run HQueue.empty pre).2 x, ?_, C03c_contains_history pre x, ?_⟩
  · rw [run_out_at, step_putIf]
  · rw [run_append]
    simp only [EQObj.run, step_putIf]

/-- `add_source`, `remove_source`, `contains_source` never touch the heap (`_queue.queue`) nor the arrival
counter. -/
theorem C03c_source_ops_frame (q : HQueue) (o : EQObj.Op) (h : o.isSourceOp = true) :
    (EQObj.step q o).2.heap = q.heap ∧ (EQObj.step q o).2.seq = q.seq :=
  step_sourceOp_frame q o h

/-- `enqueue`, `get`, `get_top_event_if_priority` — and `enqueue_if_source_belongs` — never touch the sources. -/
theorem C03c_signal_ops_frame (q : HQueue) (o : EQObj.Op) (h : o.isSignalOp = true ∨ ∃ s x, o = .putIf s x) :
    (EQObj.step q o).2.sources = q.sources := by
  rw [step_sources]
  rcases h with h | ⟨s, x, rfl⟩
  · cases o with
    | addSource x => cases h
    | removeSource x => cases h
    | _ => rfl
  · rfl

/-- The signal calls of the whole object are the calls of C01b's `HQueue.step`: a history without source calls
runs exactly as there. -/
theorem C03c_extends_C01b (q : HQueue) (o : Heapq.Op) :
    EQObj.step q (EQObj.Op.ofSignalOp o) = (EQObj.Out.ofSignalOut (q.step o).1, (q.step o).2) :=
  step_ofSignalOp q o

/-- … for whole histories: the answers and the final object of a history of signal calls are those of
`HQueue.run` of C01b. -/
theorem C03c_extends_C01b_run (q : HQueue) (ops : List Heapq.Op) :
    EQObj.run q (ops.map EQObj.Op.ofSignalOp) = ((q.run ops).1.map EQObj.Out.ofSignalOut, (q.run ops).2) := by
  induction ops generalizing q with
  | nil => rfl
  | cons o os ih => simp only [List.map_cons, EQObj.run, HQueue.run, step_ofSignalOp, ih]

/-- The invariant of C01b holds after every sequence of calls (source calls included) on a new queue. -/
theorem C03c_inv_run (ops : List EQObj.Op) : Heapq.Inv (EQObj.run HQueue.empty ops).2 :=
  (EQObj.run_refines ops inv_empty).1

/-- One call of any kind on a heap-based queue satisfying the invariant and the same call on the sorted list it
stands for (`abs`: the same entries sorted, the same sources, the same counter) give the same answer, and the
results correspond again: `abs` commutes with all seven calls. -/
theorem C03c_step_refines (q : HQueue) (h : Heapq.Inv q) (o : EQObj.Op) :
    (EQObj.step q o).1 = (EQObj.stepE (abs q) o).1 ∧ abs (EQObj.step q o).2 = (EQObj.stepE (abs q) o).2 :=
  (EQObj.step_refines h o).2

/-- For every sequence of calls, of any length: the real object from `EventQueue()` and the machine model's queue
from the empty queue give the same answers, and the final queues correspond. -/
theorem C03c_sequence_refines (ops : List EQObj.Op) :
    (EQObj.run HQueue.empty ops).1 = (EQObj.runE {} ops).1 ∧
    abs (EQObj.run HQueue.empty ops).2 = (EQObj.runE {} ops).2 :=
  (EQObj.run_refines ops inv_empty).2

/-- How the machine model uses the sources: its instruction `regSource` (and the scheduler's registration of a
screen) is `Simpleline.addSource` on the active queue — that is the call `add_source` of `stepE`; and
`LoopSt.route` tests `sources.contains src` — that is the answer of `contains_source`. With
`C03c_sequence_refines`: the machine's membership test on `abs q` is the real `contains_source` on `q`. -/
theorem C03c_machine_membership (q : HQueue) (x : Src) :
    EQObj.stepE (abs q) (.addSource x) = (.done, Simpleline.addSource (abs q) x) ∧
    abs (EQObj.step q (.addSource x)).2 = Simpleline.addSource (abs q) x ∧
    (abs q).sources.contains x = containsSource q x :=
  ⟨rfl, abs_addSource q x, rfl⟩

/-- a history exercising every call: answers, and the final sources -/
example :
    (fun r : List EQObj.Out × HQueue => (r.1, r.2.sources, r.2.heap.toList.map fun e => (e.1, e.2.1)))
      (EQObj.run HQueue.empty
        [.contains (.obj 1), .addSource (.obj 1), .addSource (.obj 1), .contains (.obj 1), .putIf (mkSig 5 0) (.obj 1),
         .putIf (mkSig 0 1) (.obj 2), .put (mkSig (-1) 2), .removeSource (.obj 2), .removeSource (.obj 1),
         .removeSource (.obj 1), .putIf (mkSig 0 3) (.obj 1), .addSource (.obj 2), .getTop 5, .get, .get, .get]) =
    ([.bool false, .done, .done, .bool true, .bool true, .bool false, .done, .removeError, .done, .removeError,
      .bool false, .done, .noSig, .sig (mkSig (-1) 2), .sig (mkSig 5 0), .blocked],
     [.obj 2], []) := by
  decide +kernel

/-- `Registered` holds / fails on concrete histories -/
example : Registered (.obj 1) [.addSource (.obj 1), .removeSource (.obj 1), .addSource (.obj 1), .get] :=
  ⟨[.addSource (.obj 1), .removeSource (.obj 1)], [.get], rfl, by decide⟩

example : ¬ Registered (.obj 1) [.addSource (.obj 1), .addSource (.obj 2), .removeSource (.obj 1)] := by
  rw [← C03c_contains_history]; decide +kernel

end Simpleline
