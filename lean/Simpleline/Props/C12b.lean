/-
  C12b — What the library's own dialog screens show (simpleline/render/adv_widgets.py).

  `DKind` (`Model/DialogViews.lean`) lists the dialogs with their constructor arguments: `ErrorDialog(msg)`,
  `PasswordDialog(msg=None)`, `YesNoDialog(msg)`, `HelpScreen(help_path)` (argument: the text `f.read()` returned,
  `none` = no help file) and `GetInputScreen(msg)` / `GetPasswordInputScreen(msg)`.  `k.title` is `screen.title`,
  `k.items` the content of `screen.window` after `refresh()`, `k.windowLines cc w` is
  `window.render(w); window.get_lines()`, `k.promptStr` is `str(screen.prompt())` (`none`: `prompt()` returned
  `None`) and `k.passPrompt` the text `PasswordDialog.prompt()` asks the passphrase with.  With `LANG=C`.

  Property theorems only; helper lemmas live in `Simpleline/Lemmas/ViewsDialog.lean`.  `titleLines` is the title
  part of a window of C12; `centerLines g w` moves every row of `g` right by `(w - width of g) / 2` columns.
-/
import Simpleline.Props.C12
import Simpleline.Props.C13b
import Simpleline.Lemmas.ViewsDialog
import Simpleline.Lemmas.LayoutOKExamples
import Simpleline.Lemmas.Literals

namespace Simpleline

/-! ### 1. the shape of the window -/

/-- For every dialog, message, width and character classification: the lines of the dialog's window are the title
part (`titleLines`: the wrapped title and one blank line; nothing for the input screens, which have no title)
followed by the lines of each item of the window, in the order `refresh()` added them, and nothing else
(`C12_window` instantiated). -/
theorem C12b_dialog_window_shape (cc : CharClass) (k : DKind) (w : Int) (g : Grid)
    (h : k.windowLines cc w = .ok g) :
    ∃ (tl : Grid) (items' : List Wd), titleLines cc k.title w = .ok tl ∧
      items'.length = k.items.length ∧
      (∀ i, (hi : i < k.items.length) → (hi' : i < items'.length) → k.items[i].render cc w = .ok items'[i]) ∧
      g = tl ++ items'.flatMap Wd.lines := by
  obtain ⟨r, hr, rfl⟩ := k.windowLines_eq_ok cc w g h
  exact C12_window cc {} k.title k.items w r hr

/-- Closed form for the dialogs that have a message (all but the input screens): with `T` the title and `M` the
message rendered as text at the width, the window is: the lines of `T`, one blank line, the lines of `M` —
centered as a block for `ErrorDialog`, `PasswordDialog`, `YesNoDialog`, as they are for `HelpScreen` — and one
blank line (the separator). -/
theorem C12b_dialog_window_closed (cc : CharClass) (k : DKind) (w : Int) (g : Grid) (t m : Str)
    (ht : k.title = some t) (hm : k.message = some m) (h : k.windowLines cc w = .ok g) :
    ∃ T M, renderTextSt cc {} t w = .ok T ∧ renderTextSt cc {} m w = .ok M ∧
      g = T.buf ++ [[]] ++ (if k.centered then centerLines M.buf w else M.buf) ++ [[]] := by
  have htt : truthy (some t) = some t := by
    cases t with
    | nil => exact absurd rfl (k.title_ne_nil [] ht)
    | cons c cs => rfl
  rw [k.windowLines_eq, k.items_eq, ht, hm, titleLines, htt] at h
  simp only [List.mapM_cons, List.mapM_nil] at h
  cases hT : renderTextSt cc {} t w with
  | error e => rw [hT] at h; cases h
  | ok T =>
    cases ha : (if k.centered then Wd.center {} (.text {} m) else .text {} m).render cc w with
    | error e => rw [hT, ha] at h; cases h
    | ok a' =>
      rw [hT, ha] at h
      cases h
      have ⟨M, hM, hl⟩ : ∃ M, renderTextSt cc {} m w = .ok M ∧
          a'.lines = if k.centered then centerLines M.buf w else M.buf := by
        split at ha
        · next hc => simp only [if_pos hc]; exact center_text_render cc {} {} m w a' ha
        · next hc =>
          simp only [if_neg hc]
          simp only [Wd.render, bind_ok_iff, pure_ok_iff] at ha
          obtain ⟨M, hM, rfl⟩ := ha
          exact ⟨M, hM, rfl⟩
      exact ⟨T, M, rfl, hM, by rw [← hl]; simp [Wd.lines, Wd.st, renderSepSt]⟩

/-- `GetInputScreen` / `GetPasswordInputScreen`: `refresh()` replaces the window by an empty `WindowContainer()`
without a title, so nothing is drawn, at any width (the message is shown by the prompt only). -/
theorem C12b_input_screen_window_empty (cc : CharClass) (m : Str) (w : Int) :
    (DKind.getInput m).windowLines cc w = .ok [] := by
  simp only [DKind.windowLines, DKind.window, DKind.title, DKind.items, Wd.render, truthy, renderWindowItems,
    bind, Except.bind, pure, Except.pure, Except.map]
  rfl

/-- At every width ≥ 1 every dialog renders (no exception), whatever the message. -/
theorem C12b_dialog_defined (cc : CharClass) (k : DKind) (w : Int) (hw : 1 ≤ w) :
    ∃ g, k.windowLines cc w = .ok g :=
  k.windowLines_ok_of_pos cc w (by omega)

/-! ### 2. the width -/

/-- Every line of every dialog's window is at most `w` characters long (for a width ≤ 0: if the render succeeds
at all, every line is empty). From the `RespectsWidth` results of C13b for windows, centered widgets, texts and
separators, which rest on C11. -/
theorem C12b_dialog_within_width (cc : CharClass) (k : DKind) (w : Int) (g : Grid)
    (h : k.windowLines cc w = .ok g) : ∀ row ∈ g, row.length ≤ w.toNat := by
  obtain ⟨r, hr, rfl⟩ := k.windowLines_eq_ok cc w g h
  exact C13_respects_window cc {} k.title k.items w (k.items_respect cc w) r hr

/-- … in particular for a natural width `w ≥ 1` the window exists and none of its lines is longer than `w`. -/
theorem C12b_dialog_within_width_nat (cc : CharClass) (k : DKind) (w : Nat) (hw : 1 ≤ w) :
    ∃ g, k.windowLines cc w = .ok g ∧ ∀ row ∈ g, row.length ≤ w := by
  obtain ⟨g, hg⟩ := C12b_dialog_defined cc k w (by omega)
  exact ⟨g, hg, fun row hrow => by simpa using C12b_dialog_within_width cc k w g hg row hrow⟩

/-! ### 3. the prompts -/

/-- The exact prompt strings: `str(prompt())` of every dialog. `PasswordDialog.prompt()` returns `None` (it asks
for the passphrase itself, see `C12b_password_prompt`); an input screen shows its message followed by `": "`,
and nothing at all for the empty message. -/
theorem C12b_prompt_strings (k : DKind) :
    k.promptStr = match k with
      | .error _ => some "Press ENTER to exit: ".toList
      | .password _ => none
      | .yesNo _ => some "Please respond 'yes' or 'no': ".toList
      | .help _ => some "Press ENTER to return: ".toList
      | .getInput m => some (if m = [] then [] else m ++ [':', ' ']) := by
  -- a prompt with a message and no options: the message followed by `": "`
  have str (s : String) (h : s ≠ "") : ({ message := some s.toList } : Prompt).str = (s ++ ": ").toList :=
    (prompt_str_message _ (mt String.toList_eq_nil_iff.mp h)).trans (String.toList_append (t := ": ")).symm
  cases k with
  | error _ => exact congrArg some (str "Press ENTER to exit" (by decide))
  | password _ => rfl
  | yesNo _ => exact congrArg some (str "Please respond 'yes' or 'no'" (by decide))
  | help _ => exact congrArg some (str "Press ENTER to return" (by decide))
  | getInput m =>
    cases m with
    | nil => rfl
    | cons c cs => exact congrArg some (prompt_str_message _ (List.cons_ne_nil c cs))

/-- None of the dialog prompts has options (no `'c' to continue` etc.). -/
theorem C12b_prompt_no_options (k : DKind) (p : Prompt) (h : k.prompt = some p) : p.options = [] := by
  cases k <;> simp only [DKind.prompt, Option.some.injEq, reduceCtorEq] at h <;> subst h <;> rfl

/-- `PasswordDialog.prompt()` asks with the text `"Passphrase: "`; no other dialog asks by itself. -/
theorem C12b_password_prompt (k : DKind) :
    k.passPrompt = match k with
      | .password _ => some "Passphrase: ".toList
      | _ => none := by
  cases k <;> rfl

/-! ### 4. the items -/

/-- The message the dialog shows: the constructor argument; `PasswordDialog` falls back to
`"Enter your passphrase"` for no message *and* for the empty message (`message or …`), `HelpScreen` to
`"The help is not available."` when it has no help file. -/
theorem C12b_message (k : DKind) :
    k.message = match k with
      | .error m => some m
      | .password none => some "Enter your passphrase".toList
      | .password (some m) => some (if m = [] then "Enter your passphrase".toList else m)
      | .yesNo m => some m
      | .help none => some "The help is not available.".toList
      | .help (some t) => some t
      | .getInput _ => none := by
  match k with
  | .password (some []) => rfl
  | .password (some (_ :: _)) => rfl
  | .password none | .help none | .help (some _) | .error _ | .yesNo _ | .getInput _ => rfl

/-- The window's items after `refresh()`: the message widget first (a `CenterWidget` around a `TextWidget`, a bare
`TextWidget` on the help screen), then exactly one `SeparatorWidget` of exactly one line
(`add_with_separator(item)` with the default `blank_lines=1`) and nothing else; the input screens' window has no
item. -/
theorem C12b_items_order (k : DKind) :
    k.items = match k.message with
      | none => []
      | some m => [if k.centered then .center {} (.text {} m) else .text {} m, .sep {} 1] :=
  k.items_eq

/-- The titles; a dialog has a title exactly when it has a message in its window. -/
theorem C12b_titles (k : DKind) :
    k.title = (match k with
      | .error _ => some "Error".toList
      | .password _ => some "Password".toList
      | .yesNo _ => some "Question".toList
      | .help _ => some "Help".toList
      | .getInput _ => none) ∧ (k.title = none ↔ k.message = none) :=
  ⟨by cases k <;> rfl, k.title_none_iff⟩

/-! Non-vacuity: concrete dialogs. -/

example : ((DKind.error "disk full".toList).windowLines asciiClass 20).toOption =
    some ["Error".toList, [], "     disk full".toList, []] := by
  lits
  decide +kernel

example : ((DKind.password (some [])).windowLines asciiClass 12).toOption =
    some ["Password".toList, [], " Enter your".toList, " passphrase".toList, []] := by
  lits
  decide +kernel

example : ((DKind.yesNo "Really quit?\nAll changes are lost.".toList).windowLines asciiClass 30).toOption =
    some ["Question".toList, [], "    Really quit?".toList, "    All changes are lost.".toList, []] := by
  lits
  decide +kernel

example : ((DKind.help none).windowLines asciiClass 10).toOption =
    some ["Help".toList, [], "The help".toList, "is not".toList, "available.".toList, []] := by decide +kernel

/-- width 0: `textwrap` refuses (ValueError) -/
example : errOf ((DKind.error "x".toList).windowLines asciiClass 0) = some .valueError := by decide +kernel

example : (DKind.getInput "User name".toList).promptStr = some "User name: ".toList := by
  lits
  decide +kernel

end Simpleline
