/-
  C04b — the `ScreenStack` object (`simpleline/render/screen_stack.py`) under ARBITRARY sequences of calls of
  its public methods is the obvious stack: `append` puts on top, `add_first` puts at the bottom, `pop` returns
  (and, with `remove=True`, removes) the top, `dump_stack` lists top first.

  Property theorems only. Model: `Simpleline/Model/Objects.lean` (`SStack`, validated against the Python class);
  spec vocabulary: `Simpleline/Spec/ObjectsSpec.lean`; lemmas: `Simpleline/Lemmas/ObjectsStack.lean`.
  The abstract machine of `Model/Machine.lean` keeps the scheduler's stack as the same plain list
  (`stack : List Entry`, bottom … top), so `C04b_refines_list` is the anchor between the object and that list.
-/
import Simpleline.Lemmas.ObjectsStack

namespace Simpleline.Objects

/-- For every sequence of calls from a fresh `ScreenStack()`: the results of all calls and the final
`_screens` are those of the ideal list machine `idealStack` (a fold written independently of the model:
append at the end = top, `add_first` at the head = bottom, `pop` takes the last). -/
theorem C04b_refines_list (ops : List SOp) :
    (({} : SStack).run ops).1 = (idealStack ops).1 ∧ (({} : SStack).run ops).2.screens = (idealStack ops).2 := by
  unfold idealStack
  rw [show ([] : List Nat) = ({} : SStack).screens from rfl, idealFold_eq]
  exact ⟨rfl, rfl⟩

/-- `append(e)` then `pop()` returns `e` and leaves the stack exactly as it was before. -/
theorem C04b_pop_after_append (s : SStack) (e : Nat) :
    (s.step (.append e)).2.step (.pop true) = (.entry e, s) := by
  simp [SStack.step]

/-- On a non-empty stack `add_first(e)` does not change what `pop` (removing or not) returns: the new
screen goes beneath everything. -/
theorem C04b_add_first_keeps_top (s : SStack) (e : Nat) (h : s.screens ≠ []) (remove : Bool) :
    ((s.step (.addFirst e)).2.step (.pop remove)).1 = (s.step (.pop remove)).1 := by
  simp only [SStack.step]
  rw [List.getLast?_cons_of_ne_nil h]
  cases s.screens.getLast? <;> rfl

/-- Every method preserves the relative order of the entries it does not remove: what an operation keeps of
the old stack (everything; for a removing `pop` everything but the top) is a sub-list, in order, of the new
stack. And the entry a removing `pop` returns is exactly the one it removed from the top. -/
theorem C04b_beneath_order (s : SStack) (op : SOp) :
    (keptBy s.screens op).Sublist (s.step op).2.screens ∧
    (∀ e, op = .pop true → (s.step op).1 = .entry e → s.screens = (s.step op).2.screens ++ [e]) := by
  refine ⟨?_, fun e ho h => ?_⟩
  · cases op with
    | pop r =>
      cases r <;> simp only [keptBy, SStack.step] <;> split <;> simp [List.dropLast_sublist]
    | _ => simp [keptBy, SStack.step]
  · subst ho
    simp only [SStack.step] at h ⊢
    cases hl : s.screens.getLast? with
    | none => simp [hl] at h
    | some x =>
      simp only [hl, SOut.entry.injEq] at h
      subst h
      obtain ⟨r, h0⟩ := List.getLast?_eq_some_iff.1 hl
      simp [h0]

/-- Along any run from any stack: size + number of removing pops that returned an entry
= initial size + number of `append`s + number of `add_first`s. -/
theorem C04b_size (s : SStack) (ops : List SOp) :
    (s.run ops).2.screens.length + (ops.zip (s.run ops).1).countP removedOne
      = s.screens.length + ops.countP SOp.isPush := by
  induction ops generalizing s with
  | nil => simp [SStack.run]
  | cons op ops ih =>
    have h1 := s.step_length op
    have h2 := ih (s.step op).2
    simp only [SStack.run, List.zip_cons_cons, List.countP_cons]
    omega

/-- … in particular `size()` asked at the end of a session from a fresh stack answers
#append + #add_first − #successful removing pops. -/
theorem C04b_size_answer (ops : List SOp) :
    ((({} : SStack).run ops).2.step .size).1
      = .num (ops.countP SOp.isPush - (ops.zip (({} : SStack).run ops).1).countP removedOne) := by
  have := C04b_size {} ops
  simp only [SStack.step, SOut.num.injEq]
  simp only [List.length_nil] at this
  omega

/-- `dump_stack` lists the stack top first: the reverse of `_screens`; it does not change the stack. -/
theorem C04b_dump_top_first (s : SStack) : s.step .dump = (.order s.screens.reverse, s) := rfl

/-- `pop` raises `ScreenStackEmptyException` (removing or not) iff the stack is empty iff `size()` is 0 iff
`empty()` answers `True`. -/
theorem C04b_empty_iff (s : SStack) :
    (((s.step (.pop true)).1 = .stackEmpty ↔ s.screens = []) ∧
     ((s.step (.pop false)).1 = .stackEmpty ↔ s.screens = [])) ∧
    ((s.step .size).1 = .num 0 ↔ s.screens = []) ∧
    ((s.step .empty).1 = .bool true ↔ s.screens = []) := by
  have hp : ∀ r, ((s.step (.pop r)).1 = .stackEmpty ↔ s.screens = []) := by
    intro r
    simp only [SStack.step, ← List.getLast?_eq_none_iff]
    cases s.screens.getLast? <;> simp
  exact ⟨⟨hp true, hp false⟩, by simp [SStack.step], by simp [SStack.step]⟩

/-- `pop(False)` never changes the stack; neither do `size`, `empty`, `dump_stack`, nor a `pop` that raised. -/
theorem C04b_peek_pure (s : SStack) :
    (s.step (.pop false)).2 = s ∧ (s.step .size).2 = s ∧ (s.step .empty).2 = s ∧ (s.step .dump).2 = s ∧
    ((s.step (.pop true)).1 = .stackEmpty → (s.step (.pop true)).2 = s) := by
  refine ⟨?_, rfl, rfl, rfl, ?_⟩ <;> simp only [SStack.step] <;> split <;> simp

/-- a session with every method, a pop on the empty stack, an `add_first` under a non-empty stack -/
example :
    ({} : SStack).run [.pop true, .empty, .append 1, .append 2, .addFirst 3, .pop false, .size, .dump,
                       .pop true, .pop true, .pop true, .pop false, .empty]
      = ([.stackEmpty, .bool true, .unit, .unit, .unit, .entry 2, .num 3, .order [2, 1, 3],
          .entry 2, .entry 1, .entry 3, .stackEmpty, .bool true], {}) := by decide

example :
    idealStack [.pop true, .empty, .append 1, .append 2, .addFirst 3, .pop false, .size, .dump,
                .pop true, .pop true, .pop true, .pop false, .empty]
      = ([.stackEmpty, .bool true, .unit, .unit, .unit, .entry 2, .num 3, .order [2, 1, 3],
          .entry 2, .entry 1, .entry 3, .stackEmpty, .bool true], []) := by decide

/-- `C04b_add_first_keeps_top` needs the non-empty stack: on an empty one the new screen becomes the top -/
example : ((({} : SStack).step (.addFirst 7)).2.step (.pop true)).1 ≠ (({} : SStack).step (.pop true)).1 := by
  decide

/-- the counting of `C04b_size` on a run where a removing pop fails and two succeed -/
example :
    let ops : List SOp := [.pop true, .append 1, .addFirst 2, .append 3, .pop true, .pop false, .pop true]
    (ops.zip (({} : SStack).run ops).1).countP removedOne = 2 ∧ ops.countP SOp.isPush = 3 ∧
      (({} : SStack).run ops).2.screens = [2] := by decide

end Simpleline.Objects
