/-
  What the helpers of `Model/Machine.lean` do, exactly: for each of `enqueue`, `redraw`, `deliver`, `emit`, `take`,
  `unwind`/`raise` and `startRequest` one equation or one complete case list on the whole configuration.  The frame
  lemmas of the Dispatch, Sched, Output, Loop, Input and Shape families are consequences of these.
-/
import Simpleline.Spec.DispatchSpec
import Simpleline.Spec.SchedSpec
import Simpleline.Spec.InputSpec

namespace Simpleline.Machine
open Simpleline Simpleline.Dispatch

/-! ### `enqueue`, `redraw`, `deliver`, `emit`, `take` -/

theorem enqueue_eq (c : Cfg) (s : Sig) :
    c.enqueue s = { c with L := { c.L with queues := enqQ c.L s }, tr := enqT c.L s :: c.tr } := by
  unfold Cfg.enqueue enqQ enqT Cfg.trace
  split <;> rfl

theorem enqT_cases (L : LoopSt) (s : Sig) : enqT L s = .dropped s ∨ enqT L s = .enq (L.route s.src) s := by
  unfold enqT
  split
  · exact .inl rfl
  · exact .inr rfl

theorem redraw_eq (c : Cfg) :
    c.redraw = ({ c with nextSid := c.nextSid + 1 } : Cfg).enqueue (renderSig c.nextSid) := rfl

theorem deliver_cases (c : Cfg) :
    (c.A.readers = [] ∧ c.deliver = none) ∨
    ∃ r rs, c.A.readers = r :: rs ∧
      c.deliver = some (({ c with A := { c.A with readers := rs, stdin := c.A.stdin.tail },
                                  log := .read (c.A.stdin.headD []) :: c.log,
                                  nextSid := c.nextSid + 1 } : Cfg).enqueue (lineSig c r)) := by
  unfold Cfg.deliver
  split
  · exact .inl ⟨‹_›, rfl⟩
  · exact .inr ⟨_, _, ‹_›, rfl⟩

theorem emit_cases (P : Prog) (c : Cfg) (e : Ev) :
    c.emit P e = { c with log := e :: c.log } ∨ ({ c with log := e :: c.log } : Cfg).deliver = some (c.emit P e) := by
  unfold Cfg.emit
  dsimp only
  split
  · cases h : Cfg.deliver { c with log := e :: c.log }
    · exact .inl rfl
    · exact .inr rfl
  · exact .inl rfl

/-- the head `e` of the active queue is taken for dispatch, `es` stay -/
def _root_.Simpleline.Cfg.pop (c : Cfg) (e : Int × Nat × Sig) (es : List (Int × Nat × Sig)) : Cfg :=
  { c with L := { c.L with queues := listSet c.L.queues c.L.active fun q => { q with entries := es } },
           tr := .take c.L.active e.2.2 :: c.tr }

theorem take_cases (c : Cfg) : ∃ c1, (c1 = c ∨ c.L.activeQ.entries = [] ∧ c.deliver = some c1) ∧
    ((c1.L.activeQ.entries = [] ∧ c.take = .error (.blocked, c1)) ∨
     ∃ e es, c1.L.activeQ.entries = e :: es ∧ c.take = .ok (e.2.2, c1.pop e es)) := by
  unfold Cfg.take
  dsimp only
  generalize hc1 : (if c.L.activeQ.entries = [] then (c.deliver).getD c else c) = c1
  refine ⟨c1, ?_, ?_⟩
  · rw [← hc1]; split
    · cases h : c.deliver
      · exact .inl rfl
      · exact .inr ⟨‹_›, rfl⟩
    · exact .inl rfl
  · split
    · exact .inl ⟨‹_›, rfl⟩
    · exact .inr ⟨_, _, ‹_›, rfl⟩

/-! ### `unwind`, `raise` -/

theorem catches_exit (i : Instr) : i.catches .exit = isCatchExit i := by cases i <;> rfl
theorem catches_err (i : Instr) : i.catches .err = (errCatch i).isSome := by cases i <;> rfl
theorem catches_sysexit (i : Instr) : i.catches .sysexit = false := by cases i <;> rfl

/-- the state a catcher leaves: an `except Exception` scope reports the exception to the loop as an `ExceptionSignal`,
`except ExitMainLoop` does nothing -/
def caughtBy (ins : Instr) (c : Cfg) : Cfg :=
  match errCatch ins with
  | some src => excEnq c src
  | none => c

theorem caughtBy_err {ins : Instr} {src : Src} (h : errCatch ins = some src) (c : Cfg) :
    caughtBy ins c = excEnq c src := by
  rw [caughtBy, h]

theorem excEnq_eq (c : Cfg) (src : Src) :
    excEnq c src = ({ c with nextSid := c.nextSid + 1 } : Cfg).enqueue (excSig c.nextSid src) := by
  rw [enqueue_eq]; rfl

theorem unwind_nil (k : Kind) (c : Cfg) : unwind k [] c = .error (failOutcome k, { c with code := [] }) := by
  cases k <;> rfl

theorem unwind_cons (k : Kind) (i : Instr) (rest : List Instr) (c : Cfg) :
    unwind k (i :: rest) c =
      if i.catches k then .ok { caughtBy i c with code := afterCatch i rest } else unwind k rest c := by
  cases k <;> cases i <;> first | rfl | (simp only [unwind, Cfg.newSig, enqueue_eq]; rfl)

theorem unwind_append {k : Kind} {pre : List Instr} (hpre : ∀ i ∈ pre, i.catches k = false) (rest : List Instr)
    (c : Cfg) : unwind k (pre ++ rest) c = unwind k rest c := by
  induction pre with
  | nil => rfl
  | cons i pre ih =>
    rw [List.cons_append, unwind_cons, hpre i List.mem_cons_self, ih fun j hj => hpre j (List.mem_cons_of_mem _ hj)]
    rfl

theorem unwind_none {k : Kind} {code : List Instr} (h : ∀ i ∈ code, i.catches k = false) (c : Cfg) :
    unwind k code c = .error (failOutcome k, { c with code := [] }) := by
  rw [← List.append_nil code, unwind_append h, unwind_nil]

theorem unwind_sysexit (code : List Instr) (c : Cfg) :
    unwind .sysexit code c = .error (.killed 1, { c with code := [] }) :=
  unwind_none (fun i _ => catches_sysexit i) c

theorem split_first {α} (p : α → Bool) (l : List α) :
    (∀ i ∈ l, p i = false) ∨ ∃ pre x rest, l = pre ++ x :: rest ∧ (∀ i ∈ pre, p i = false) ∧ p x = true := by
  induction l with
  | nil => exact .inl fun _ h => nomatch h
  | cons a as ih =>
    cases hp : p a
    · rcases ih with h | ⟨pre, x, rest, rfl, h2, h3⟩
      · exact .inl (List.forall_mem_cons.2 ⟨hp, h⟩)
      · exact .inr ⟨a :: pre, x, rest, rfl, List.forall_mem_cons.2 ⟨hp, h2⟩, h3⟩
    · exact .inr ⟨[], a, as, rfl, (fun _ h => nomatch h), hp⟩

theorem unwind_cases (k : Kind) (code : List Instr) (c : Cfg) :
    ((∀ i ∈ code, i.catches k = false) ∧ unwind k code c = .error (failOutcome k, { c with code := [] })) ∨
    ∃ pre ins rest, code = pre ++ ins :: rest ∧ (∀ i ∈ pre, i.catches k = false) ∧ ins.catches k = true ∧
      unwind k code c = .ok { caughtBy ins c with code := afterCatch ins rest } := by
  rcases split_first (·.catches k) code with h | ⟨pre, ins, rest, rfl, h1, h2⟩
  · exact .inl ⟨h, unwind_none h c⟩
  · exact .inr ⟨pre, ins, rest, rfl, h1, h2, by rw [unwind_append h1, unwind_cons, if_pos h2]⟩

theorem caughtBy_cases (ins : Instr) (c : Cfg) : caughtBy ins c = c ∨ ∃ src, caughtBy ins c = excEnq c src := by
  unfold caughtBy
  split
  · exact .inr ⟨_, rfl⟩
  · exact .inl rfl

theorem afterCatch_suffix (ins : Instr) (rest : List Instr) : afterCatch ins rest <:+ rest := by
  cases ins <;> first | exact List.suffix_refl _ | exact (List.drop_suffix _ _).trans (List.dropWhile_suffix _)

theorem afterCatch_suffix_split (pre : List Instr) (ins : Instr) (rest : List Instr) :
    afterCatch ins rest <:+ pre ++ ins :: rest :=
  (afterCatch_suffix ins rest).trans ((List.suffix_cons _ _).trans (List.suffix_append _ _))

theorem raise_eq (c : Cfg) (k : Kind) : c.raise k = unwind k c.code (preRaise c k) := by
  cases k <;> rfl

theorem step_nil {P : Prog} {c : Cfg} (hc : c.code = []) : step P c = .error (.returned, c) := by
  simp [step, hc]

end Simpleline.Machine

/-! ### `startRequest` -/

namespace Simpleline.Input

theorem skip_listSet_cleared (ihs : List IHandler) (ih : Nat) :
    ((listSet ihs ih fun h => { h with received := false, value := none }).getD ih default).skip =
      (ihs.getD ih default).skip := by
  simp only [listSet, List.getD_eq_getElem?_getD, List.getElem?_modify, if_true]
  cases ihs[ih]? <;> rfl

/-- `start_input_thread`: the request is recorded; it is refused (`KeyError`) if another request is outstanding and
the handler does not opt out of the check; otherwise it is pushed and its prompt written, and a reader thread is
started unless one is running -/
theorem startRequest_eq (c : Cfg) (ih : Nat) (requester : Src) (text : Str) :
    startRequest c ih requester text =
      if c.A.inputStack ≠ [] ∧ (c.A.ihs.getD ih default).skip = false then
        ({ c with A := reqRecorded c.A ih requester text } : Cfg).raise .err
      else if c.A.processing then
        .ok (({ c with A := { reqRecorded c.A ih requester text with
                  inputStack := c.A.inputStack ++ [c.A.reqs.length] } } : Cfg).write text)
      else
        .ok (({ c with A := { reqRecorded c.A ih requester text with
                  inputStack := c.A.inputStack ++ [c.A.reqs.length], processing := true,
                  readers := c.A.readers ++ [c.A.reqs.length] } } : Cfg).write text) := by
  unfold startRequest
  simp only [skip_listSet_cleared, List.length_append, List.length_cons, List.length_nil,
    List.dropLast_concat, List.getLastD_concat]
  have h1 : (c.A.inputStack.length + (0 + 1) ≠ 1) ↔ c.A.inputStack ≠ [] := by
    rw [Ne, Ne, ← List.length_eq_zero_iff]; omega
  have h2 : (c.A.reqs ++ [({ ih := ih, requester := requester, text := text } : Request)]).getD c.A.reqs.length default
      = { ih := ih, requester := requester, text := text } := by
    simp [List.getD_eq_getElem?_getD]
  simp only [h1, h2, Bool.not_eq_true]
  rfl

end Simpleline.Input
