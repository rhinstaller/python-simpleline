/-
  Per-thread discipline (a thread's earlier submission is put before its next one
  begins) and the per-thread FIFO theorem that follows from it.
-/
import Simpleline.Lemmas.ThreadFifo
import Simpleline.Lemmas.ThreadRoute

namespace Simpleline.Threads
open List
variable {s s' : TState} {t : Nat} {e : Ev}

theorem thread_cnt_run {src0 : List Nat} {sched : List (Nat × Ev)} {s : TState}
    (hr : run (initState src0) sched = some s) (t a : Nat) :
    count a ((evsOf t sched).flatMap Ev.newId) =
      count a ((evsOf t sched).flatMap Ev.putId) + count a (s.pc t).preId := by
  refine run_induction (P := fun sched s => ∀ t, count a ((evsOf t sched).flatMap Ev.newId) =
      count a ((evsOf t sched).flatMap Ev.putId) + count a (s.pc t).preId) ?_ ?_ sched s hr t
  · intro t; simp [evsOf]
  · intro pre s t e s' hpre ih hs _ t'
    by_cases hne : t' = t
    · subst hne
      have := thread_cnt_step hs a
      have := ih t'
      simp only [evsOf_snoc, if_true, List.flatMap_append, count_append, List.flatMap_cons, List.flatMap_nil,
        List.append_nil]
      omega
    · have hne' : ¬ t = t' := fun e => hne e.symm
      rw [pc_other hs hne]
      simp only [evsOf_snoc, hne', if_false]
      exact ih t'

theorem mem_puts_of_mem {sched : List (Nat × Ev)} {t q sid : Nat} {p : Int} {o : Nat}
    (h : (t, Ev.put q sid p o) ∈ sched) : (q, sid, p, o) ∈ puts sched := by
  unfold puts
  rw [List.mem_flatMap]
  exact ⟨_, h, by simp [Ev.putRec]⟩

theorem putId_thread_mem {X : List (Nat × Ev)} {t a : Nat} (h : a ∈ (evsOf t X).flatMap Ev.putId) :
    a ∈ putIds X := by
  simp only [evsOf, putIds, puts, Ev.putId, mem_flatMap, mem_map, mem_filter] at h ⊢
  obtain ⟨e, ⟨x, ⟨hx, _⟩, rfl⟩, r, hr, rfl⟩ := h
  exact ⟨r, ⟨x, hx, hr⟩, rfl⟩

/-- a thread's earlier submission is put before its later submission begins; so — both landing in the same queue
with the same priority — the earlier one is dispatched first -/
theorem thread_fifo {src0 : List Nat} {sched : List (Nat × Ev)} {s : TState}
    (hr : run (initState src0) sched = some s) (hd : DistinctIds sched)
    {t : Nat} {A B C : List (Nat × Ev)} {a b : TSig}
    (hsub : sched = A ++ (t, .submit a) :: (B ++ (t, .submit b) :: C))
    {ta tb q : Nat} {p : Int} {oa ob : Nat}
    (hpa : (ta, Ev.put q a.sid p oa) ∈ sched) (hpb : (tb, Ev.put q b.sid p ob) ∈ sched)
    (hdisp : (q, b.sid) ∈ s.dispatched) :
    oa < ob ∧ ∃ l1 l2, s.dispatched = l1 ++ (q, b.sid) :: l2 ∧ (q, a.sid) ∈ l2 := by
  have hin : a.sid ∈ (evsOf t (A ++ (t, .submit a) :: B)).flatMap Ev.newId := by simp [evsOf, Ev.newId]
  rw [← cons_append, ← append_assoc] at hsub
  generalize A ++ (t, Ev.submit a) :: B = X at hin hsub
  subst hsub
  obtain ⟨sX, hrX, hrC⟩ := run_append_some.1 hr
  obtain ⟨s1, hs1, _⟩ := run_cons.1 hrC
  -- the thread is idle when it begins its second submission, so its first submission has been put
  have hidle : sX.pc t = .idle := by cases tstep_sound hs1; assumption
  have hcnt := thread_cnt_run hrX t a.sid
  rw [hidle] at hcnt
  have ha : a.sid ∈ putIds X :=
    putId_thread_mem (t := t) (count_pos_iff.1 (by have := count_pos_iff.2 hin; simp only [PC.preId, count_nil] at hcnt; omega))
  have hputs : puts (X ++ (t, .submit b) :: C) = puts X ++ puts C := by simp [puts, Ev.putRec]
  have hnd := putIds_nodup hr hd
  rw [putIds, hputs] at hnd
  have hra : (q, a.sid, p, oa) ∈ puts X := by
    obtain ⟨r, hrX', hrid⟩ := mem_map.1 ha
    exact rec_unique hnd (mem_append_left _ hrX') (hputs ▸ mem_puts_of_mem hpa) hrid ▸ hrX'
  -- the second submission has not begun yet, so it has not been put
  have hrb : (q, b.sid, p, ob) ∈ puts C := by
    refine (mem_append.1 (hputs ▸ mem_puts_of_mem hpb)).resolve_left fun h1 => ?_
    have h3 := cntPut_run hrX b.sid
    have h4 : 0 < count b.sid (putIds X) := count_pos_iff.2 (mem_map_of_mem (f := fun r : PutRec => r.2.1) h1)
    have h5 := (nodup_iff_count.1 hd) b.sid
    simp [submitted, Ev.newId, count_append] at h5 h3
    omega
  exact fifo_dispatch hr hd hputs hra hrb hdisp

end Simpleline.Threads
