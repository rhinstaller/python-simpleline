/-
  A typed line is handed to at most one `input` callback (C06): the potential `once` — callbacks already
  made with the line, plus everything in the machine that can still lead to one — never exceeds the
  number of times the line was read. What an instruction can still lead to (`Instr.pot`) is the count of the line
  among those it carries (`pot_eq`), so handing a signal on keeps the potential (`Passes.pot`) because it keeps the
  lists (`Passes.recv`, `Passes.lines`: the handler of `InputHandler n` is number `k0 + n` of its class, `slot_ih`).
-/
import Simpleline.Lemmas.InputCount

namespace Simpleline.Input

/-- number of application handlers for `InputReadySignal` registered at start: the handler of
`InputHandler n` is number `k0 + n` in the dispatch order of that class -/
def k0 (c0 : Cfg) : Nat := (handlersOf c0.L .inputReady).length

def _root_.Simpleline.Instr.pot (l : Str) (k : Nat) : Instr → Nat
  | .callScr _ .input _ (some key) => (decide (key = l)).toNat
  | .processInput _ key => (decide (key = l)).toNat
  | .inputReady n s => (s.ok && decide (s.ih = n) && decide (s.line = l)).toNat
  | .callH (.ih n) _ s => (s.ok && decide (s.ih = n) && decide (s.line = l)).toNat
  | .callH .itm _ s => (decide (s.line = l)).toNat
  | .inputReceived s => (decide (s.line = l)).toNat
  | .dispatch s i =>
    if s.cls = .inputReceived then (decide (i = 0) && decide (s.line = l)).toNat
    else if s.cls = .inputReady then (s.ok && decide (i ≤ k + s.ih) && decide (s.line = l)).toNat
    else 0
  | .processSignal s => (lineIs l s).toNat
  | .newLoop s => (lineIs l s).toNat
  | _ => 0

def potCode (l : Str) (k : Nat) (code : List Instr) : Nat := (code.map (Instr.pot l k)).sum

@[simp] theorem potCode_nil (l : Str) (k : Nat) : potCode l k [] = 0 := rfl
@[simp] theorem potCode_cons (l : Str) (k : Nat) (i : Instr) (is : List Instr) :
    potCode l k (i :: is) = i.pot l k + potCode l k is := by simp [potCode]
@[simp] theorem potCode_append (l : Str) (k : Nat) (is js : List Instr) :
    potCode l k (is ++ js) = potCode l k is + potCode l k js := by simp [potCode]

theorem potCode_sublist {l : Str} {k : Nat} {is js : List Instr} (h : is.Sublist js) :
    potCode l k is ≤ potCode l k js := by
  induction h with
  | slnil => simp
  | cons a _ ih => simp; omega
  | cons_cons a _ ih => simp; omega

def once (l : Str) (k : Nat) (c : Cfg) : Nat :=
  inputCount l c.log + potCode l k c.code + c.pending.countP (lineIs l)

def OnceOK (l : Str) (k : Nat) (c : Cfg) : Prop := once l k c ≤ readCount l c.log

structure ReadyHandlers (c0 c : Cfg) : Prop where
  eq : handlersOf c.L .inputReady =
    handlersOf c0.L .inputReady ++ (List.range c.A.ihs.length).map (fun n => (HRef.ih n, none))
  app : ∀ u ∈ handlersOf c0.L .inputReady, u.1.isApp = true

theorem readyHandlers_reach {P : Prog} {c0 c : Cfg} (h0 : Started c0) (hU : UserHandlers c0) (h : Reach P c0 c) :
    ReadyHandlers c0 c := by
  have hh := (objInv_reach h0 h).handlers
  refine ⟨?_, ?_⟩
  · unfold handlersOf
    rw [hh, List.filter_append, List.map_append]
    congr 1
    have : ((List.range c.A.ihs.length).map ihReg).filter (fun x => decide (x.1 = Cls.inputReady)) =
        (List.range c.A.ihs.length).map ihReg := by
      rw [List.filter_eq_self]
      intro x hx
      obtain ⟨n, _, rfl⟩ := List.mem_map.mp hx
      simp [ihReg]
    rw [this, List.map_map]
    rfl
  · obtain ⟨hs, hh0⟩ := h0.handlers
    intro u hu
    unfold handlersOf at hu
    obtain ⟨x, hx, rfl⟩ := List.mem_map.mp hu
    obtain ⟨hx1, hx2⟩ := List.mem_filter.mp hx
    simp only [hh0, List.cons_append, List.nil_append, List.mem_cons] at hx1
    rcases hx1 with rfl | rfl | rfl | hx1
    · simp at hx2
    · simp at hx2
    · simp at hx2
    · exact hU x (by rw [hh0]; exact hx1)

theorem slot_ih {c0 c : Cfg} (hH : HandlersOK c) (hR : ReadyHandlers c0 c) {s : Sig} {i : Nat} {h : HRef}
    {d : Option Nat} (hg : (handlersOf c.L s.cls)[i]? = some (h, d)) (n : Nat) :
    h = .ih n ↔ s.cls = .inputReady ∧ i = k0 c0 + n := by
  have key : s.cls = .inputReady → (i < k0 c0 ∧ h.isApp = true) ∨ ∃ m, i = k0 c0 + m ∧ h = .ih m := by
    intro hc
    rw [hc, hR.eq] at hg
    by_cases hik : i < k0 c0
    · rw [List.getElem?_append_left hik] at hg
      exact .inl ⟨hik, hR.app _ (List.mem_of_getElem? hg)⟩
    · obtain ⟨m, rfl⟩ : ∃ m, i = k0 c0 + m := ⟨i - k0 c0, by omega⟩
      have hk : (handlersOf c0.L .inputReady).length = k0 c0 := rfl
      rw [List.getElem?_append_right (by rw [hk]; omega), hk, Nat.add_sub_cancel_left] at hg
      have hlt : m < c.A.ihs.length := by simpa using (List.getElem?_eq_some_iff.mp hg).1
      rw [List.getElem?_map, List.getElem?_range hlt] at hg
      cases hg; exact .inr ⟨m, rfl, rfl⟩
  constructor
  · intro hh
    have hc : s.cls = .inputReady := hH.ih _ (handlersOf_mem hg) n hh
    rcases key hc with ⟨_, ha⟩ | ⟨m, rfl, hm⟩
    · rw [hh] at ha; cases ha
    · rw [hh] at hm; cases hm; exact ⟨hc, rfl⟩
  · rintro ⟨hc, rfl⟩
    rcases key hc with ⟨hlt, _⟩ | ⟨m, hm, rfl⟩
    · omega
    · rw [Nat.add_left_cancel hm]

end Simpleline.Input

namespace Simpleline.InputOrder
open Input

theorem pre_dispatch {c0 c : Cfg} (hH : HandlersOK c) (hR : ReadyHandlers c0 c) {s : Sig} {i : Nat}
    {h : HRef} {d : Option Nat} (hg : (handlersOf c.L s.cls)[i]? = some (h, d)) :
    (Instr.callH h d s).pre (k0 c0) ++ (Instr.dispatch s (i + 1)).pre (k0 c0) = (Instr.dispatch s i).pre (k0 c0) := by
  have slot := slot_ih hH hR hg
  by_cases hok : s.okReady = true
  · cases h with
    | ih n =>
      obtain ⟨-, rfl⟩ := (slot n).mp rfl
      by_cases hn : s.ih = n
      · have : ¬ k0 c0 + n + 1 ≤ k0 c0 + n := by omega
        simp [Instr.pre, hok, hn, this]
      · have : k0 c0 + n ≤ k0 c0 + s.ih ↔ k0 c0 + n + 1 ≤ k0 c0 + s.ih := by omega
        simp [Instr.pre, hok, hn, this]
    | _ =>
      have hi : i ≠ k0 c0 + s.ih := fun hi => nomatch (slot s.ih).mpr ⟨okReady_cls hok, hi⟩
      have : i ≤ k0 c0 + s.ih ↔ i + 1 ≤ k0 c0 + s.ih := by omega
      simp [Instr.pre, hok, this]
  · cases h <;> simp [Instr.pre, hok]

theorem lines_dispatch {c0 c : Cfg} (hH : HandlersOK c) (hR : ReadyHandlers c0 c) {s : Sig} {i : Nat}
    {h : HRef} {d : Option Nat} (hg : (handlersOf c.L s.cls)[i]? = some (h, d)) :
    (Instr.callH h d s).lines (k0 c0) ++ (Instr.dispatch s (i + 1)).lines (k0 c0) =
      (Instr.dispatch s i).lines (k0 c0) := by
  simp only [Instr.lines, post_callH, post_dispatch, List.append_nil]
  exact pre_dispatch hH hR hg

theorem _root_.Simpleline.Input.Passes.lines {c0 c : Cfg} {ins : Instr} {new : List Instr} {t : List Tr}
    (h : Passes c ins new t) (hH : HandlersOK c) (hR : ReadyHandlers c0 c) : Qc (k0 c0) new = ins.lines (k0 c0) := by
  cases h with
  | processSignal s => rw [Qc_cons, Qc_nil, List.append_nil, lines_dispatch_zero]
  | dispatch s i h d hg =>
    have e : Instr.lines (k0 c0) .catchHandler = [] := rfl
    rw [Qc_cons, Qc_cons, Qc_cons, Qc_nil, List.append_nil, e, List.nil_append, lines_dispatch hH hR hg]
  | _ => simp [Instr.lines, Instr.pre, Instr.post]

end Simpleline.InputOrder

namespace Simpleline.Input
open InputOrder

theorem count_one (a l : Str) : [a].count l = (decide (a = l)).toNat := by
  by_cases h : a = l <;> simp [h]

theorem count_if (p : Prop) [Decidable p] (a l : Str) :
    (if p then [a] else []).count l = (decide p && decide (a = l)).toNat := by
  split <;> simp [*, count_one]

theorem pot_eq {i : Instr} (h : i.clean = true) (l : Str) (k : Nat) : i.pot l k = (i.toks k).count l := by
  cases i <;> simp only [Instr.pot, Instr.toks, Instr.lines, Instr.pre, Instr.post, Instr.recvSig?] <;> try rfl
  case processSignal s =>
    by_cases hr : s.cls = .inputReceived
    · simp [lineIs, Sig.carriesLine, Sig.okReady, hr, count_one]
    · simp [lineIs, Sig.carriesLine, Sig.okReady, hr, count_if]
  case dispatch s j =>
    by_cases hr : s.cls = .inputReceived
    · simp [Sig.okReady, hr]
      split <;> simp [*, count_one]
    · simp only [hr, if_false, false_and, Option.toList_none, List.map_nil, List.nil_append, List.append_nil, count_if]
      by_cases hy : s.cls = .inputReady <;> simp [Sig.okReady, hy]
  case callH hr d s =>
    cases hr <;> simp [Instr.clean] at h <;> simp [Sig.okReady, h, count_if, count_one]
  case newLoop s => simp [lineIs_of_not_input (l := l) (s := s) (by simpa [Instr.clean] using h)]
  case callScr scr cb a key => cases cb <;> cases key <;> simp [count_one]
  case inputReceived s => simp [count_one]
  case inputReady n s => simp [Instr.clean] at h; simp [Sig.okReady, h, count_if]
  case processInput scr key => simp [count_one]

theorem potCode_eq {code : List Instr} (h : cleanCode code) (l : Str) (k : Nat) :
    potCode l k code = (code.flatMap (Instr.toks k)).count l := by
  induction code with
  | nil => rfl
  | cons i is ih =>
    rw [cleanCode_cons] at h
    rw [potCode_cons, pot_eq h.1, ih h.2, List.flatMap_cons, List.count_append]

theorem pot_inert (l : Str) (k : Nat) {i : Instr} (h : i.inert = true) : i.pot l k = 0 := by
  rw [pot_eq (clean_of_inert h), toks_of_inert h]; rfl

theorem potCode_inert (l : Str) (k : Nat) {is : List Instr} (h : is.all Instr.inert = true) : potCode l k is = 0 := by
  induction is with
  | nil => rfl
  | cons i is ih =>
    rw [List.all_cons, Bool.and_eq_true] at h
    rw [potCode_cons, pot_inert l k h.1, ih h.2]

theorem Passes.pot {l : Str} {c0 c : Cfg} {ins : Instr} {new : List Instr} {t : List Tr} (h : Passes c ins new t)
    (hH : HandlersOK c) (hR : ReadyHandlers c0 c) (hcl : ins.clean = true) :
    potCode l (k0 c0) new = ins.pot l (k0 c0) := by
  rw [potCode_eq (h.clean hH hcl), count_toks, h.recv hH, h.lines hH hR, pot_eq hcl, Instr.toks, List.count_append]

end Simpleline.Input
