/-
  GLib machine: frame lemmas.  What the helper functions of the steps do to the components the C20b, C20c and C20f
  theorems talk about: the pending code, the handler registrations, the force-quit flag, the ticket lines, the
  quit-callback registration, the quit-callback events of the log, the trace (`Keep`); statements that may raise only cut
  the pending code (`Good`).  Which loop `enqueue_signal` routes a signal to (`route_spec`, `route_some`, `route_none`),
  and that `register_signal_source` returns while a loop is left (`regSource_eq`).
-/
import Simpleline.Lemmas.GMStepVocab

namespace Simpleline.G

def isQ : Ev → Bool
  | .quitcb _ => true
  | _ => false

/-- `c'` differs from `c` by helper effects only: registrations are at most added behind the others (an `InputHandler`
registers itself), the trace is extended by quiet events, the rest of what the invariants read is the same -/
structure Keep (c c' : Cfg) : Prop where
  handlers : c.L.handlers <+: c'.L.handlers
  fq : c'.L.forceQuit = c.L.forceQuit
  tickets : c'.L.tickets = c.L.tickets
  qcb : c'.L.quitCb = c.L.quitCb
  logq : c'.log.filter isQ = c.log.filter isQ
  tr : ∃ new, c'.tr = new ++ c.tr ∧ ∀ t ∈ new, t.quiet = true

theorem Keep.refl (c : Cfg) : Keep c c := ⟨List.prefix_refl _, rfl, rfl, rfl, rfl, [], rfl, by simp⟩

theorem Keep.trans {a b c : Cfg} (h1 : Keep a b) (h2 : Keep b c) : Keep a c := by
  obtain ⟨n1, e1, q1⟩ := h1.tr
  obtain ⟨n2, e2, q2⟩ := h2.tr
  refine ⟨h1.handlers.trans h2.handlers, h2.fq.trans h1.fq, h2.tickets.trans h1.tickets, h2.qcb.trans h1.qcb, h2.logq.trans h1.logq, n2 ++ n1, by simp [e2, e1], ?_⟩
  intro t ht
  rcases List.mem_append.1 ht with h | h
  · exact q2 t h
  · exact q1 t h

/-- The hypotheses are closed by evaluation when the configurations are written out: `Keep.of_tr [_, _]`. -/
theorem Keep.of_tr {c c' : Cfg} (new : List Tr) (h1 : c'.L.handlers = c.L.handlers := by rfl)
    (h2 : c'.L.forceQuit = c.L.forceQuit := by rfl) (h3 : c'.tr = new ++ c.tr := by rfl) (hq : new.all Tr.quiet = true := by rfl)
    (h4 : c'.L.tickets = c.L.tickets := by rfl) (h5 : c'.L.quitCb = c.L.quitCb := by rfl)
    (h6 : c'.log.filter isQ = c.log.filter isQ := by rfl) : Keep c c' :=
  ⟨h1 ▸ List.prefix_refl _, h2, h4, h5, h6, new, h3, fun t ht => List.all_eq_true.1 hq t ht⟩

theorem Keep.same {c c' : Cfg} (h1 : c'.L.handlers = c.L.handlers := by rfl) (h2 : c'.L.forceQuit = c.L.forceQuit := by rfl)
    (h3 : c'.tr = c.tr := by rfl) (h4 : c'.L.tickets = c.L.tickets := by rfl) (h5 : c'.L.quitCb = c.L.quitCb := by rfl)
    (h6 : c'.log.filter isQ = c.log.filter isQ := by rfl) : Keep c c' :=
  Keep.of_tr [] h1 h2 h3 rfl h4 h5 h6

theorem Keep.ev {c c' : Cfg} {t : Tr} (h1 : c'.L.handlers = c.L.handlers := by rfl) (h2 : c'.L.forceQuit = c.L.forceQuit := by rfl)
    (h3 : c'.tr = t :: c.tr := by rfl) (hq : [t].all Tr.quiet = true := by rfl) (h4 : c'.L.tickets = c.L.tickets := by rfl)
    (h5 : c'.L.quitCb = c.L.quitCb := by rfl) (h6 : c'.log.filter isQ = c.log.filter isQ := by rfl) : Keep c c' :=
  Keep.of_tr [t] h1 h2 h3 hq h4 h5 h6

@[simp] theorem setCtx_handlers (c : Cfg) (q : Nat) (f : Ctx → Ctx) : (c.setCtx q f).L.handlers = c.L.handlers := rfl
@[simp] theorem setCtx_fq (c : Cfg) (q : Nat) (f : Ctx → Ctx) : (c.setCtx q f).L.forceQuit = c.L.forceQuit := rfl
@[simp] theorem setCtx_tr (c : Cfg) (q : Nat) (f : Ctx → Ctx) : (c.setCtx q f).tr = c.tr := rfl
@[simp] theorem setCtx_code (c : Cfg) (q : Nat) (f : Ctx → Ctx) : (c.setCtx q f).code = c.code := rfl
@[simp] theorem setCtx_loops (c : Cfg) (q : Nat) (f : Ctx → Ctx) : (c.setCtx q f).L.loops = c.L.loops := rfl
@[simp] theorem setInCall_handlers (c : Cfg) (q s : Nat) (b : Bool) : (c.setInCall q s b).L.handlers = c.L.handlers := rfl
@[simp] theorem setInCall_fq (c : Cfg) (q s : Nat) (b : Bool) : (c.setInCall q s b).L.forceQuit = c.L.forceQuit := rfl
@[simp] theorem setInCall_tr (c : Cfg) (q s : Nat) (b : Bool) : (c.setInCall q s b).tr = c.tr := rfl
@[simp] theorem setInCall_code (c : Cfg) (q s : Nat) (b : Bool) : (c.setInCall q s b).code = c.code := rfl
@[simp] theorem destroy_handlers (c : Cfg) (q s : Nat) : (c.destroy q s).L.handlers = c.L.handlers := rfl
@[simp] theorem destroy_fq (c : Cfg) (q s : Nat) : (c.destroy q s).L.forceQuit = c.L.forceQuit := rfl
@[simp] theorem destroy_tr (c : Cfg) (q s : Nat) : (c.destroy q s).tr = c.tr := rfl
@[simp] theorem destroy_code (c : Cfg) (q s : Nat) : (c.destroy q s).code = c.code := rfl
@[simp] theorem quitAll_handlers (c : Cfg) : c.quitAll.L.handlers = c.L.handlers := rfl
@[simp] theorem quitAll_fq (c : Cfg) : c.quitAll.L.forceQuit = c.L.forceQuit := rfl
@[simp] theorem quitAll_tr (c : Cfg) : c.quitAll.tr = c.tr := rfl
@[simp] theorem quitAll_code (c : Cfg) : c.quitAll.code = c.code := rfl
@[simp] theorem trace_handlers (c : Cfg) (t : Simpleline.Tr) : (c.trace t).L.handlers = c.L.handlers := rfl
@[simp] theorem trace_fq (c : Cfg) (t : Simpleline.Tr) : (c.trace t).L.forceQuit = c.L.forceQuit := rfl
@[simp] theorem trace_tr (c : Cfg) (t : Simpleline.Tr) : (c.trace t).tr = .m t :: c.tr := rfl
@[simp] theorem trace_code (c : Cfg) (t : Simpleline.Tr) : (c.trace t).code = c.code := rfl
@[simp] theorem gtrace_handlers (c : Cfg) (t : Tr) : (c.gtrace t).L.handlers = c.L.handlers := rfl
@[simp] theorem gtrace_fq (c : Cfg) (t : Tr) : (c.gtrace t).L.forceQuit = c.L.forceQuit := rfl
@[simp] theorem gtrace_tr (c : Cfg) (t : Tr) : (c.gtrace t).tr = t :: c.tr := rfl
@[simp] theorem gtrace_code (c : Cfg) (t : Tr) : (c.gtrace t).code = c.code := rfl
@[simp] theorem write_handlers (c : Cfg) (t : Str) : (c.write t).L.handlers = c.L.handlers := rfl
@[simp] theorem write_fq (c : Cfg) (t : Str) : (c.write t).L.forceQuit = c.L.forceQuit := rfl
@[simp] theorem write_tr (c : Cfg) (t : Str) : (c.write t).tr = c.tr := rfl
@[simp] theorem write_code (c : Cfg) (t : Str) : (c.write t).code = c.code := rfl
@[simp] theorem push_handlers (c : Cfg) (l : List Instr) : (push c l).L.handlers = c.L.handlers := rfl
@[simp] theorem push_fq (c : Cfg) (l : List Instr) : (push c l).L.forceQuit = c.L.forceQuit := rfl
@[simp] theorem push_tr (c : Cfg) (l : List Instr) : (push c l).tr = c.tr := rfl
@[simp] theorem push_code (c : Cfg) (l : List Instr) : (push c l).code = l ++ c.code := rfl

/-- `_find_loop_data_for_source`: the result is a loop of `_event_loops`; it is the innermost one (no loop above it) whose
source set contains the source, or else — no loop owning the source — the top loop -/
theorem route_spec (L : GSt) (src : Src) (q : Nat) (h : L.route src = some q) :
    q ∈ L.loops ∧
    ((∃ inner outer, L.loops = outer ++ q :: inner ∧ (L.ctx q).srcset.contains src = true ∧
        ∀ a ∈ inner, (L.ctx a).srcset.contains src = false) ∨
     (L.loops.getLast? = some q ∧ ∀ a ∈ L.loops, (L.ctx a).srcset.contains src = false)) := by
  unfold GSt.route at h
  split at h
  · rename_i q' hf
    cases h
    obtain ⟨hp, as, bs, hl, has⟩ := List.find?_eq_some_iff_append.1 hf
    have hl' : L.loops = bs.reverse ++ q :: as.reverse := by
      have := congrArg List.reverse hl
      simpa using this
    refine ⟨by rw [hl']; simp, Or.inl ⟨as.reverse, bs.reverse, hl', hp, ?_⟩⟩
    intro a ha
    have := has a (List.mem_reverse.1 ha)
    simpa using this
  · rename_i hf
    have hnone := List.find?_eq_none.1 hf
    refine ⟨List.mem_of_getLast? h, Or.inr ⟨h, fun a ha => ?_⟩⟩
    have := hnone a (List.mem_reverse.2 ha)
    simpa using this

/-- with no loop left there is no route (`IndexError`) -/
theorem route_none (L : GSt) (src : Src) (h : L.loops = []) : L.route src = none := by
  simp [GSt.route, h]

theorem route_some (L : GSt) (src : Src) (hl : L.loops ≠ []) : ∃ q, L.route src = some q := by
  unfold GSt.route
  split
  · exact ⟨_, rfl⟩
  · cases h : L.loops.getLast? with
    | none => exact absurd (List.getLast?_eq_none_iff.1 h) hl
    | some q => exact ⟨q, rfl⟩

theorem enq?_code {c c' : Cfg} {s : Sig} (h : c.enq? s = some c') : c'.code = c.code := by
  unfold Cfg.enq? at h
  split at h
  · cases h; rfl
  · split at h
    · cases h
    · cases h; rfl

theorem enq?_keep {c c' : Cfg} {s : Sig} (h : c.enq? s = some c') : Keep c c' := by
  unfold Cfg.enq? at h
  split at h
  · cases h; exact Keep.ev
  · split at h
    · cases h
    · cases h
      exact Keep.of_tr [_, _]

/-- outside force-quit `enqueue_signal` attaches one new source to the context the signal's source is routed to -/
theorem enq?_route {c : Cfg} {s : Sig} {q : Nat} (hf : c.L.forceQuit = false) (hr : c.L.route s.src = some q) :
    c.enq? s = some { c with
      L := { (c.L.setCtx q fun x => { x with sources := x.sources ++ [GSource.mk c.L.nextSrc s (c.L.hlistFor s) false] }) with
             nextSrc := c.L.nextSrc + 1 },
      tr := .attach q (GSource.mk c.L.nextSrc s (c.L.hlistFor s) false) :: .m (.enq q s) :: c.tr } := by
  simp only [Cfg.enq?, hf, hr, Bool.false_eq_true, ↓reduceIte]

theorem enq?_fq (c : Cfg) (s : Sig) (hf : c.L.forceQuit = true) : c.enq? s = some (c.trace (.dropped s)) := by
  simp [Cfg.enq?, hf]

theorem newSig_keep (c : Cfg) (cls : Cls) (prio : Int) (src : Src) (line : Str) (ih : Nat) (ok : Bool) :
    Keep c (c.newSig cls prio src line ih ok).2 ∧ (c.newSig cls prio src line ih ok).2.code = c.code :=
  ⟨Keep.same, rfl⟩

theorem deliver_code {c c' : Cfg} (h : c.deliver = some c') : c'.code = c.code := by
  unfold Cfg.deliver at h
  split at h
  · cases h
  · simp only [Option.some.injEq] at h
    subst h
    cases he : Cfg.enq? _ _ with
    | none => simp [Cfg.newSig]
    | some c2 => simp [enq?_code he, Cfg.newSig]

theorem deliver_keep {c c' : Cfg} (h : c.deliver = some c') : Keep c c' := by
  unfold Cfg.deliver at h
  split at h
  · cases h
  · simp only [Option.some.injEq] at h
    subst h
    cases he : Cfg.enq? _ _ with
    | none => simp only [Option.getD_none]; exact Keep.same
    | some c2 =>
      simp only [Option.getD_some]
      refine Keep.trans ?_ (enq?_keep he)
      exact Keep.same

theorem deliverD_code (c : Cfg) : (c.deliver.getD c).code = c.code := by
  cases h : c.deliver with
  | none => rfl
  | some c' => simp [deliver_code h]

theorem deliverD_keep (c : Cfg) : Keep c (c.deliver.getD c) := by
  cases h : c.deliver with
  | none => exact Keep.refl c
  | some c' => simpa using deliver_keep h

@[simp] theorem emit_code (P : Prog) (c : Cfg) (e : Ev) : (c.emit P e).code = c.code := by
  unfold Cfg.emit
  simp only
  split
  · exact deliverD_code _
  · rfl

/-- the configuration a statement ends in, whether it returned or ended the run -/
def rcfg : Except (Outcome × Cfg) Cfg → Cfg
  | .ok c => c
  | .error (_, c) => c

/-- the result of a statement that only calls helpers: the pending code may only have been cut (unwinding), the rest is kept -/
def Good (c : Cfg) (r : Except (Outcome × Cfg) Cfg) : Prop := (rcfg r).code <:+ c.code ∧ Keep c (rcfg r)

theorem Good.ok (c c' : Cfg) (h1 : c'.code <:+ c.code) (h2 : Keep c c') : Good c (.ok c') := ⟨h1, h2⟩

theorem Good.mono {c0 c : Cfg} {r} (h : Good c r) (h1 : c.code <:+ c0.code) (h2 : Keep c0 c) : Good c0 r :=
  ⟨h.1.trans h1, h2.trans h.2⟩

theorem unwind_good (k : Kind) : ∀ (code : List Instr) (c : Cfg), (rcfg (unwind k code c)).code <:+ code ∧ Keep c (rcfg (unwind k code c))
  | [], c => by
    cases k <;> exact ⟨by simp [unwind, rcfg], Keep.same⟩
  | ins :: rest, c => by
    have ih := unwind_good k rest
    have hs : ∀ {l : List Instr}, l <:+ rest → l <:+ ins :: rest := fun h => h.trans (List.suffix_cons _ _)
    have enqCase : ∀ (src : Src) (rest' : List Instr), rest' <:+ rest →
        (rcfg (match (c.newSig .exception (-20) src).2.enq? (c.newSig .exception (-20) src).1 with
          | some c' => Except.ok { c' with code := rest' }
          | none => unwind .err rest (c.newSig .exception (-20) src).2)).code <:+ ins :: rest ∧
        Keep c (rcfg (match (c.newSig .exception (-20) src).2.enq? (c.newSig .exception (-20) src).1 with
          | some c' => Except.ok { c' with code := rest' }
          | none => unwind .err rest (c.newSig .exception (-20) src).2)) := by
      intro src rest' hr
      split
      · rename_i c' he
        refine ⟨by simpa [rcfg] using hs hr, ?_⟩
        refine Keep.trans ?_ (Keep.same (c := c'))
        exact (newSig_keep c _ _ _ _ _ _).1.trans (enq?_keep he)
      · have := unwind_good .err rest (c.newSig .exception (-20) src).2
        refine ⟨hs this.1, Keep.trans ?_ this.2⟩
        exact Keep.same
    unfold unwind
    split
    · exact enqCase .loop rest (List.suffix_refl _)
    · exact ⟨hs (List.suffix_refl _), Keep.ev⟩
    · exact enqCase .sched rest (List.suffix_refl _)
    · exact enqCase .sched rest (List.suffix_refl _)
    · rename_i scr
      exact enqCase (.im scr) _ ((List.drop_suffix _ _).trans (List.dropWhile_suffix _))
    · refine ⟨hs (ih _).1, Keep.trans ?_ (ih _).2⟩
      exact Keep.same
    · have := ih c
      exact ⟨hs this.1, this.2⟩

theorem raise_good (c : Cfg) (k : Kind) : Good c (c.raise k) := by
  unfold Cfg.raise
  cases k
  · have := unwind_good .exit c.code (c.trace .exit)
    refine ⟨this.1, Keep.trans ?_ this.2⟩
    exact Keep.ev
  · exact unwind_good .err c.code c
  · exact unwind_good .sysexit c.code c

theorem enqueue_good (c : Cfg) (s : Sig) : Good c (c.enqueue s) := by
  unfold Cfg.enqueue
  cases he : c.enq? s with
  | some c' => exact ⟨by simp [rcfg, enq?_code he], enq?_keep he⟩
  | none => exact raise_good c .err

theorem redraw_good (c : Cfg) : Good c c.redraw := by
  show Good c ((c.newSig .render 0 .sched).2.enqueue (c.newSig .render 0 .sched).1)
  exact (enqueue_good _ _).mono (List.suffix_refl _) (Keep.same)

/-- with a loop left `register_signal_source` does not raise on GLib: it adds the source to the top loop's set -/
theorem regSource_eq (c : Cfg) (src : Src) (hl : c.L.loops ≠ []) :
    ∃ q, c.regSource src =
      .ok (c.setCtx q fun x => { x with srcset := if x.srcset.contains src then x.srcset else x.srcset ++ [src] }) := by
  unfold Cfg.regSource
  cases h : c.L.loops.getLast? with
  | none => exact absurd (List.getLast?_eq_none_iff.1 h) hl
  | some q => exact ⟨q, rfl⟩

theorem regSource_good (c : Cfg) (src : Src) : Good c (c.regSource src) := by
  unfold Cfg.regSource
  split
  · exact raise_good c .err
  · exact ⟨by simp [rcfg], Keep.same⟩

theorem startRequest_good (c : Cfg) (ih : Nat) (r : Src) (t : Str) : Good c (startRequest c ih r t) := by
  unfold startRequest
  simp only
  split
  · exact (raise_good _ .err).mono (List.suffix_refl _) (Keep.same)
  · split
    · exact ⟨by simp [rcfg], Keep.same⟩
    · exact ⟨by simp [rcfg], Keep.same⟩

theorem Good.bind {c : Cfg} {r : Except (Outcome × Cfg) Cfg} {f : Cfg → Except (Outcome × Cfg) Cfg}
    (h : Good c r) (hf : ∀ c1, Good c1 (f c1)) : Good c (r >>= f) := by
  cases r with
  | error e => exact h
  | ok c1 => exact (hf c1).mono h.1 h.2

end Simpleline.G
