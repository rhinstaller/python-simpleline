/-
  `Widget.draw` on grids: rows under `overlay`, grids under `drawInto`, the width of a grid, and what
  one draw does to the cells of its target. Used for C15 and, one draw after the other, for the list
  containers (C13) and the `ColumnWidget` (C15b).
-/
import Simpleline.Spec.GridSpec

namespace Simpleline

theorem getD_eq_getElem {α} (l : List α) (d : α) {i : Nat} (h : i < l.length) : l.getD i d = l[i] := by
  rw [List.getD_eq_getElem?_getD, List.getElem?_eq_getElem h, Option.getD_some]

theorem getD_eq_default {α} (l : List α) (d : α) {i : Nat} (h : l.length ≤ i) : l.getD i d = d := by
  rw [List.getD_eq_getElem?_getD, List.getElem?_eq_none h, Option.getD_none]

section rows

theorem padTo_length (n : Nat) (r : List Char) : (padTo n r).length = max r.length n := by
  rw [padTo, List.length_append, List.length_replicate, Nat.add_comm, Nat.sub_add_eq_max, Nat.max_comm]

theorem padTo_getElem? (n : Nat) (r : List Char) (c : Nat) :
    (padTo n r)[c]? = if c < r.length then r[c]? else if c < n then some ' ' else none := by
  rw [padTo, List.getElem?_append, List.getElem?_replicate]
  exact ite_congr rfl (fun _ => rfl) fun h => ite_congr
    (propext (Nat.sub_lt_sub_iff_right (Nat.le_of_not_lt h))) (fun _ => rfl) fun _ => rfl

variable (r s : List Char) (col : Nat)

theorem overlay_length :
    (overlay r s col).length = max r.length (col + s.length) := by
  have hM : col + s.length ≤ max r.length (col + s.length) := Nat.le_max_right _ _
  rw [overlay, List.length_append, List.length_append, List.length_take, List.length_drop, padTo_length,
    Nat.min_eq_left (Nat.le_trans (Nat.le_add_right _ _) hM), Nat.add_sub_cancel' hM]

theorem overlay_getElem? (c : Nat) :
    (overlay r s col)[c]? =
      if c < col then (padTo (col + s.length) r)[c]?
      else if c < col + s.length then s[c - col]?
      else (padTo (col + s.length) r)[c]? := by
  have hl : ((padTo (col + s.length) r).take col).length = col := by
    rw [List.length_take, padTo_length]
    exact Nat.min_eq_left (Nat.le_trans (Nat.le_add_right _ _) (Nat.le_max_right _ _))
  rw [overlay, List.append_assoc, List.getElem?_append, hl, List.getElem?_append]
  by_cases h1 : c < col
  · rw [if_pos h1, if_pos h1, List.getElem?_take_of_lt h1]
  · rw [if_neg h1, if_neg h1]
    by_cases h2 : c < col + s.length
    · rw [if_pos h2, if_pos (Nat.sub_lt_left_of_lt_add (Nat.le_of_not_lt h1) h2)]
    · have h2 := Nat.le_of_not_lt h2
      rw [if_neg (Nat.not_lt.2 h2), if_neg (Nat.not_lt.2 (Nat.le_sub_of_add_le' h2)), List.getElem?_drop,
        Nat.sub_sub, Nat.add_sub_cancel' h2]

theorem overlay_getElem?_inside (b : Nat) (hb : b < s.length) :
    (overlay r s col)[col + b]? = s[b]? := by
  rw [overlay_getElem?, if_neg (Nat.not_lt.2 (Nat.le_add_right col b)),
    if_pos (Nat.add_lt_add_left hb col), Nat.add_sub_cancel_left]

theorem overlay_getElem?_outside (c : Nat) (hc : c < col ∨ col + s.length ≤ c) :
    (overlay r s col)[c]? =
      if c < r.length then r[c]? else if c < col + s.length then some ' ' else none := by
  rw [overlay_getElem?, ← padTo_getElem?]
  rcases hc with hc | hc
  · rw [if_pos hc]
  · rw [if_neg (by omega), if_neg (by omega)]

end rows

theorem extendRows_length (buf : Grid) (n : Nat) : (extendRows buf n).length = max buf.length n := by
  rw [extendRows, List.length_append, List.length_replicate, Nat.add_comm, Nat.sub_add_eq_max, Nat.max_comm]

theorem extendRows_getD (buf : Grid) (n i : Nat) : (extendRows buf n).getD i [] = buf.getD i [] := by
  rw [extendRows, List.getD_eq_getElem?_getD, List.getD_eq_getElem?_getD, List.getElem?_append]
  split
  · rfl
  · rw [List.getElem?_replicate, List.getElem?_eq_none (by omega)]
    split <;> rfl

theorem cell_extendRows (buf : Grid) (n r c : Nat) : cell (extendRows buf n) r c = cell buf r c := by
  rw [cell, extendRows_getD, cell]

section draw

variable (buf src : Grid) (row col : Nat)

theorem drawInto_length :
    (drawInto buf src row col).length = max buf.length (row + src.length) := by
  rw [drawInto, List.length_mapIdx, extendRows_length]

theorem drawInto_getD (i : Nat) :
    (drawInto buf src row col).getD i [] =
      if row ≤ i ∧ i < row + src.length then overlay (buf.getD i []) (src.getD (i - row) []) col
      else buf.getD i [] := by
  rw [← extendRows_getD buf (row + src.length) i, drawInto, List.getD_eq_getElem?_getD,
    List.getD_eq_getElem?_getD, List.getElem?_mapIdx]
  cases h : (extendRows buf (row + src.length))[i]? with
  | some r => rfl
  | none =>
    -- beyond the last row there is no row of the rectangle
    have := extendRows_length buf (row + src.length) ▸ List.getElem?_eq_none_iff.1 h
    exact (if_neg (by omega)).symm

theorem drawInto_other_rows (i : Nat) (hi : i < row ∨ row + src.length ≤ i) :
    (drawInto buf src row col).getD i [] = buf.getD i [] := by
  rw [drawInto_getD, if_neg (by omega)]

theorem drawInto_row (a : Nat) (ha : a < src.length) :
    (drawInto buf src row col).getD (row + a) [] =
      overlay (buf.getD (row + a) []) (src.getD a []) col := by
  rw [drawInto_getD, if_pos ⟨Nat.le_add_right row a, Nat.add_lt_add_left ha row⟩, Nat.add_sub_cancel_left]

theorem drawInto_row_length (a : Nat) (ha : a < src.length) :
    ((drawInto buf src row col).getD (row + a) []).length =
      max (buf.getD (row + a) []).length (col + (src.getD a []).length) := by
  rw [drawInto_row buf src row col a ha, overlay_length]

theorem drawInto_inside (a b : Nat) (ha : a < src.length) (hb : b < (src.getD a []).length) :
    cell (drawInto buf src row col) (row + a) (col + b) = cell src a b := by
  rw [cell, drawInto_row buf src row col a ha, overlay_getElem?_inside _ _ _ _ hb, cell]

theorem drawInto_outside (a c : Nat) (ha : a < src.length)
    (hc : c < col ∨ col + (src.getD a []).length ≤ c) :
    cell (drawInto buf src row col) (row + a) c =
      if c < (buf.getD (row + a) []).length then cell buf (row + a) c
      else if c < col + (src.getD a []).length then some ' ' else none := by
  rw [cell, drawInto_row buf src row col a ha, overlay_getElem?_outside _ _ _ _ hc, cell]

end draw

theorem foldl_max_le_iff {α} (g : α → Nat) (l : List α) (a W : Nat) :
    l.foldl (fun acc x => max acc (g x)) a ≤ W ↔ a ≤ W ∧ ∀ x ∈ l, g x ≤ W := by
  induction l generalizing a with
  | nil => simp
  | cons x l ih =>
    rw [List.foldl_cons, ih, Nat.max_le]
    simp only [List.mem_cons, forall_eq_or_imp, and_assoc]

theorem col_gridWidth_le_iff (B : Grid) (W : Nat) : gridWidth B ≤ W ↔ ∀ r ∈ B, r.length ≤ W := by
  rw [gridWidth, foldl_max_le_iff List.length]
  simp

theorem col_mem_le_gridWidth (B : Grid) (r : List Char) (h : r ∈ B) : r.length ≤ gridWidth B :=
  (col_gridWidth_le_iff B _).1 (Nat.le_refl _) r h

theorem gridWidth_le_iff_getD (B : Grid) (W : Nat) :
    gridWidth B ≤ W ↔ ∀ x, (B.getD x []).length ≤ W := by
  rw [col_gridWidth_le_iff]
  constructor
  · intro h x
    by_cases hx : x < B.length
    · rw [getD_eq_getElem B [] hx]; exact h _ (List.getElem_mem hx)
    · rw [getD_eq_default B [] (Nat.le_of_not_lt hx)]; exact Nat.zero_le _
  · intro h r hr
    have ⟨x, hx, hxr⟩ := List.getElem_of_mem hr
    rw [← hxr, ← getD_eq_getElem B [] hx]
    exact h x

theorem row_le_gridWidth (B : Grid) (x : Nat) : (B.getD x []).length ≤ gridWidth B :=
  (gridWidth_le_iff_getD B _).1 (Nat.le_refl _) x

@[simp] theorem gridWidth_nil : gridWidth [] = 0 := rfl

def rowsWithin (W : Nat) (B : Grid) : Prop := ∀ x, (B.getD x []).length ≤ W

theorem rowsWithin_iff {W : Nat} {B : Grid} : rowsWithin W B ↔ gridWidth B ≤ W :=
  (gridWidth_le_iff_getD B W).symm

theorem rowsWithin_of_mem {W : Nat} {B : Grid} (h : ∀ row ∈ B, row.length ≤ W) : rowsWithin W B :=
  rowsWithin_iff.2 ((col_gridWidth_le_iff B W).2 h)

theorem gridWidth_drawInto_le_iff (B src : Grid) (row col W : Nat) :
    gridWidth (drawInto B src row col) ≤ W ↔ gridWidth B ≤ W ∧ ∀ r ∈ src, col + r.length ≤ W := by
  simp only [gridWidth_le_iff_getD, drawInto_getD]
  constructor
  · intro h
    refine ⟨fun x => Nat.le_trans ?_ (h x), fun r hr => ?_⟩
    · split
      · rw [overlay_length]; exact Nat.le_max_left _ _
      · exact Nat.le_refl _
    · obtain ⟨a, ha, rfl⟩ := List.getElem_of_mem hr
      have hx := h (row + a)
      rw [if_pos ⟨Nat.le_add_right row a, Nat.add_lt_add_left ha row⟩, overlay_length,
        Nat.add_sub_cancel_left, getD_eq_getElem src [] ha] at hx
      exact Nat.le_trans (Nat.le_max_right _ _) hx
  · intro ⟨hB, hs⟩ x
    split
    · rename_i hr
      have hlt : x - row < src.length := Nat.sub_lt_left_of_lt_add hr.1 hr.2
      rw [overlay_length, getD_eq_getElem src [] hlt]
      exact Nat.max_le.2 ⟨hB x, hs _ (List.getElem_mem hlt)⟩
    · exact hB x

theorem gridWidth_drawInto (B src : Grid) (row col : Nat) :
    gridWidth (drawInto B src row col) = max (gridWidth B) (if src = [] then 0 else col + gridWidth src) := by
  apply Nat.le_antisymm
  · rw [gridWidth_drawInto_le_iff]
    refine ⟨Nat.le_max_left _ _, fun r hr => ?_⟩
    rw [if_neg (List.ne_nil_of_mem hr)]
    exact Nat.le_trans (Nat.add_le_add_left (col_mem_le_gridWidth src r hr) col) (Nat.le_max_right _ _)
  · have ⟨hB, hs⟩ := (gridWidth_drawInto_le_iff B src row col _).1 (Nat.le_refl _)
    refine Nat.max_le.2 ⟨hB, ?_⟩
    split
    · exact Nat.zero_le _
    · rename_i hne
      obtain ⟨r, hr⟩ := List.exists_mem_of_ne_nil src hne
      have hcol := Nat.le_trans (Nat.le_add_right col r.length) (hs r hr)
      exact Nat.add_le_of_le_sub' hcol
        ((col_gridWidth_le_iff src _).2 fun r' hr' => Nat.le_sub_of_add_le' (hs r' hr'))

theorem cell_some_lt {g : Grid} {a b : Nat} {ch : Char} (h : cell g a b = some ch) :
    a < g.length ∧ b < (g.getD a []).length := by
  rw [cell] at h
  have hb : b < (g.getD a []).length := by
    apply Nat.lt_of_not_le
    intro hle
    rw [List.getElem?_eq_none hle] at h
    cases h
  refine ⟨Nat.lt_of_not_le fun hle => ?_, hb⟩
  rw [getD_eq_default g [] hle] at hb
  cases hb

theorem cell_some_lt_width {g : Grid} {a b : Nat} {ch : Char} (h : cell g a b = some ch) :
    b < gridWidth g :=
  Nat.lt_of_lt_of_le (cell_some_lt h).2 (row_le_gridWidth g a)

theorem cell_getElem (g : Grid) (a b : Nat) (ha : a < g.length) (hb : b < (g[a]).length) :
    cell g a b = some (g[a])[b] := by
  rw [cell, getD_eq_getElem g [] ha, List.getElem?_eq_getElem hb]

theorem draw_keep {B src : Grid} {row col x p : Nat} {ch : Char}
    (h : cell B x p = some ch) (hd : x < row ∨ p < col) :
    cell (drawInto B src row col) x p = some ch := by
  have hlt := (cell_some_lt h).2
  rw [cell] at h ⊢
  rcases hd with hx | hp
  · rw [drawInto_other_rows _ _ _ _ _ (Or.inl hx), h]
  · rw [drawInto_getD]
    split
    · rw [overlay_getElem?_outside _ _ _ _ (Or.inl hp), if_pos hlt, h]
    · exact h

theorem draw_origin {B src : Grid} {row col x y : Nat} {ch : Char}
    (h : cell (drawInto B src row col) x y = some ch) :
    cell B x y = some ch ∨ ch = ' ' ∨
      ∃ a b, x = row + a ∧ y = col + b ∧ cell src a b = some ch := by
  rcases Nat.lt_or_ge x row with h1 | h1
  · left; rwa [cell, drawInto_other_rows _ _ _ _ _ (Or.inl h1)] at h
  rcases Nat.lt_or_ge x (row + src.length) with h2 | h2
  · obtain ⟨a, rfl⟩ := Nat.exists_eq_add_of_le h1
    have ha : a < src.length := Nat.lt_of_add_lt_add_left h2
    by_cases hy : y < col ∨ col + (src.getD a []).length ≤ y
    · rw [drawInto_outside B src row col a y ha hy] at h
      split at h
      · exact Or.inl h
      · split at h
        · right; left; cases h; rfl
        · cases h
    · obtain ⟨b, rfl⟩ := Nat.exists_eq_add_of_le (Nat.le_of_not_lt fun hlt => hy (Or.inl hlt))
      have hb : b < (src.getD a []).length :=
        Nat.lt_of_add_lt_add_left (Nat.lt_of_not_le fun hle => hy (Or.inr hle))
      rw [drawInto_inside B src row col a b ha hb] at h
      exact Or.inr (Or.inr ⟨a, b, rfl, rfl, h⟩)
  · left; rwa [cell, drawInto_other_rows _ _ _ _ _ (Or.inr h2)] at h

def Shown (B src : Grid) (R C : Nat) : Prop :=
  ∀ a b ch, cell src a b = some ch → cell B (R + a) (C + b) = some ch

theorem shown_nil {B : Grid} {R C : Nat} : Shown B [] R C := by
  intro a b ch h
  cases h

theorem shown_draw {B src : Grid} {R C : Nat} : Shown (drawInto B src R C) src R C := by
  intro a b ch h
  have ⟨ha, hb⟩ := cell_some_lt h
  rw [drawInto_inside B src R C a b ha hb, h]

theorem shown_keep {B B' src : Grid} {R C : Nat} (h : Shown B src R C)
    (hk : ∀ a b ch, a < src.length → b < (src.getD a []).length →
      cell B (R + a) (C + b) = some ch → cell B' (R + a) (C + b) = some ch) :
    Shown B' src R C := by
  intro a b ch hc
  have ⟨ha, hb⟩ := cell_some_lt hc
  exact hk a b ch ha hb (h a b ch hc)

end Simpleline
