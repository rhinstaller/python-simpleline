/-
  The placement of C13 for a successful render: `WidthOK` and the row heights come from the render
  itself (C13b).
-/
import Simpleline.Lemmas.LayoutOKKinds

namespace Simpleline

theorem listHeights_rowH (cm : Bool) (columns : Nat) (grids : List Grid) (labels : List (Option NumW))
    (hlen : labels.length = grids.length) (i : Nat) (hi : i < grids.length) :
    max grids[i].length (labelBuf labels i).length ≤
      rowHeight cm columns (listHeights grids labels) (cellOf cm columns grids.length i).1 := by
  have hl : (listHeights grids labels).length = grids.length := by
    rw [listHeights, List.length_map, List.length_zip, hlen, Nat.min_self]
  have h := rowHeight_ge cm columns (listHeights grids labels) i (hl ▸ hi)
  have e : (listHeights grids labels)[i]'(hl ▸ hi) = max grids[i].length (labelBuf labels i).length := by
    simp only [listHeights, List.getElem_map, List.getElem_zip, labelBuf,
      getD_eq_getElem labels none (hlen ▸ hi)]
    cases labels[i] <;> rfl
  rwa [e, hl] at h

theorem render_placed {cc : CharClass} {st : WSt} {cm : Bool} {columns : Nat} {cw : Option Int}
    {spacing : Nat} {kp : Option KeyPat} {u : Option Int} {nw : List NumW} {items : List Wd} {w : Int}
    {r : Wd} {items' : List Wd} {labels : List (Option NumW)}
    (h : (Wd.list st cm columns cw spacing kp u nw items).render cc w = .ok r)
    (sh : ListShape cc cm columns cw spacing kp items w r items' labels)
    (hfit : ∀ i, (hi : i < items.length) →
      RespectsWidth cc items[i] (usedWidth cw columns spacing w - kpLabelLen kp i))
    (i : Nat) (hi : i < items.length) :
    Placed r.lines labels (items'.map Wd.lines) i
      (rowTop (rowHeight cm columns (listHeights (items'.map Wd.lines) labels))
        (cellOf cm columns items.length i).1)
      (colLeft (usedWidth cw columns spacing w) spacing (cellOf cm columns items.length i).2) := by
  have hne : items ≠ [] := List.length_pos_iff.1 (Nat.zero_lt_of_lt hi)
  obtain ⟨hc, _, _⟩ := list_ok_room hne h
  have wo := widthOK_of_render (fun e => absurd e hne) h sh hfit
  have hlen := shape_grids_length sh
  have P := container_placed wo spacing _ cm columns hc (listHeights_rowH cm columns _ labels wo.len) i
    (hlen ▸ hi)
  rw [sh.lines, sh.len_items]
  rwa [hlen] at P

theorem text_items_respect (cc : CharClass) (items : List Wd)
    (htext : ∀ it ∈ items, it.isText = true) (i : Nat) (hi : i < items.length) (w : Int) :
    RespectsWidth cc items[i] w := by
  have := htext _ (List.getElem_mem hi)
  cases hit : items[i] with
  | text s t => exact respects_text cc s t w
  | _ => rw [hit] at this; cases this

end Simpleline
