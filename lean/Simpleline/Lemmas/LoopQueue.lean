/-
  Pure lemmas about `insertEntry` / `EQueue.put` (the `EventQueue` data structure).
-/
import Simpleline.Spec.LoopSpec
import Simpleline.Lemmas.Store

namespace Simpleline

theorem entryLt_trans {a b c : QEntry} (h1 : entryLt a b) (h2 : entryLt b c) : entryLt a c := by
  unfold entryLt at *; omega

theorem entryLt_prio_le {a b : QEntry} (h : entryLt a b) : a.1 ≤ b.1 := by
  unfold entryLt at *; omega

theorem entryLt_irrefl (a : QEntry) : ¬ entryLt a a := by
  unfold entryLt; omega

theorem entryLt_of_not {a b : QEntry} (h : ¬ entryLt a b) (hne : a.2.1 ≠ b.2.1) : entryLt b a := by
  unfold entryLt at *; omega

theorem insertEntry_perm (e : QEntry) (l : List QEntry) : (insertEntry e l).Perm (e :: l) := by
  induction l with
  | nil => exact .rfl
  | cons x xs ih =>
    unfold insertEntry; split
    · exact .rfl
    · exact (ih.cons x).trans (List.Perm.swap _ _ _)

theorem mem_insertEntry {e y : QEntry} {l : List QEntry} : y ∈ insertEntry e l ↔ y = e ∨ y ∈ l :=
  (insertEntry_perm e l).mem_iff.trans List.mem_cons

theorem insertEntry_length (e : QEntry) (l : List QEntry) : (insertEntry e l).length = l.length + 1 :=
  (insertEntry_perm e l).length_eq

theorem insertEntry_sublist (e : QEntry) (l : List QEntry) : l.Sublist (insertEntry e l) := by
  induction l with
  | nil => simp
  | cons x xs ih =>
    unfold insertEntry
    split
    · exact List.Sublist.cons _ (List.Sublist.refl _)
    · exact ih.cons_cons _

theorem insertEntry_pairwise {e : QEntry} {l : List QEntry} (hl : l.Pairwise entryLt)
    (hne : ∀ x ∈ l, x.2.1 ≠ e.2.1) : (insertEntry e l).Pairwise entryLt := by
  induction l with
  | nil => simp [insertEntry]
  | cons x xs ih =>
    rw [List.pairwise_cons] at hl
    unfold insertEntry
    split
    · rename_i hc
      have hex : entryLt e x := hc
      refine List.pairwise_cons.2 ⟨?_, List.pairwise_cons.2 hl⟩
      intro y hy
      rcases List.mem_cons.1 hy with rfl | hy
      · exact hex
      · exact entryLt_trans hex (hl.1 y hy)
    · rename_i hc
      have hxe : entryLt x e := entryLt_of_not hc (fun h => hne x (by simp) h.symm)
      refine List.pairwise_cons.2 ⟨?_, ih hl.2 (fun y hy => hne y (by simp [hy]))⟩
      intro y hy
      rcases mem_insertEntry.1 hy with rfl | hy
      · exact hxe
      · exact hl.1 y hy

theorem insertEntry_eq_filter {e : QEntry} {l : List QEntry} (hl : l.Pairwise entryLt)
    (hlt : ∀ x ∈ l, x.2.1 < e.2.1) :
    insertEntry e l = l.filter (fun x => x.1 ≤ e.1) ++ [e] ++ l.filter (fun x => e.1 < x.1) := by
  induction l with
  | nil => simp [insertEntry]
  | cons x xs ih =>
    rw [List.pairwise_cons] at hl
    have hx := hlt x (by simp)
    unfold insertEntry
    split
    · rename_i hc
      -- `x` is less urgent than `e`, and so is everything behind it
      have hall : ∀ y ∈ x :: xs, e.1 < y.1 := by
        intro y hy
        rcases List.mem_cons.1 hy with rfl | hy
        · omega
        · have := entryLt_prio_le (hl.1 y hy); omega
      rw [List.filter_eq_nil_iff.2 fun y hy => by simpa using hall y hy,
        List.filter_eq_self.2 fun y hy => by simpa using hall y hy]
      rfl
    · rename_i hc
      have hxe : x.1 ≤ e.1 := by omega
      rw [ih hl.2 (fun y hy => hlt y (by simp [hy])), List.filter_cons_of_pos (by simpa using hxe),
        List.filter_cons_of_neg (by simpa using hxe)]
      rfl

@[simp] theorem put_seq (q : EQueue) (s : Sig) : (q.put s).seq = q.seq + 1 := rfl
@[simp] theorem put_sources (q : EQueue) (s : Sig) : (q.put s).sources = q.sources := rfl
theorem put_entries (q : EQueue) (s : Sig) :
    (q.put s).entries = insertEntry (s.prio, q.seq, s) q.entries := rfl

theorem put_sorted {q : EQueue} (s : Sig) (h : q.Sorted) : (q.put s).Sorted := by
  refine ⟨insertEntry_pairwise h.ordered fun x hx => Nat.ne_of_lt (h.fresh x hx), fun e he => ?_, fun e he => ?_⟩
  · rcases mem_insertEntry.1 he with rfl | he
    · exact Nat.lt_succ_self q.seq
    · exact Nat.lt_succ_of_lt (h.fresh e he)
  · rcases mem_insertEntry.1 he with rfl | he
    · rfl
    · exact h.prio e he

theorem put_place {q : EQueue} (s : Sig) (h : q.Sorted) :
    (q.put s).entries =
      q.entries.filter (fun x => x.1 ≤ s.prio) ++ [(s.prio, q.seq, s)] ++ q.entries.filter (fun x => s.prio < x.1) :=
  insertEntry_eq_filter (e := (s.prio, q.seq, s)) h.ordered (fun x hx => h.fresh x hx)

theorem sorted_head_min {q : EQueue} (h : q.Sorted) {e : QEntry} {es : List QEntry}
    (he : q.entries = e :: es) : ∀ e' ∈ es, entryLt e e' :=
  (List.pairwise_cons.1 (he ▸ h.ordered)).1

theorem sorted_tail {q : EQueue} (h : q.Sorted) {e : QEntry} {es : List QEntry}
    (he : q.entries = e :: es) : ({ q with entries := es } : EQueue).Sorted :=
  have hm : ∀ x ∈ es, x ∈ q.entries := fun _ hx => he ▸ List.mem_cons_of_mem e hx
  ⟨(List.pairwise_cons.1 (he ▸ h.ordered)).2, fun x hx => h.fresh x (hm x hx), fun x hx => h.prio x (hm x hx)⟩

theorem sorted_empty : ({} : EQueue).Sorted := ⟨List.Pairwise.nil, by simp, by simp⟩

theorem addSource_sorted {q : EQueue} (s : Src) (h : q.Sorted) : (addSource q s).Sorted := by
  unfold addSource; split
  · exact h
  · exact ⟨h.ordered, h.fresh, h.prio⟩

@[simp] theorem addSource_entries (q : EQueue) (s : Src) : (addSource q s).entries = q.entries := by
  unfold addSource; split <;> rfl

@[simp] theorem addSource_seq (q : EQueue) (s : Src) : (addSource q s).seq = q.seq := by
  unfold addSource; split <;> rfl

theorem addSource_sources_sub (q : EQueue) (s : Src) : ∀ x ∈ q.sources, x ∈ (addSource q s).sources := by
  unfold addSource; split
  · exact fun _ h => h
  · intro x hx; simp [hx]

theorem sigs_put {q : EQueue} (s : Sig) (h : q.Sorted) : (q.put s).sigs = stableInsert s q.sigs := by
  unfold EQueue.sigs stableInsert
  rw [put_place s h]
  simp only [List.map_append, List.map_cons, List.filter_map, List.append_assoc,
    List.singleton_append]
  congr 1
  · congr 1
    apply List.filter_congr
    intro x hx
    simp [h.prio x hx]
  · congr 2
    apply List.filter_congr
    intro x hx
    simp [h.prio x hx]

attribute [simp] listSet_length

end Simpleline
