/-
  What a successful render of a list container says about the rendered labels and items: `WidthOK` for
  every key pattern, one-row labels for a plain one (C13b).
-/
import Simpleline.Lemmas.LayoutOKLabel
import Simpleline.Lemmas.ContainersDraw
import Simpleline.Lemmas.ContainersRender

namespace Simpleline

variable {cc : CharClass} {st : WSt} {cm : Bool} {columns : Nat} {cw : Option Int} {spacing : Nat}
  {kp : Option KeyPat} {u : Option Int} {nw : List NumW} {items : List Wd} {w : Int} {r : Wd}
  {items' : List Wd} {labels : List (Option NumW)}

/-- Every width fact of `LayoutOK` follows from the success of the render as soon as the rendered
items respect the widths they were given. (The empty container renders without looking at its
width, whence `h0`.) -/
theorem widthOK_of_render (h0 : items = [] → 0 < usedWidth cw columns spacing w)
    (h : (Wd.list st cm columns cw spacing kp u nw items).render cc w = .ok r)
    (sh : ListShape cc cm columns cw spacing kp items w r items' labels)
    (hfit : ∀ i, (hi : i < items.length) →
      RespectsWidth cc items[i] (usedWidth cw columns spacing w - kpLabelLen kp i)) :
    WidthOK (usedWidth cw columns spacing w) labels (items'.map Wd.lines) := by
  have hlen := shape_grids_length sh
  have hroom : ∀ i, i < items.length → (labelLen labels i : Int) < usedWidth cw columns spacing w := by
    intro i hi
    obtain ⟨_, hu, hroom⟩ := list_ok_room (List.length_pos_iff.1 (Nat.zero_lt_of_lt hi)) h
    rw [shape_labelLen sh i hi]
    cases kp with
    | none => exact hu
    | some k => have := hroom k rfl i hi; simp only [kpLabelLen]; omega
  have hu : 0 < usedWidth cw columns spacing w := by
    by_cases hne : items = []
    · exact h0 hne
    · exact (list_ok_room hne h).2.1
  refine ⟨hu, by rw [hlen, sh.len_labels], ?_, ?_, fun i hi => Or.inl (hroom i (hlen ▸ hi))⟩
  · intro i hi row hrow
    rw [hlen] at hi
    rw [List.getElem_map] at hrow
    have hf := hfit i hi
    rw [← shape_labelLen sh i hi] at hf
    have h1 := hf _ (sh.item_render i hi (sh.len_items ▸ hi)) row hrow
    have h2 := hroom i hi
    omega
  · intro i hi row hrow
    rw [hlen] at hi
    cases kp with
    | none => rw [shape_labelBuf_none sh i hi] at hrow; cases hrow
    | some k =>
      obtain ⟨s, hs, hb, hl⟩ := shape_labelBuf_some sh i hi
      rw [hb] at hrow
      rw [hl]
      exact render_width_int cc {} (k.label i) _ s hs row hrow

theorem shape_label_rows (sh : ListShape cc cm columns cw spacing kp items w r items' labels) (hkp : kpPlain kp)
    (i : Nat) (hi : i < items.length) : (labelBuf labels i).length ≤ 1 := by
  cases kp with
  | none => rw [shape_labelBuf_none sh i hi]; exact Nat.zero_le _
  | some k =>
    obtain ⟨s, hs, hb, _⟩ := shape_labelBuf_some sh i hi
    rw [hb]
    exact label_render_one_row cc k hkp i s hs

end Simpleline
