/-
  The arithmetic of a list container's layout (C13): cells, the ordered map, row heights, bands.
-/
import Simpleline.Spec.WidgetSpec
import Simpleline.Lemmas.Grid

namespace Simpleline

theorem cellOf_false (columns n i : Nat) : cellOf false columns n i = (i / columns, i % columns) := rfl

theorem cellOf_true (columns n i : Nat) :
    cellOf true columns n i = (i % ((n + columns - 1) / columns), i / ((n + columns - 1) / columns)) := rfl

variable (cm : Bool) (columns n : Nat)

/-- items per column in column-major order: positive and enough for all the items -/
theorem perCol_spec (hc : 1 ≤ columns) (hn : 0 < n) :
    0 < (n + columns - 1) / columns ∧ n ≤ (n + columns - 1) / columns * columns := by
  have h := Nat.lt_mul_div_succ (n + columns - 1) hc
  rw [Nat.mul_succ, Nat.mul_comm] at h
  exact ⟨Nat.div_pos (by omega) hc, by omega⟩

theorem divmod_inj (k i j : Nat) (h1 : i / k = j / k) (h2 : i % k = j % k) : i = j := by
  rw [← Nat.div_add_mod i k, ← Nat.div_add_mod j k, h1, h2]

theorem cellOf_col_lt (hc : 1 ≤ columns) (i : Nat) (hi : i < n) :
    (cellOf cm columns n i).2 < columns := by
  cases cm with
  | false => exact Nat.mod_lt _ hc
  | true =>
    have ⟨hp, hle⟩ := perCol_spec columns n hc (Nat.zero_lt_of_lt hi)
    exact (Nat.div_lt_iff_lt_mul hp).2 (Nat.mul_comm .. ▸ Nat.lt_of_lt_of_le hi hle)

theorem cellOf_inj (i j : Nat)
    (h : cellOf cm columns n i = cellOf cm columns n j) : i = j := by
  cases cm with
  | false => exact divmod_inj _ _ _ (congrArg Prod.fst h) (congrArg Prod.snd h)
  | true => exact divmod_inj _ _ _ (congrArg Prod.snd h) (congrArg Prod.fst h)

theorem divmod_pred (k i : Nat) (h : 0 < i % k) : (i - 1) / k = i / k ∧ (i - 1) % k = i % k - 1 := by
  cases k with
  | zero => exact ⟨by rw [Nat.div_zero, Nat.div_zero], by rw [Nat.mod_zero, Nat.mod_zero]⟩
  | succ k =>
    have hlt : i % (k + 1) - 1 < k + 1 := Nat.lt_of_le_of_lt (Nat.sub_le _ _) (Nat.mod_lt i (Nat.succ_pos k))
    have e : i - 1 = (k + 1) * (i / (k + 1)) + (i % (k + 1) - 1) := by
      rw [← Nat.add_sub_assoc h, Nat.div_add_mod]
    rw [e, Nat.mul_add_div (Nat.succ_pos k), Nat.mul_add_mod, Nat.div_eq_of_lt hlt, Nat.mod_eq_of_lt hlt]
    exact ⟨rfl, rfl⟩

theorem cellOf_pred (i : Nat) (hr : 0 < (cellOf cm columns n i).1) :
    ∃ j, j < i ∧ cellOf cm columns n j = ((cellOf cm columns n i).1 - 1, (cellOf cm columns n i).2) := by
  cases cm with
  | false =>
    -- row-major: one row up is `columns` items back
    have ⟨hk, hle⟩ := Nat.div_pos_iff.1 hr
    refine ⟨i - columns, Nat.sub_lt (Nat.lt_of_lt_of_le hk hle) hk, ?_⟩
    rw [cellOf_false, cellOf_false, Nat.div_eq_sub_div hk hle, Nat.mod_eq_sub_mod hle]
    rfl
  | true =>
    -- column-major: one row up is the item before
    have ⟨h1, h2⟩ := divmod_pred _ i hr
    exact ⟨i - 1, Nat.sub_lt (Nat.lt_of_lt_of_le hr (Nat.mod_le i _)) Nat.one_pos,
      by rw [cellOf_true, cellOf_true, h1, h2]⟩

theorem filter_lt_succ_perm (f : Nat → Nat) (k : Nat) (l : List Nat) :
    ((l.filter fun i => f i < k) ++ (l.filter fun i => f i = k)).Perm (l.filter fun i => f i < k + 1) := by
  induction l with
  | nil => exact List.Perm.refl _
  | cons a l ih =>
    rcases Nat.lt_trichotomy (f a) k with h | h | h
    · have h1 : f a ≠ k := Nat.ne_of_lt h
      have h2 : f a < k + 1 := Nat.lt_succ_of_lt h
      simpa [List.filter_cons, h, h1, h2] using ih
    · subst h
      simp only [List.filter_cons, Nat.lt_irrefl, Nat.lt_succ_self, decide_true, decide_false, if_true,
        Bool.false_eq_true, if_false]
      exact List.perm_middle.trans (ih.cons a)
    · have h1 : ¬ f a < k := Nat.lt_asymm h
      have h2 : f a ≠ k := Nat.ne_of_gt h
      have h3 : ¬ f a < k + 1 := Nat.not_lt.2 h
      simpa [List.filter_cons, h1, h2, h3] using ih

theorem flatten_filter_perm (f : Nat → Nat) (l : List Nat) (k : Nat) :
    (((List.range k).map fun c => l.filter fun i => f i = c).flatten).Perm (l.filter fun i => f i < k) := by
  induction k with
  | zero => exact (List.filter_eq_nil_iff.2 fun i _ h => Nat.not_lt_zero _ (of_decide_eq_true h)) ▸ List.Perm.refl _
  | succ k ih =>
    rw [List.range_succ, List.map_append, List.flatten_append, List.map_singleton, List.flatten_singleton]
    exact (ih.append_right _).trans (filter_lt_succ_perm f k l)

/-- In a list `range n` filtered by column, the `r`-th entry is the item of layout row `r`, as soon
as cells are distinct and every cell below the first row has an earlier item right above it. -/
theorem filter_rank (f : Nat → Nat × Nat) (N : Nat)
    (hinj : ∀ i j, i < N → j < N → f i = f j → i = j)
    (hpred : ∀ i, i < N → 0 < (f i).1 → ∃ j, j < i ∧ f j = ((f i).1 - 1, (f i).2)) (c : Nat) :
    ∀ n, n ≤ N →
      (∀ r, (hr : r < ((List.range n).filter fun i => (f i).2 = c).length) →
        f (((List.range n).filter fun i => (f i).2 = c)[r]) = (r, c)) ∧
      (∀ i, i < n → (f i).2 = c → (f i).1 < ((List.range n).filter fun i => (f i).2 = c).length) := by
  intro n
  induction n with
  | zero => intro _; exact ⟨fun r hr => absurd hr (Nat.not_lt_zero _), fun i hi => absurd hi (Nat.not_lt_zero _)⟩
  | succ n ih =>
    intro hn
    have ⟨ih1, ih2⟩ := ih (Nat.le_of_succ_le hn)
    by_cases hcn : (f n).2 = c
    · -- the new item goes to the end of the column, and its row id is the column's length
      have hfil : ((List.range (n + 1)).filter fun i => (f i).2 = c) =
          ((List.range n).filter fun i => (f i).2 = c) ++ [n] := by
        rw [List.range_succ, List.filter_append, List.filter_cons, if_pos (decide_eq_true hcn), List.filter_nil]
      have hrow : (f n).1 = ((List.range n).filter fun i => (f i).2 = c).length := by
        apply Nat.le_antisymm <;> apply Nat.le_of_not_lt <;> intro hlt
        · -- the item right above is already in the column, so the column is longer than its row id
          have ⟨j, hj, hfj⟩ := hpred n hn (Nat.zero_lt_of_lt hlt)
          have := ih2 j hj (by rw [hfj]; exact hcn)
          rw [hfj] at this
          omega
        · -- the column has an entry with this cell already: an earlier item
          have hmem := List.mem_range.1 (List.mem_filter.1 (List.getElem_mem hlt)).1
          have := hinj _ n (Nat.lt_trans hmem hn) hn (by rw [ih1 _ hlt, ← hcn])
          rw [this] at hmem
          exact Nat.lt_irrefl n hmem
      refine ⟨fun r hr => ?_, fun i hi hci => ?_⟩
      · rw [List.getElem_of_eq hfil]
        have hr' : r < ((List.range n).filter fun i => (f i).2 = c).length + 1 := by
          have h := hr
          rwa [hfil, List.length_append] at h
        by_cases hlt : r < ((List.range n).filter fun i => (f i).2 = c).length
        · rw [List.getElem_append_left hlt]
          exact ih1 r hlt
        · obtain rfl : r = ((List.range n).filter fun i => (f i).2 = c).length :=
            Nat.le_antisymm (Nat.le_of_lt_succ hr') (Nat.le_of_not_lt hlt)
          rw [List.getElem_concat_length rfl]
          exact Prod.ext hrow hcn
      · rw [hfil, List.length_append]
        rcases Nat.lt_succ_iff_lt_or_eq.1 hi with hi | rfl
        · exact Nat.lt_succ_of_lt (ih2 i hi hci)
        · exact hrow ▸ Nat.lt_succ_self _
    · have hfil : ((List.range (n + 1)).filter fun i => (f i).2 = c) =
          ((List.range n).filter fun i => (f i).2 = c) := by
        rw [List.range_succ, List.filter_append, List.filter_cons,
          if_neg (fun h => hcn (of_decide_eq_true h)), List.filter_nil, List.append_nil]
      rw [hfil]
      refine ⟨ih1, fun i hi hci => ?_⟩
      rcases Nat.lt_succ_iff_lt_or_eq.1 hi with hi | rfl
      · exact ih2 i hi hci
      · exact absurd hci hcn

theorem orderedMap_length : (orderedMap cm columns n).length = columns := by
  rw [orderedMap, List.length_map, List.length_range]

theorem orderedMap_getElem (c : Nat) (hc : c < (orderedMap cm columns n).length) :
    (orderedMap cm columns n)[c] = (List.range n).filter fun i => (cellOf cm columns n i).2 = c := by
  simp only [orderedMap, List.getElem_map, List.getElem_range]

theorem orderedMap_mem_lt (c : Nat) (hc : c < (orderedMap cm columns n).length)
    (i : Nat) (hi : i ∈ (orderedMap cm columns n)[c]) : i < n := by
  rw [orderedMap_getElem, List.mem_filter, List.mem_range] at hi
  exact hi.1

theorem orderedMap_ids_lt : ∀ ids ∈ orderedMap cm columns n, ∀ i ∈ ids, i < n := by
  intro ids hids i hi
  have ⟨c, hc, hcc⟩ := List.getElem_of_mem hids
  exact orderedMap_mem_lt cm columns n c hc i (hcc ▸ hi)

theorem orderedMap_flatten_perm (hc : 1 ≤ columns) :
    (orderedMap cm columns n).flatten.Perm (List.range n) := by
  have h := flatten_filter_perm (fun i => (cellOf cm columns n i).2) (List.range n) columns
  have hall : ((List.range n).filter fun i => (cellOf cm columns n i).2 < columns) = List.range n := by
    rw [List.filter_eq_self]
    intro i hi
    rw [List.mem_range] at hi
    exact decide_eq_true (cellOf_col_lt cm columns n hc i hi)
  rw [hall] at h
  exact h

theorem orderedMap_cell (c : Nat)
    (hcl : c < (orderedMap cm columns n).length) (r : Nat) (hr : r < ((orderedMap cm columns n)[c]).length) :
    cellOf cm columns n (((orderedMap cm columns n)[c])[r]) = (r, c) := by
  have h := (filter_rank (cellOf cm columns n) n
    (fun i j _ _ h => cellOf_inj cm columns n i j h)
    (fun i _ h0 => cellOf_pred cm columns n i h0) c n (Nat.le_refl _)).1
  have e := orderedMap_getElem cm columns n c hcl
  simp only [e] at hr ⊢
  exact h r hr

theorem orderedMap_find (hc : 1 ≤ columns) (i : Nat) (hi : i < n) :
    ∃ (hcl : (cellOf cm columns n i).2 < (orderedMap cm columns n).length)
      (hr : (cellOf cm columns n i).1 < ((orderedMap cm columns n)[(cellOf cm columns n i).2]).length),
      ((orderedMap cm columns n)[(cellOf cm columns n i).2])[(cellOf cm columns n i).1] = i := by
  have hcl : (cellOf cm columns n i).2 < (orderedMap cm columns n).length := by
    rw [orderedMap_length]; exact cellOf_col_lt cm columns n hc i hi
  have hmem : i ∈ (orderedMap cm columns n)[(cellOf cm columns n i).2] := by
    rw [orderedMap_getElem, List.mem_filter, List.mem_range]
    exact ⟨hi, decide_eq_true rfl⟩
  have ⟨r, hr, hri⟩ := List.getElem_of_mem hmem
  have hcell := orderedMap_cell cm columns n _ hcl r hr
  rw [hri] at hcell
  obtain rfl : (cellOf cm columns n i).1 = r := congrArg Prod.fst hcell
  exact ⟨hcl, hr, hri⟩

theorem rowHeight_ge (heights : List Nat) (i : Nat) (hi : i < heights.length) :
    heights[i] ≤ rowHeight cm columns heights (cellOf cm columns heights.length i).1 := by
  have h := ((foldl_max_le_iff (fun i => heights.getD i 0) _ 0 _).1
    (Nat.le_refl (rowHeight cm columns heights (cellOf cm columns heights.length i).1))).2 i
    (List.mem_filter.2 ⟨List.mem_range.2 hi, decide_eq_true rfl⟩)
  rwa [getD_eq_getElem heights 0 hi] at h

theorem rowTop_succ (rowH : Nat → Nat) (r : Nat) : rowTop rowH (r + 1) = rowTop rowH r + rowH r := rfl

theorem rowTop_mono (rowH : Nat → Nat) (r r' : Nat) (h : r < r') :
    rowTop rowH r + rowH r ≤ rowTop rowH r' := by
  induction r' with
  | zero => cases h
  | succ r' ih =>
    rcases Nat.lt_succ_iff_lt_or_eq.1 h with h | rfl
    · exact Nat.le_trans (ih h) (Nat.le_add_right _ _)
    · exact Nat.le_refl _

theorem colLeft_zero (used : Int) (spacing : Nat) : colLeft used spacing 0 = 0 :=
  Nat.zero_mul _

theorem colLeft_succ (used : Int) (spacing c : Nat) :
    colLeft used spacing (c + 1) = colLeft used spacing c + used.toNat + spacing := by
  rw [colLeft, colLeft, Nat.succ_mul, Nat.add_assoc]

theorem colLeft_mono (used : Int) (spacing c c' : Nat) (h : c < c') :
    colLeft used spacing c + used.toNat + spacing ≤ colLeft used spacing c' := by
  rw [← colLeft_succ]
  exact Nat.mul_le_mul_right _ h

theorem usedWidth_fits (spacing : Nat) (hc : 1 ≤ columns) (w : Int) (c : Nat) (hcc : c < columns)
    (hu : 0 < usedWidth none columns spacing w) :
    ((colLeft (usedWidth none columns spacing w) spacing c : Nat) : Int) + usedWidth none columns spacing w ≤ w := by
  -- `X` is what is left of `w` without the spacings, `U = X / columns` the columns width
  simp only [usedWidth] at hu ⊢
  generalize hX : w - ((columns : Int) - 1) * spacing = X at hu ⊢
  have hXnn : 0 ≤ X := by
    apply Int.le_of_not_gt
    intro hneg
    have h1 : 0 ≤ (-X).tdiv columns :=
      Int.tdiv_nonneg (Int.le_of_lt (Int.neg_pos.2 hneg)) (Int.natCast_nonneg _)
    rw [Int.neg_tdiv] at h1
    omega
  have hmul := Int.mul_tdiv_self_le (k := (columns : Int)) hXnn
  generalize X.tdiv columns = U at hu hmul
  -- band `c` starts no further right than the last band
  have hle : ((colLeft U spacing c : Nat) : Int) ≤ (((columns - 1) * (U.toNat + spacing) : Nat) : Int) :=
    Int.ofNat_le.2 (Nat.mul_le_mul_right _ (Nat.le_pred_of_lt hcc))
  rw [Int.natCast_mul, Int.natCast_add, Int.toNat_of_nonneg (Int.le_of_lt hu), Int.natCast_sub hc,
    Int.sub_mul, Int.mul_add] at hle
  rw [Int.sub_mul] at hX
  omega

end Simpleline
