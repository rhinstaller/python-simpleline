/-
  `markersA` (the `_mainloop` activations on the call stack) under the abstract transitions, and the
  classification `LStep` of the transitions by what they do to activations and loop levels: all but a
  handful leave both alone.  At the end `AtOnce`: the instructions that run as soon as they are pushed and that `Chained`
  does not keep out of the tail (handler calls, callback invocations, the hand-over steps of the input pipeline) stand
  only at the head of the code - read off the written-out batches of `Batch`.
-/
import Simpleline.Lemmas.ShapeExc

namespace Simpleline

/-- the activation an instruction stands for: `mainCheck q`, or the pending `apprun` (level 0) -/
def Instr.markerA? : Instr → Option Nat
  | .mainCheck q => some q
  | .apprun => some 0
  | _ => none

def Tr.isLevelEv : Tr → Bool
  | .openLevel .. | .closeLevel _ | .loopReturn _ | .forceQuit | .exit | .kill => true
  | _ => false

inductive LStep (v : SV) (evs : List Tr) (v' : SV) : Prop
  | over : overCode v'.code = true → v'.nq = v.nq → LStep v evs v'
  | keep : markersA v'.code = markersA v.code → headIsRestore v'.code = headIsRestore v.code →
      v'.levels = v.levels → v'.runLoop = v.runLoop → v'.forceQuit = v.forceQuit → v'.active = v.active →
      v'.nq = v.nq → (∀ t ∈ evs, t.isLevelEv = false) → LStep v evs v'
  | mainExit {q : Nat} {rest : List Instr} : v.code = .mainCheck q :: rest → v.runLoop = false →
      evs = [.loopReturn q] → v' = { v with code := .restoreRun :: rest, ev := .loopReturn q :: v.ev } → LStep v evs v'
  | restoreFQ {rest : List Instr} : v.code = .restoreRun :: rest → v.forceQuit = true → evs = [] →
      v' = { v with code := rest } → LStep v evs v'
  | restore {rest : List Instr} : v.code = .restoreRun :: rest → v.forceQuit = false → evs = [] →
      v' = { v with code := rest, runLoop := true } → LStep v evs v'
  | apprun : v.code = [.apprun] → evs = [] →
      v' = { v with code := [.mainCheck 0, .catchExit, .quitCb], forceQuit := false, runLoop := true } → LStep v evs v'
  | «open» {s : Sig} {rest : List Instr} {b : Bool} : v.code = .newLoop s :: rest → v.forceQuit = false →
      evs = [.openLevel v.nq v.runLoop] →
      v' = SV.noteExc { v with code := .mainCheck v.nq :: rest, levels := v.levels ++ [v.nq], active := v.nq,
                               nq := v.nq + 1, ev := .openLevel v.nq v.runLoop :: v.ev } b → LStep v evs v'
  | pop {q a : Nat} {rest : List Instr} : v.code = .popLevel :: rest → v.levels.getLast? = some q →
      v.levels.dropLast.getLast? = some a → evs = [.closeLevel q] →
      v' = { v with code := rest, levels := v.levels.dropLast, active := a, runLoop := false,
                    ev := .closeLevel q :: v.ev } → LStep v evs v'
  | forceQuit {rest : List Instr} : v.code = .act .forceQuit :: rest → evs = [.forceQuit] →
      v' = { v with code := rest, forceQuit := true, levels := [], runLoop := false, ev := .forceQuit :: v.ev } →
      LStep v evs v'

def Instr.atOnce : Instr → Bool
  | .callH .. | .callScr .. | .inputReady .. | .inputReceived _ | .processInput .. => true
  | _ => false

def AtOnce (v : SV) : Prop := ∀ i ∈ v.code.tail, i.atOnce = false

namespace Shape

theorem markersA_eq_filterMap (l : List Instr) : markersA l = l.filterMap Instr.markerA? := by
  induction l with
  | nil => rfl
  | cons a l ih => cases a <;> first | exact ih | exact congrArg _ ih

theorem markersA_cons_of_not {i : Instr} (l : List Instr) (h : i.markerA? = none) :
    markersA (i :: l) = markersA l := by
  simp only [markersA_eq_filterMap, List.filterMap_cons, h]

theorem markersA_append (l r : List Instr) : markersA (l ++ r) = markersA l ++ markersA r := by
  simp only [markersA_eq_filterMap, List.filterMap_append]

theorem markersA_sublist {l1 l2 : List Instr} (h : l1.Sublist l2) : (markersA l1).Sublist (markersA l2) := by
  simpa only [markersA_eq_filterMap] using h.filterMap _

theorem markerA?_nonLC {i : Instr} (h : i.isLC = false ∨ i = .catchHandler) : i.markerA? = none := by
  rcases h with h | rfl
  · cases i <;> first | rfl | contradiction
  · rfl

theorem markersA_nil_of_nonLC {l : List Instr} (h : ∀ i ∈ l, i.isLC = false ∨ i = .catchHandler) : markersA l = [] := by
  rw [markersA_eq_filterMap, List.filterMap_eq_nil_iff]
  exact fun i hi => markerA?_nonLC (h i hi)

theorem mem_markersA_append_mainCheck (X : List Instr) (q : Nat) (K : List Instr) :
    q ∈ markersA (X ++ .mainCheck q :: K) := by
  rw [markersA_append]
  exact List.mem_append_right _ (List.mem_cons_self ..)

theorem markersA_init (init : List Act) : markersA (init.map Instr.act ++ [.apprun]) = [0] := by
  rw [markersA_append, markersA_nil_of_nonLC]
  · rfl
  · intro i hi
    obtain ⟨a, _, rfl⟩ := List.mem_map.1 hi
    exact .inl rfl

theorem unwindTo_sublist (k : Kind) (l : List Instr) : ((unwindTo k l).getD []).Sublist l := by
  induction l with
  | nil => exact .slnil
  | cons a l ih =>
    rw [unwindTo_cons]
    split
    · exact (resumeAt_sublist a l).cons _
    · exact ih.cons _

theorem markers_le_markersA (l : List Instr) : (markers l).Sublist (markersA l) := by
  induction l with
  | nil => exact .slnil
  | cons a l ih =>
    cases a <;> first | exact ih | exact ih.cons_cons _ | exact ih.cons _

theorem markers_eq_markersA {l : List Instr} (h : ∀ i ∈ l, i ≠ Instr.apprun) : markers l = markersA l := by
  induction l with
  | nil => rfl
  | cons a l ih =>
    have ih' := ih fun i hi => h i (List.mem_cons_of_mem _ hi)
    cases a <;> first | exact ih' | exact absurd rfl (h _ (List.mem_cons_self ..)) | exact congrArg _ ih'

theorem headIsRestore_of_chained {h : Instr} {rest : List Instr} (hc : Chained (h :: rest)) :
    headIsRestore rest = false := by
  cases rest with
  | nil => rfl
  | cons x rest =>
    cases x <;> first | rfl | skip
    have hx : h.fclass.allows .restoreRun = true := hc.1
    cases hcl : h.fclass <;> rw [hcl] at hx <;> contradiction

theorem headIsRestore_of_chained_append {l post : List Instr} (hc : Chained (l ++ post)) (hl : l ≠ []) :
    headIsRestore post = false := by
  induction l with
  | nil => exact absurd rfl hl
  | cons a l ih =>
    cases l with
    | nil => exact headIsRestore_of_chained hc
    | cons b l => exact ih hc.2 (List.cons_ne_nil _ _)

theorem headIsRestore_batch {h : Instr} {B rest : List Instr} (hc : Chained (h :: rest))
    (hB : headIsRestore B = false) : headIsRestore (B ++ rest) = false := by
  cases B with
  | nil => exact headIsRestore_of_chained hc
  | cons b B => cases b <;> first | rfl | contradiction

theorem headIsRestore_nonLC {h : Instr} (rest : List Instr) (hn : h.isLC = false) : headIsRestore (h :: rest) = false := by
  cases h <;> first | rfl | contradiction

theorem overCode_cases {l : List Instr} (h : overCode l = true) : l = [] ∨ l = [.quitCb] := by
  unfold overCode at h
  split at h
  · exact .inl rfl
  · exact .inr rfl
  · cases h

theorem over_head {l : List Instr} {h : Instr} {rest : List Instr} (ho : overCode l = true) (hc : l = h :: rest) :
    h = .quitCb ∧ rest = [] := by
  rcases overCode_cases ho with h0 | h0 <;> cases h0.symm.trans hc
  exact ⟨rfl, rfl⟩

theorem not_over_of_head {l : List Instr} {h : Instr} {rest : List Instr} (hc : l = h :: rest) (hh : h ≠ .quitCb) :
    overCode l = false :=
  Bool.eq_false_iff.2 fun ho => hh (over_head ho hc).1

theorem markersA_over {l : List Instr} (h : overCode l = true) : markersA l = [] := by
  rcases overCode_cases h with rfl | rfl <;> rfl

theorem overCode_frame (X : List Instr) (q : Nat) (K : List Instr) : overCode (X ++ .mainCheck q :: K) = false :=
  Bool.eq_false_iff.2 fun ho => by simpa [markersA_over ho] using mem_markersA_append_mainCheck X q K

theorem canRaise_sysexit (h : Instr) : h.canRaise .sysexit = false := by
  cases h <;> first | rfl | (rename_i a; cases a <;> rfl)

theorem over_step {P : Prog} {v v' : SV} {evs : List Tr} (ho : overCode v.code = true) (hs : SStepE P v evs v') :
    overCode v'.code = true := by
  -- only `quitCb` can be the head, and it is passive
  cases hs with
  | stutter => exact ho
  | batch hc hb =>
    obtain ⟨rfl, rfl⟩ := over_head ho hc
    cases hb
    rfl
  | kill _ => rfl
  | halt hc hh => obtain ⟨rfl, rfl⟩ := over_head ho hc; cases hh
  | raise hc hr => obtain ⟨rfl, rfl⟩ := over_head ho hc; rename_i k; cases k <;> cases hr
  | forceQuit hc | enqAct hc | schedule hc | pushScr hc | replace hc _ | apprun hc | restore hc _ | «open» hc _
  | pop hc _ _ | popExit hc _ _ | pushModal hc | closeScreen hc _ | discard hc _ | identSkip hc _ _ =>
    cases (over_head ho hc).1

theorem raise_cases {v : SV} {h : Instr} {rest : List Instr} {k : Kind} (hch : Chained v.code)
    (hc : v.code = h :: rest) (hr : h.canRaise k = true) :
    overCode (raisedSV k { v with code := rest }).code = true ∨
    (k = .err ∧ h.isLC = false ∧ ∃ pre post, rest = pre ++ post ∧ (raisedSV k { v with code := rest }).code = post ∧
      ∀ i ∈ pre, i.isLC = false ∨ i = .catchHandler) := by
  rw [hc] at hch
  cases k with
  | exit => exact .inl (unwind_exit_chained hch.2)
  | sysexit => rw [canRaise_sysexit] at hr; cases hr
  | err =>
    have hn := canRaise_nonLC hr
    have := unwind_err_chained hch hn
    show overCode ((unwindTo .err rest).getD []) = true ∨ _ ∧ _ ∧ ∃ pre post, _ ∧ (unwindTo .err rest).getD [] = post ∧ _
    split at this
    · rename_i post hpost
      obtain ⟨pre, h1, h2⟩ := this
      exact .inr ⟨rfl, hn, pre, post, h1, by rw [hpost]; rfl, h2⟩
    · rename_i hnone
      rw [hnone]; exact .inl rfl

theorem no_levelEv {evs : List Tr} (h : evs.all (fun t => !t.isLevelEv) = true) : ∀ t ∈ evs, t.isLevelEv = false :=
  fun t ht => by simpa using List.all_eq_true.1 h t ht

theorem batch_level {P : Prog} {v : SV} {h : Instr} {B : List Instr} {evs : List Tr} (hb : Batch P v h B evs) :
    (markersA B = markersA [h] ∧ headIsRestore [h] = false ∧ headIsRestore B = false ∧ ∀ t ∈ evs, t.isLevelEv = false) ∨
    (∃ q, h = .mainCheck q ∧ B = [.restoreRun] ∧ evs = [.loopReturn q] ∧ v.runLoop = false) ∨
    (h = .restoreRun ∧ B = [] ∧ evs = [] ∧ v.forceQuit = true) := by
  by_cases hh : h.runsScript = true
  · -- scripts consist of body instructions
    have hhead : markersA [h] = [] ∧ headIsRestore [h] = false := by
      clear hb; cases h <;> first | contradiction | exact ⟨rfl, rfl⟩
    obtain ⟨rfl, hsc⟩ := batch_scripted hb hh
    have hlc : ∀ i ∈ B, i.isLC = false := fun i hi => by
      have := hsc i hi
      clear hb hsc; cases i <;> first | rfl | contradiction
    refine .inl ⟨?_, hhead.2, ?_, fun _ h => nomatch h⟩
    · rw [markersA_nil_of_nonLC fun i hi => .inl (hlc i hi), hhead.1]
    · cases B with
      | nil => rfl
      | cons b B => exact headIsRestore_nonLC _ (hlc b (List.mem_cons_self ..))
  cases hb
  case mainExit q hr => exact .inr (.inl ⟨q, rfl, rfl, rfl, hr⟩)
  case restoreFQ hf => exact .inr (.inr ⟨rfl, rfl, rfl, hf⟩)
  case passive hp =>
    refine .inl ⟨?_, ?_, rfl, fun _ h => nomatch h⟩ <;> cases h <;> first | rfl | contradiction
  case callUser | callScr | printWidget => exact absurd rfl hh
  all_goals exact .inl ⟨rfl, rfl, rfl, no_levelEv rfl⟩

theorem batch_markers {P : Prog} {v : SV} {h : Instr} {B : List Instr} {evs : List Tr} (hb : Batch P v h B evs) :
    (markersA B = markersA [h] ∧ headIsRestore B = false ∧ ∀ t ∈ evs, t.isLevelEv = false) ∨
    (∃ q, h = .mainCheck q ∧ B = [.restoreRun] ∧ evs = [.loopReturn q] ∧ v.runLoop = false) := by
  rcases batch_level hb with ⟨h1, _, h3, h4⟩ | h | ⟨rfl, rfl, rfl, _⟩
  · exact .inl ⟨h1, h3, h4⟩
  · exact .inr h
  · exact .inl ⟨rfl, rfl, fun _ h => nomatch h⟩

theorem sstepE_level {P : Prog} {v v' : SV} {evs : List Tr} (hch : Chained v.code) (hs : SStepE P v evs v') :
    LStep v evs v' := by
  -- the head is dropped, or replaced by instructions that stand for no activation
  have drop : ∀ {h : Instr} {rest : List Instr} (B : List Instr) {w : SV}, v.code = h :: rest → w.code = B ++ rest →
      markersA B = markersA [h] → headIsRestore [h] = false → headIsRestore B = false → w.levels = v.levels →
      w.runLoop = v.runLoop → w.forceQuit = v.forceQuit → w.active = v.active → w.nq = v.nq →
      (∀ t ∈ evs, t.isLevelEv = false) → LStep v evs w := by
    intro h rest B w hc hw hm hh hB
    refine .keep ?_ ?_
    · rw [hw, hc, markersA_append, hm, ← markersA_append]; rfl
    · rw [hw, headIsRestore_batch (hc ▸ hch) hB, hc, ← hh]; cases h <;> rfl
  cases hs with
  | stutter => exact .keep rfl rfl rfl rfl rfl rfl rfl fun _ h => nomatch h
  | batch hc hb =>
    rcases batch_level hb with ⟨h1, h2, h3, h4⟩ | ⟨q, rfl, rfl, rfl, hr⟩ | ⟨rfl, rfl, rfl, hf⟩
    · exact drop _ hc rfl h1 h2 h3 rfl rfl rfl rfl rfl h4
    · exact .mainExit hc hr rfl rfl
    · exact .restoreFQ hc hf rfl rfl
  | halt hc hh =>
    rename_i h rest
    by_cases ha : h = .apprun
    · subst ha
      cases chained_apprun (hc ▸ hch)
      exact .over rfl rfl
    · exact drop [] hc rfl (by cases h <;> first | rfl | contradiction) (by cases h <;> first | rfl | contradiction)
        rfl rfl rfl rfl rfl rfl fun _ h => nomatch h
  | raise hc hr =>
    rename_i h rest k
    rcases raise_cases hch hc hr with ho | ⟨rfl, hn, pre, post, h1, h2, h3⟩
    · exact .over ho rfl
    · refine .keep ?_ ?_ rfl rfl rfl rfl rfl fun _ h => nomatch h
      · rw [h2, hc, h1, markersA_cons_of_not _ (markerA?_nonLC (.inl hn)), markersA_append, markersA_nil_of_nonLC h3]
        rfl
      · rw [h2, hc, headIsRestore_nonLC _ hn]
        exact headIsRestore_of_chained_append (l := h :: pre) (by rw [List.cons_append, ← h1, ← hc]; exact hch)
          (List.cons_ne_nil _ _)
  | kill _ => exact .over rfl rfl
  | popExit hc _ _ => exact .over (unwind_exit_chained (hc ▸ hch).2) rfl
  | forceQuit hc => exact .forceQuit hc rfl rfl
  | schedule hc | pushScr hc | replace hc _ => exact drop [] hc rfl rfl rfl rfl rfl rfl rfl rfl rfl (no_levelEv rfl)
  | enqAct hc => exact drop [] hc rfl rfl rfl rfl rfl rfl rfl rfl rfl fun _ h => nomatch h
  | pushModal hc | closeScreen hc _ => exact drop [_, _] hc rfl rfl rfl rfl rfl rfl rfl rfl rfl (no_levelEv rfl)
  | discard hc _ =>
    refine drop (if _ then _ else _) hc rfl ?_ rfl ?_ rfl rfl rfl rfl rfl (no_levelEv rfl) <;> split <;> rfl
  | identSkip hc _ _ =>
    exact drop [] hc (by show List.dropWhile _ _ = _; rw [identSkip_chained (hc ▸ hch)]; rfl) rfl rfl rfl rfl rfl rfl rfl rfl fun _ h => nomatch h
  | apprun hc =>
    cases chained_apprun (hc ▸ hch)
    exact .apprun hc rfl rfl
  | restore hc hf => exact .restore hc hf rfl rfl
  | «open» hc hf => exact .open hc hf rfl rfl
  | pop hc hq ha => exact .pop hc hq ha rfl rfl

theorem sstepE_markers_sub {v v' : SV} {evs : List Tr} (hl : LStep v evs v') :
    ((markersA v'.code).Sublist (markersA v.code) ∧ v'.nq = v.nq) ∨
    (markersA v'.code = v.nq :: markersA v.code ∧ v'.nq = v.nq + 1 ∧ v'.levels = v.levels ++ [v.nq]) := by
  have tail : ∀ {h : Instr} {rest : List Instr}, v.code = h :: rest → (markersA rest).Sublist (markersA v.code) :=
    fun hc => hc ▸ markersA_sublist (List.sublist_cons_self _ _)
  cases hl with
  | over ho hn => exact .inl ⟨markersA_over ho ▸ List.nil_sublist _, hn⟩
  | keep hm _ _ _ _ _ hn _ => exact .inl ⟨hm ▸ List.Sublist.refl _, hn⟩
  | mainExit hc _ _ hv | restoreFQ hc _ _ hv | restore hc _ _ hv | pop hc _ _ _ hv | forceQuit hc _ hv =>
    subst hv; have := tail hc; exact .inl ⟨this, rfl⟩
  | apprun hc _ hv => subst hv; rw [hc]; exact .inl ⟨List.Sublist.refl _, rfl⟩
  | «open» hc _ _ hv => subst hv; rw [hc]; exact .inr ⟨rfl, rfl, rfl⟩

theorem scripted_not_atOnce {i : Instr} (h : i.scripted = true) : i.atOnce = false := by
  cases i <;> first | rfl | cases h

theorem batch_tail_atOnce {P : Prog} {v : SV} {h : Instr} {B : List Instr} {evs : List Tr} (hb : Batch P v h B evs) :
    ∀ i ∈ B.tail, i.atOnce = false := by
  have hsc := fun hh => (batch_scripted hb hh).2
  suffices h : (B.tail.all fun i => !i.atOnce) = true from fun i hi => by simpa using List.all_eq_true.1 h i hi
  cases hb
  case callUser | callScr | printWidget =>
    exact List.all_eq_true.2 fun i hi => by rw [scripted_not_atOnce (hsc rfl i (List.mem_of_mem_tail hi))]; rfl
  all_goals rfl

theorem atOnce_step {P : Prog} {v v' : SV} {evs : List Tr} (hi : AtOnce v) (hs : SStepE P v evs v') : AtOnce v' := by
  -- what is pushed in front of the rest has no such instruction behind its head
  have push : ∀ {h : Instr} {rest : List Instr} (B : List Instr), v.code = h :: rest →
      (∀ i ∈ B.tail, i.atOnce = false) → ∀ i ∈ (B ++ rest).tail, i.atOnce = false := by
    intro h rest B hc hB i hm
    have hr : ∀ i ∈ rest, i.atOnce = false := fun i hm => hi i (by rw [hc]; exact hm)
    cases B with
    | nil => exact hr i (List.mem_of_mem_tail hm)
    | cons b B => exact (List.mem_append.1 hm).elim (hB i) (hr i)
  have sub : ∀ {h : Instr} {rest l : List Instr}, v.code = h :: rest → l.Sublist rest → ∀ i ∈ l.tail, i.atOnce = false :=
    fun hc hl i hm => hi i (by rw [hc]; exact hl.subset (List.mem_of_mem_tail hm))
  cases hs with
  | stutter => exact hi
  | batch hc hb => exact push _ hc (batch_tail_atOnce hb)
  | kill _ => exact fun _ hm => nomatch hm
  | raise hc _ | popExit hc _ _ => exact sub hc (unwindTo_sublist _ _)
  | halt hc _ | forceQuit hc | schedule hc | enqAct hc | pushScr hc | replace hc _ | restore hc _ | pop hc _ _ =>
    exact sub hc (.refl _)
  | apprun hc => exact push [_, _, _] hc (by simp [Instr.atOnce])
  | «open» hc _ => exact push [_] hc (by simp)
  | pushModal hc => exact push [_, _] hc (by simp [Instr.atOnce])
  | closeScreen hc _ => exact push [_, _] hc (by simp [Instr.atOnce])
  | discard hc _ =>
    unfold AtOnce
    dsimp only
    split
    · exact push [_, _] hc (by simp [Instr.atOnce])
    · exact push [] hc (by simp)
  | identSkip hc _ _ => exact sub hc (List.dropWhile_sublist _)

theorem reach_atOnce {P : Prog} {c0 c : Cfg} (h0 : Started c0) (hr : Reach P c0 c) : AtOnce c.sv := by
  refine reach_sv_induction AtOnce ?_ (fun _ _ _ hi hs => atOnce_step hi hs) hr
  obtain ⟨init, hs, q, sin, rfl⟩ := h0
  intro i hi
  rcases List.mem_append.1 (List.mem_of_mem_tail hi) with hm | hm
  · obtain ⟨a, _, rfl⟩ := List.mem_map.1 hm; rfl
  · rw [List.mem_singleton.1 hm]; rfl

end Shape

end Simpleline
