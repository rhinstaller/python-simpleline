/-
  Frame lemmas for the input-pipeline proofs (C06, C18): what the machine's primitive operations
  (`trace`, `write`, `push`, `newSig`, `setScr`, `enqueue`, `redraw`, `deliver`, `emit`, `pop`, `unwind`/`raise`) do to the
  components the pipeline invariants talk about.
-/
import Simpleline.Lemmas.MachineOps
import Simpleline.Lemmas.Store

namespace Simpleline.Input

@[simp] theorem final_ok (c : Cfg) : final (.ok c) = c := rfl
@[simp] theorem final_error (o : Outcome) (c : Cfg) : final (.error (o, c)) = c := rfl
@[simp] theorem final_pure (c : Cfg) : final (pure c : Except (Outcome × Cfg) Cfg) = c := rfl

attribute [simp] listSet_length

theorem listSet_getElem? {α} (l : List α) (i j : Nat) (f : α → α) :
    (listSet l i f)[j]? = if i = j then l[j]?.map f else l[j]? := by
  simp only [listSet, List.getElem?_modify]
  split <;> simp

@[simp] theorem trace_A (c : Cfg) (t : Tr) : (c.trace t).A = c.A := rfl
@[simp] theorem trace_L (c : Cfg) (t : Tr) : (c.trace t).L = c.L := rfl
@[simp] theorem trace_code (c : Cfg) (t : Tr) : (c.trace t).code = c.code := rfl
@[simp] theorem trace_log (c : Cfg) (t : Tr) : (c.trace t).log = c.log := rfl
@[simp] theorem trace_tr (c : Cfg) (t : Tr) : (c.trace t).tr = t :: c.tr := rfl
@[simp] theorem trace_nextSid (c : Cfg) (t : Tr) : (c.trace t).nextSid = c.nextSid := rfl
@[simp] theorem trace_retPromptNone (c : Cfg) (t : Tr) : (c.trace t).retPromptNone = c.retPromptNone := rfl

@[simp] theorem write_L (c : Cfg) (t : Str) : (c.write t).L = c.L := rfl
@[simp] theorem write_code (c : Cfg) (t : Str) : (c.write t).code = c.code := rfl
@[simp] theorem write_log (c : Cfg) (t : Str) : (c.write t).log = c.log := rfl
@[simp] theorem write_tr (c : Cfg) (t : Str) : (c.write t).tr = c.tr := rfl
@[simp] theorem write_nextSid (c : Cfg) (t : Str) : (c.write t).nextSid = c.nextSid := rfl
@[simp] theorem write_ihs (c : Cfg) (t : Str) : (c.write t).A.ihs = c.A.ihs := rfl
@[simp] theorem write_reqs (c : Cfg) (t : Str) : (c.write t).A.reqs = c.A.reqs := rfl
@[simp] theorem write_inputStack (c : Cfg) (t : Str) : (c.write t).A.inputStack = c.A.inputStack := rfl
@[simp] theorem write_processing (c : Cfg) (t : Str) : (c.write t).A.processing = c.A.processing := rfl
@[simp] theorem write_readers (c : Cfg) (t : Str) : (c.write t).A.readers = c.A.readers := rfl
@[simp] theorem write_stdin (c : Cfg) (t : Str) : (c.write t).A.stdin = c.A.stdin := rfl
@[simp] theorem write_screens (c : Cfg) (t : Str) : (c.write t).A.screens = c.A.screens := rfl
@[simp] theorem write_stack (c : Cfg) (t : Str) : (c.write t).A.stack = c.A.stack := rfl
@[simp] theorem write_out (c : Cfg) (t : Str) : (c.write t).A.out = c.A.out ++ [t] := rfl

@[simp] theorem push_A (c : Cfg) (is : List Instr) : (push c is).A = c.A := rfl
@[simp] theorem push_L (c : Cfg) (is : List Instr) : (push c is).L = c.L := rfl
@[simp] theorem push_code (c : Cfg) (is : List Instr) : (push c is).code = is ++ c.code := rfl
@[simp] theorem push_log (c : Cfg) (is : List Instr) : (push c is).log = c.log := rfl
@[simp] theorem push_tr (c : Cfg) (is : List Instr) : (push c is).tr = c.tr := rfl
@[simp] theorem push_nextSid (c : Cfg) (is : List Instr) : (push c is).nextSid = c.nextSid := rfl

@[simp] theorem newSig_A (c : Cfg) (cls prio src line ih ok) : (c.newSig cls prio src line ih ok).2.A = c.A := rfl
@[simp] theorem newSig_L (c : Cfg) (cls prio src line ih ok) : (c.newSig cls prio src line ih ok).2.L = c.L := rfl
@[simp] theorem newSig_code (c : Cfg) (cls prio src line ih ok) : (c.newSig cls prio src line ih ok).2.code = c.code := rfl
@[simp] theorem newSig_log (c : Cfg) (cls prio src line ih ok) : (c.newSig cls prio src line ih ok).2.log = c.log := rfl
@[simp] theorem newSig_tr (c : Cfg) (cls prio src line ih ok) : (c.newSig cls prio src line ih ok).2.tr = c.tr := rfl
@[simp] theorem newSig_retPromptNone (c : Cfg) (cls prio src line ih ok) :
    (c.newSig cls prio src line ih ok).2.retPromptNone = c.retPromptNone := rfl
@[simp] theorem newSig_nextSid (c : Cfg) (cls prio src line ih ok) :
    (c.newSig cls prio src line ih ok).2.nextSid = c.nextSid + 1 := rfl
@[simp] theorem newSig_sig (c : Cfg) (cls prio src line ih ok) :
    (c.newSig cls prio src line ih ok).1 =
      { id := c.nextSid + 1, cls := cls, prio := prio, src := src, line := line, ih := ih, ok := ok } := rfl

@[simp] theorem setScr_ihs (A : AppSt) (i f) : (A.setScr i f).ihs = A.ihs := rfl
@[simp] theorem setScr_reqs (A : AppSt) (i f) : (A.setScr i f).reqs = A.reqs := rfl
@[simp] theorem setScr_inputStack (A : AppSt) (i f) : (A.setScr i f).inputStack = A.inputStack := rfl
@[simp] theorem setScr_processing (A : AppSt) (i f) : (A.setScr i f).processing = A.processing := rfl
@[simp] theorem setScr_readers (A : AppSt) (i f) : (A.setScr i f).readers = A.readers := rfl
@[simp] theorem setScr_stdin (A : AppSt) (i f) : (A.setScr i f).stdin = A.stdin := rfl
@[simp] theorem setScr_stack (A : AppSt) (i f) : (A.setScr i f).stack = A.stack := rfl
@[simp] theorem setScr_out (A : AppSt) (i f) : (A.setScr i f).out = A.out := rfl

@[simp] theorem enqueue_A (c : Cfg) (s : Sig) : (c.enqueue s).A = c.A := by rw [Machine.enqueue_eq]
@[simp] theorem enqueue_code (c : Cfg) (s : Sig) : (c.enqueue s).code = c.code := by rw [Machine.enqueue_eq]
@[simp] theorem enqueue_log (c : Cfg) (s : Sig) : (c.enqueue s).log = c.log := by rw [Machine.enqueue_eq]
@[simp] theorem enqueue_nextSid (c : Cfg) (s : Sig) : (c.enqueue s).nextSid = c.nextSid := by rw [Machine.enqueue_eq]
@[simp] theorem enqueue_retPromptNone (c : Cfg) (s : Sig) : (c.enqueue s).retPromptNone = c.retPromptNone := by rw [Machine.enqueue_eq]
@[simp] theorem enqueue_handlers (c : Cfg) (s : Sig) : (c.enqueue s).L.handlers = c.L.handlers := by rw [Machine.enqueue_eq]
@[simp] theorem enqueue_levels (c : Cfg) (s : Sig) : (c.enqueue s).L.levels = c.L.levels := by rw [Machine.enqueue_eq]
@[simp] theorem enqueue_active (c : Cfg) (s : Sig) : (c.enqueue s).L.active = c.L.active := by rw [Machine.enqueue_eq]
@[simp] theorem enqueue_forceQuit (c : Cfg) (s : Sig) : (c.enqueue s).L.forceQuit = c.L.forceQuit := by rw [Machine.enqueue_eq]
@[simp] theorem enqueue_runLoop (c : Cfg) (s : Sig) : (c.enqueue s).L.runLoop = c.L.runLoop := by rw [Machine.enqueue_eq]
theorem enqueue_tr (c : Cfg) (s : Sig) : (c.enqueue s).tr = enqEvent c s :: c.tr := by
  rw [Machine.enqueue_eq]; rfl
theorem enqueue_queues (c : Cfg) (s : Sig) :
    (c.enqueue s).L.queues = if c.L.forceQuit then c.L.queues else listSet c.L.queues (c.L.route s.src) (·.put s) := by
  rw [Machine.enqueue_eq]; rfl

@[simp] theorem redraw_A (c : Cfg) : c.redraw.A = c.A := by simp [Machine.redraw_eq]
@[simp] theorem redraw_code (c : Cfg) : c.redraw.code = c.code := by simp [Machine.redraw_eq]
@[simp] theorem redraw_log (c : Cfg) : c.redraw.log = c.log := by simp [Machine.redraw_eq]
@[simp] theorem redraw_retPromptNone (c : Cfg) : c.redraw.retPromptNone = c.retPromptNone := by
  simp [Machine.redraw_eq]

/-- the configuration after logging `e`, before a possible delivery -/
def emit0 (c : Cfg) (e : Ev) : Cfg := { c with log := e :: c.log }

theorem deliver_eq {c c' : Cfg} (h : c.deliver = some c') :
    ∃ r rs, c.A.readers = r :: rs ∧
      c' = ({ c with A := { c.A with readers := rs, stdin := c.A.stdin.tail },
                     log := .read (c.A.stdin.headD []) :: c.log,
                     nextSid := c.nextSid + 1 } : Cfg).enqueue
            { id := c.nextSid + 1, cls := .inputReceived, prio := 0, src := .req r, line := c.A.stdin.headD [] } := by
  rcases Machine.deliver_cases c with ⟨-, h'⟩ | ⟨r, rs, hr, h'⟩ <;> rw [h'] at h <;> cases h
  exact ⟨r, rs, hr, rfl⟩

theorem deliver_none {c : Cfg} (h : c.deliver = none) : c.A.readers = [] := by
  rcases Machine.deliver_cases c with ⟨hr, -⟩ | ⟨r, rs, -, h'⟩
  · exact hr
  · rw [h'] at h; cases h

theorem emit_cases (P : Prog) (c : Cfg) (e : Ev) :
    c.emit P e = emit0 c e ∨ (emit0 c e).deliver = some (c.emit P e) :=
  Machine.emit_cases P c e

@[simp] theorem emit0_A (c : Cfg) (e : Ev) : (emit0 c e).A = c.A := rfl
@[simp] theorem emit0_L (c : Cfg) (e : Ev) : (emit0 c e).L = c.L := rfl
@[simp] theorem emit0_code (c : Cfg) (e : Ev) : (emit0 c e).code = c.code := rfl
@[simp] theorem emit0_log (c : Cfg) (e : Ev) : (emit0 c e).log = e :: c.log := rfl
@[simp] theorem emit0_tr (c : Cfg) (e : Ev) : (emit0 c e).tr = c.tr := rfl
@[simp] theorem emit0_nextSid (c : Cfg) (e : Ev) : (emit0 c e).nextSid = c.nextSid := rfl
@[simp] theorem emit0_retPromptNone (c : Cfg) (e : Ev) : (emit0 c e).retPromptNone = c.retPromptNone := rfl

theorem deliver_code {c c' : Cfg} (h : c.deliver = some c') : c'.code = c.code := by
  obtain ⟨r, rs, _, rfl⟩ := deliver_eq h; simp
theorem deliver_handlers {c c' : Cfg} (h : c.deliver = some c') : c'.L.handlers = c.L.handlers := by
  obtain ⟨r, rs, _, rfl⟩ := deliver_eq h; simp
theorem deliver_ihs {c c' : Cfg} (h : c.deliver = some c') : c'.A.ihs = c.A.ihs := by
  obtain ⟨r, rs, _, rfl⟩ := deliver_eq h; simp
theorem deliver_reqs {c c' : Cfg} (h : c.deliver = some c') : c'.A.reqs = c.A.reqs := by
  obtain ⟨r, rs, _, rfl⟩ := deliver_eq h; simp
theorem deliver_inputStack {c c' : Cfg} (h : c.deliver = some c') : c'.A.inputStack = c.A.inputStack := by
  obtain ⟨r, rs, _, rfl⟩ := deliver_eq h; simp
theorem deliver_processing {c c' : Cfg} (h : c.deliver = some c') : c'.A.processing = c.A.processing := by
  obtain ⟨r, rs, _, rfl⟩ := deliver_eq h; simp
theorem deliver_screens {c c' : Cfg} (h : c.deliver = some c') : c'.A.screens = c.A.screens := by
  obtain ⟨r, rs, _, rfl⟩ := deliver_eq h; simp
theorem deliver_readers {c c' : Cfg} (h : c.deliver = some c') : c'.A.readers = c.A.readers.tail := by
  obtain ⟨r, rs, hr, rfl⟩ := deliver_eq h; simp [hr]
theorem deliver_stdin {c c' : Cfg} (h : c.deliver = some c') : c'.A.stdin = c.A.stdin.tail := by
  obtain ⟨r, rs, _, rfl⟩ := deliver_eq h; simp
theorem deliver_log {c c' : Cfg} (h : c.deliver = some c') : c'.log = .read (c.A.stdin.headD []) :: c.log := by
  obtain ⟨r, rs, _, rfl⟩ := deliver_eq h; simp
theorem deliver_retPromptNone {c c' : Cfg} (h : c.deliver = some c') : c'.retPromptNone = c.retPromptNone := by
  obtain ⟨r, rs, _, rfl⟩ := deliver_eq h; simp

theorem emit_of_deliver {α} (f : Cfg → α) (hd : ∀ {c c' : Cfg}, c.deliver = some c' → f c' = f c) (P : Prog) (c : Cfg)
    (e : Ev) (h0 : f (emit0 c e) = f c := by rfl) : f (c.emit P e) = f c := by
  rcases emit_cases P c e with h | h
  · rw [h, h0]
  · rw [hd h, h0]

@[simp] theorem emit_code (P : Prog) (c : Cfg) (e : Ev) : (c.emit P e).code = c.code :=
  emit_of_deliver (·.code) deliver_code P c e
@[simp] theorem emit_handlers (P : Prog) (c : Cfg) (e : Ev) : (c.emit P e).L.handlers = c.L.handlers :=
  emit_of_deliver (·.L.handlers) deliver_handlers P c e
@[simp] theorem emit_ihs (P : Prog) (c : Cfg) (e : Ev) : (c.emit P e).A.ihs = c.A.ihs :=
  emit_of_deliver (·.A.ihs) deliver_ihs P c e
@[simp] theorem emit_reqs (P : Prog) (c : Cfg) (e : Ev) : (c.emit P e).A.reqs = c.A.reqs :=
  emit_of_deliver (·.A.reqs) deliver_reqs P c e
@[simp] theorem emit_inputStack (P : Prog) (c : Cfg) (e : Ev) : (c.emit P e).A.inputStack = c.A.inputStack :=
  emit_of_deliver (·.A.inputStack) deliver_inputStack P c e
@[simp] theorem emit_screens (P : Prog) (c : Cfg) (e : Ev) : (c.emit P e).A.screens = c.A.screens :=
  emit_of_deliver (·.A.screens) deliver_screens P c e
@[simp] theorem emit_retPromptNone (P : Prog) (c : Cfg) (e : Ev) : (c.emit P e).retPromptNone = c.retPromptNone :=
  emit_of_deliver (·.retPromptNone) deliver_retPromptNone P c e

@[simp] theorem pop_A (c : Cfg) (e es) : (c.pop e es).A = c.A := rfl
@[simp] theorem pop_code (c : Cfg) (e es) : (c.pop e es).code = c.code := rfl
@[simp] theorem pop_log (c : Cfg) (e es) : (c.pop e es).log = c.log := rfl
@[simp] theorem pop_handlers (c : Cfg) (e es) : (c.pop e es).L.handlers = c.L.handlers := rfl
@[simp] theorem pop_tr (c : Cfg) (e es) : (c.pop e es).tr = .take c.L.active e.2.2 :: c.tr := rfl
@[simp] theorem pop_nextSid (c : Cfg) (e es) : (c.pop e es).nextSid = c.nextSid := rfl
@[simp] theorem pop_retPromptNone (c : Cfg) (e es) : (c.pop e es).retPromptNone = c.retPromptNone := rfl

def excEnq (c : Cfg) (src : Src) : Cfg :=
  (c.newSig .exception (-20) src).2.enqueue (c.newSig .exception (-20) src).1

@[simp] theorem excEnq_A (c : Cfg) (src : Src) : (excEnq c src).A = c.A := by simp [excEnq]
@[simp] theorem excEnq_log (c : Cfg) (src : Src) : (excEnq c src).log = c.log := by simp [excEnq]
@[simp] theorem excEnq_code (c : Cfg) (src : Src) : (excEnq c src).code = c.code := by simp [excEnq]
@[simp] theorem excEnq_handlers (c : Cfg) (src : Src) : (excEnq c src).L.handlers = c.L.handlers := by simp [excEnq]
@[simp] theorem excEnq_retPromptNone (c : Cfg) (src : Src) : (excEnq c src).retPromptNone = c.retPromptNone := by
  simp [excEnq]

/-- unwinding drops instructions and, at a catcher, enqueues one `ExceptionSignal`; nothing else -/
theorem unwind_final (k : Kind) (code : List Instr) (c : Cfg) :
    ∃ code', code'.Sublist code ∧ ∃ c1, (c1 = c ∨ ∃ src, c1 = excEnq c src) ∧
      final (unwind k code c) = { c1 with code := code' } := by
  rcases Machine.unwind_cases k code c with ⟨-, he⟩ | ⟨pre, ins, rest, rfl, -, -, he⟩ <;> rw [he]
  · exact ⟨[], List.nil_sublist _, c, .inl rfl, rfl⟩
  · exact ⟨_, (Machine.afterCatch_suffix_split pre ins rest).sublist, _,
      (Machine.caughtBy_cases ins c).imp id fun ⟨src, h⟩ => ⟨src, h.trans (Machine.excEnq_eq c src)⟩, rfl⟩

theorem raise_final (c : Cfg) (k : Kind) :
    ∃ cT, (cT = c ∨ cT = c.trace .exit) ∧ ∃ code', code'.Sublist c.code ∧
      ∃ c1, (c1 = cT ∨ ∃ src, c1 = excEnq cT src) ∧ final (c.raise k) = { c1 with code := code' } := by
  rw [Machine.raise_eq]
  exact ⟨Dispatch.preRaise c k, by cases k <;> first | exact .inl rfl | exact .inr rfl, unwind_final k c.code _⟩

@[simp] theorem raise_A (c : Cfg) (k : Kind) : (final (c.raise k)).A = c.A := by
  obtain ⟨cT, hT, code', _, c1, h1, hf⟩ := raise_final c k
  rw [hf]; rcases hT with rfl | rfl <;> rcases h1 with rfl | ⟨src, rfl⟩ <;> simp
@[simp] theorem raise_handlers (c : Cfg) (k : Kind) : (final (c.raise k)).L.handlers = c.L.handlers := by
  obtain ⟨cT, hT, code', _, c1, h1, hf⟩ := raise_final c k
  rw [hf]; rcases hT with rfl | rfl <;> rcases h1 with rfl | ⟨src, rfl⟩ <;> simp
@[simp] theorem raise_log (c : Cfg) (k : Kind) : (final (c.raise k)).log = c.log := by
  obtain ⟨cT, hT, code', _, c1, h1, hf⟩ := raise_final c k
  rw [hf]; rcases hT with rfl | rfl <;> rcases h1 with rfl | ⟨src, rfl⟩ <;> simp
@[simp] theorem raise_retPromptNone (c : Cfg) (k : Kind) : (final (c.raise k)).retPromptNone = c.retPromptNone := by
  obtain ⟨cT, hT, code', _, c1, h1, hf⟩ := raise_final c k
  rw [hf]; rcases hT with rfl | rfl <;> rcases h1 with rfl | ⟨src, rfl⟩ <;> simp
theorem raise_code (c : Cfg) (k : Kind) : (final (c.raise k)).code.Sublist c.code := by
  obtain ⟨cT, hT, code', hs, c1, h1, hf⟩ := raise_final c k
  rw [hf]; exact hs

theorem final_ite (p : Prop) [Decidable p] (a b : Except (Outcome × Cfg) Cfg) :
    final (if p then a else b) = if p then final a else final b := by split <;> rfl

end Simpleline.Input
