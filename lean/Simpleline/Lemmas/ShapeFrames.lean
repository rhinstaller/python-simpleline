/-
  The frames of `push_screen_modal` calls: `modalRet e` (the statement after `execute_new_loop` in
  `push_screen_modal`) stands directly behind the `newLoop` of its call, behind the marker of the level
  that call opened, or behind the `restoreRun` that marker leaves, and the history shows which
  (`Just`).  So it is reached only through that marker's exit.
-/
import Simpleline.Lemmas.ShapeModal

namespace Simpleline

def modalTr (l : List Tr) : List Tr := l.filter Tr.isModalEv

/-- `OpenedFor` on the shape view -/
def OpenedForV (q : Nat) (e : Entry) (ev : List Tr) : Prop :=
  ∃ b t1 t0, modalTr ev = t1 ++ .openLevel q b :: .modalBegin e :: t0

/-- what the history shows when `modalRet e` stands behind instruction `p` (`none`: at the head of the code) -/
def Just (v : SV) (e : Entry) : Option Instr → Prop
  | some (.newLoop _) => ∃ t0, modalTr v.ev = .modalBegin e :: t0
  | some (.mainCheck q) => OpenedForV q e v.ev
  | some .restoreRun => ∃ q, OpenedForV q e v.ev ∧ Tr.loopReturn q ∈ v.ev
  | none => v.forceQuit = true ∨ ∃ q, OpenedForV q e v.ev ∧ Tr.loopReturn q ∈ v.ev
  | some _ => True

def Frames (v : SV) : Option Instr → List Instr → Prop
  | _, [] => True
  | p, i :: l => (∀ e, i = .modalRet e → Just v e p) ∧ Frames v (some i) l

def FramesInv (v : SV) : Prop := Frames v none v.code

/-- instructions that are not part of a `push_screen_modal` / `execute_new_loop` frame -/
def Instr.frameFree : Instr → Bool
  | .mainCheck _ | .modalRet _ | .newLoop _ | .restoreRun => false
  | _ => true

namespace Shape

theorem modalTr_append (a b : List Tr) : modalTr (a ++ b) = modalTr a ++ modalTr b := by simp [modalTr]

theorem openedForV_mono {q : Nat} {e : Entry} {ev : List Tr} (evs : List Tr) (h : OpenedForV q e ev) :
    OpenedForV q e (evs ++ ev) := by
  obtain ⟨b, t1, t0, h⟩ := h
  exact ⟨b, modalTr evs ++ t1, t0, by rw [modalTr_append, h, List.append_assoc]⟩

theorem allows_modalRet {h : Instr} {e : Entry} (ha : h.fclass.allows (.modalRet e) = true) :
    (∃ s, h = .newLoop s) ∨ (∃ q, h = .mainCheck q) ∨ h = .restoreRun := by
  cases h <;> first | contradiction | exact .inl ⟨_, rfl⟩ | exact .inr (.inl ⟨_, rfl⟩) | exact .inr (.inr rfl)

theorem after_body_free {y x : Instr} {l : List Instr} (hc : Chained (y :: x :: l))
    (hy : y.isLC = false ∨ y = .catchHandler) (hnl : ∀ s, y ≠ .newLoop s) : Instr.frameFree x = true := by
  have ha : y.fclass.allows x = true := hc.1
  -- `y` allows behind it at most what class `body` allows, and that is no part of a frame
  have hle : y.fclass.le .body = true ∨ y.fclass = .handler := by
    rcases hy with hy | rfl
    · left
      cases y <;> first | rfl | contradiction | exact absurd rfl (hnl _)
    · exact .inr rfl
  rcases hle with hle | hle
  · have hb : FClass.body.allows x = true := FClass.le_allows hle x ha
    cases x <;> first | rfl | contradiction
  · rw [hle] at ha
    cases x <;> first | rfl | contradiction

theorem suffix_head_free {l post : List Instr} (hch : Chained (l ++ post)) (hl : l ≠ [])
    (hbody : ∀ y ∈ l, y.isLC = false ∨ y = .catchHandler) (hnl : ∀ s, Instr.newLoop s ∉ l) :
    ∀ x r, post = x :: r → Instr.frameFree x = true := by
  rintro x r rfl
  obtain ⟨init, y, hy⟩ := (List.eq_nil_or_concat l).resolve_left hl
  rw [List.concat_eq_append] at hy
  have hym : y ∈ l := by rw [hy]; simp
  rw [hy, List.append_assoc] at hch
  exact after_body_free hch.of_append (hbody y hym) fun s hs => hnl s (hs ▸ hym)

theorem just_free {v : SV} {e : Entry} {b : Instr} (hb : b.frameFree = true) : Just v e (some b) := by
  cases b <;> first | trivial | contradiction

/-- new events keep a `modalRet` justified, except behind `newLoop`, where the newest modal event counts -/
theorem just_mono {v v' : SV} {evs : List Tr} {e : Entry} {i : Instr} (hev : v'.ev = evs ++ v.ev)
    (hi : ∀ s, i ≠ .newLoop s) (h : Just v e (some i)) : Just v' e (some i) := by
  cases i <;> first | trivial | skip
  case newLoop s => exact absurd rfl (hi s)
  case mainCheck q => show OpenedForV q e v'.ev; rw [hev]; exact openedForV_mono evs h
  case restoreRun =>
    obtain ⟨q, h1, h2⟩ := h
    refine ⟨q, ?_, ?_⟩ <;> rw [hev]
    · exact openedForV_mono evs h1
    · exact List.mem_append_right _ h2

theorem frames_mono {v v' : SV} {evs : List Tr} (hev : v'.ev = evs ++ v.ev) :
    ∀ {l : List Instr} {i : Instr}, (∀ s, i ≠ .newLoop s) → (∀ s, .newLoop s ∉ l) → Frames v (some i) l →
      Frames v' (some i) l
  | [], _, _, _, _ => trivial
  | _ :: _, _, hi, hl, h =>
    ⟨fun e he => just_mono hev hi (h.1 e he),
      frames_mono hev (fun s hs => hl s (hs ▸ List.mem_cons_self ..)) (fun s hs => hl s (List.mem_cons_of_mem _ hs)) h.2⟩

theorem frames_free {v : SV} : ∀ {B : List Instr} {p : Option Instr}, (∀ i ∈ B, ∀ e, i ≠ .modalRet e) → Frames v p B
  | [], _, _ => trivial
  | _ :: _, _, h =>
    ⟨fun e he => absurd he (h _ (List.mem_cons_self ..) e), frames_free fun i hi => h i (List.mem_cons_of_mem _ hi)⟩

theorem frames_suffix {v : SV} {post : List Instr} :
    ∀ {l : List Instr} {p : Option Instr}, Frames v p (l ++ post) → ∀ x r, post = x :: r → Frames v (some x) r
  | [], _, h, _, _, hp => (hp ▸ h).2
  | _ :: _, _, h, x, r, hp => frames_suffix h.2 x r hp

theorem frames_append {v : SV} {r : List Instr} :
    ∀ {B : List Instr} {p : Option Instr}, Frames v p B → Frames v (B.getLast?.or p) r → Frames v p (B ++ r)
  | [], _, _, hr => hr
  | [_], _, hB, hr => ⟨hB.1, hr⟩
  | _ :: c :: B, _, hB, hr => ⟨hB.1, frames_append (B := c :: B) hB.2 (by
      rw [List.getLast?_cons_cons] at hr
      obtain ⟨x, hx⟩ : ∃ x, (c :: B).getLast? = some x := ⟨_, List.getLast?_cons⟩
      rw [hx] at hr ⊢; exact hr)⟩

/-- what stood behind `h` now stands behind the last instruction of `B`, or at the head -/
theorem frames_push {v v' : SV} {h : Instr} {rest B : List Instr} {evs : List Tr} (hi : FramesInv v)
    (hc : v.code = h :: rest) (hch : Chained v.code) (hcode : v'.code = B ++ rest) (hev : v'.ev = evs ++ v.ev)
    (hB : Frames v' none B)
    (hhead : ∀ e post, rest = .modalRet e :: post → Just v e (some h) → Just v' e (B.getLast?.or none)) :
    FramesInv v' := by
  unfold FramesInv at hi ⊢
  rw [hc] at hi hch
  rw [hcode]
  refine frames_append hB ?_
  cases rest with
  | nil => trivial
  | cons x l =>
    exact ⟨fun e he => hhead e l (he ▸ rfl) (hi.2.1 e he),
      frames_mono hev (fun s hs => headOnly_not_tail hch (x := .newLoop s) rfl (hs ▸ List.mem_cons_self ..))
        (fun s => headOnly_not_tail hch.2 rfl) hi.2.2⟩

theorem frames_generic {v v' : SV} {h : Instr} {rest B : List Instr} (evs : List Tr) (hi : FramesInv v)
    (hc : v.code = h :: rest) (hch : Chained v.code) (hB : B.all Instr.frameFree = true)
    (hnl : ∀ s, h = .newLoop s → v'.forceQuit = true) (hmc : ∀ q, h = .mainCheck q → B ≠ [])
    (hcode : v'.code = B ++ rest) (hev : v'.ev = evs ++ v.ev) : FramesInv v' := by
  rw [List.all_eq_true] at hB
  refine frames_push hi hc hch hcode hev (frames_free fun i hi e he => by cases he ▸ hB i hi) ?_
  intro e post hp hj
  cases hl : B.getLast? with
  | some b => exact just_free (hB b (List.mem_of_getLast? hl))
  | none =>
    have ha : h.fclass.allows (.modalRet e) = true := by
      have := (hc ▸ hch).1; rwa [hp] at this
    rcases allows_modalRet ha with ⟨s, rfl⟩ | ⟨q, rfl⟩ | rfl
    · exact .inl (hnl s rfl)
    · exact absurd (List.getLast?_eq_none_iff.1 hl) (hmc q rfl)
    · exact .inr (just_mono hev (fun _ h => Instr.noConfusion h) hj)

theorem batch_frameFree {P : Prog} {v : SV} {h : Instr} {B : List Instr} {evs : List Tr} (hb : Batch P v h B evs) :
    B.all Instr.frameFree = true ∨
    (∃ q, h = .mainCheck q ∧ B = [.loopCheck, .mainCheck q] ∧ evs = []) ∨
    (∃ q, h = .mainCheck q ∧ B = [.restoreRun] ∧ evs = [.loopReturn q]) ∨
    (∃ s w, B = [.newLoop s, .note w] ∧ evs = []) := by
  by_cases hh : h.runsScript = true
  · refine .inl (List.all_eq_true.2 fun i hi => ?_)
    have := (batch_scripted hb hh).2 i hi
    clear hb; cases i <;> first | rfl | contradiction
  cases hb
  case mainLoop q _ => exact .inr (.inl ⟨q, rfl, rfl, rfl⟩)
  case mainExit q _ => exact .inr (.inr (.inl ⟨q, rfl, rfl, rfl⟩))
  case actNewLoop cls prio sid => exact .inr (.inr (.inr ⟨_, _, rfl, rfl⟩))
  case callUser | callScr | printWidget => exact absurd rfl hh
  all_goals exact .inl rfl

theorem frames_step {P : Prog} {v v' : SV} {evs : List Tr} (hb : Basic v) (hi : FramesInv v)
    (hs : SStepE P v evs v') : FramesInv v' := by
  have hch := hb.chained
  have hev := SStepE.ev_eq hs
  have over : ∀ {w : SV}, overCode w.code = true → FramesInv w := by
    intro w ho
    unfold FramesInv
    rcases overCode_cases ho with h | h <;> rw [h] <;> exact frames_free (by simp)
  -- the head is dropped, or replaced by instructions outside frames
  have plain : ∀ {h : Instr} {rest : List Instr} (B : List Instr), v.code = h :: rest → v'.code = B ++ rest →
      B.all Instr.frameFree = true → (∀ s, h ≠ .newLoop s) → (∀ q, h ≠ .mainCheck q) → FramesInv v' :=
    fun B hc hcode hB h1 h2 =>
      frames_generic evs hi hc hch hB (fun s hs => absurd hs (h1 s)) (fun q hq => absurd hq (h2 q)) hcode hev
  cases hs with
  | stutter => exact hi
  | @batch h rest B _ hc hbt =>
    rcases batch_frameFree hbt with hB | ⟨q, rfl, rfl, rfl⟩ | ⟨q, rfl, rfl, rfl⟩ | ⟨s, w, rfl, rfl⟩
    · refine frames_generic evs hi hc hch hB ?_ ?_ rfl hev
      · rintro s rfl
        cases hbt with
        | passive hp => cases hp
        | newLoopFQ _ hf => exact hf
      · rintro q rfl
        cases hbt with
        | passive hp => cases hp
        | mainLoop _ _ => exact List.cons_ne_nil _ _
        | mainExit _ _ => exact List.cons_ne_nil _ _
    · exact frames_push hi hc hch rfl hev (frames_free (by simp)) fun e post _ hj => hj
    · -- the marker exits: its `.loopReturn` is in the history now
      exact frames_push hi hc hch rfl hev (frames_free (by simp)) fun e post _ hj =>
        ⟨q, openedForV_mono _ hj, List.mem_cons_self ..⟩
    · exact frames_push hi hc hch rfl hev (frames_free (by simp)) fun e post _ _ => trivial
  | halt hc hh =>
    exact plain [] hc rfl rfl (by rintro s rfl; cases hh) (by rintro q rfl; cases hh)
  | @raise h rest k hc hr =>
    rcases raise_cases hch hc hr with ho | ⟨rfl, hn, pre, post, h1, h2, h3⟩
    · exact over ho
    · -- caught: the code left is a suffix of the old code, behind a body instruction or a catcher
      unfold FramesInv at hi ⊢
      rw [hc, h1] at hi hch
      rw [h2]
      have hnl : ∀ s, Instr.newLoop s ∉ h :: pre := by
        intro s hs
        rcases List.mem_cons.1 hs with h5 | h5
        · rw [← h5] at hr; cases hr
        · exact headOnly_not_tail hch rfl (List.mem_append_left _ h5)
      cases post with
      | nil => trivial
      | cons x r =>
        have hx : x.frameFree = true :=
          suffix_head_free (l := h :: pre) hch (List.cons_ne_nil _ _)
            (fun y hy => (List.mem_cons.1 hy).elim (fun h => h ▸ .inl hn) (h3 y)) hnl x r rfl
        exact ⟨fun e he => (by rw [he] at hx; cases hx),
          frames_mono hev (fun s hs => (by rw [hs] at hx; cases hx))
            (fun s hs => headOnly_not_tail hch rfl (List.mem_append_right _ (List.mem_cons_of_mem _ hs)))
            (frames_suffix (l := h :: pre) hi x r rfl)⟩
  | kill _ => exact over rfl
  | popExit hc _ _ => exact over (unwind_exit_chained (hc ▸ hch).2)
  | forceQuit hc | enqAct hc | schedule hc | pushScr hc | replace hc _ | pop hc _ _ | restore hc _ =>
    exact plain [] hc rfl rfl (fun _ h => nomatch h) (fun _ h => nomatch h)
  | apprun hc =>
    cases chained_apprun (hc ▸ hch)
    exact frames_free (by simp)
  | @«open» rest s hc hf =>
    -- the `modalBegin` that was the newest modal event is now followed by the `openLevel`
    refine frames_push (B := [_]) hi hc hch rfl hev (frames_free (by simp)) fun e post _ hj => ?_
    obtain ⟨t0, ht0⟩ := hj
    refine ⟨v.runLoop, [], t0, ?_⟩
    show (Tr.openLevel v.nq v.runLoop :: v.ev).filter Tr.isModalEv = _
    rw [List.filter_cons]
    simp only [Tr.isModalEv, if_true, List.nil_append]
    exact congrArg _ ht0
  | pushModal hc =>
    refine frames_push (B := [_, _]) hi hc hch rfl hev ?_ fun e post _ _ => trivial
    refine And.intro (fun _ h => nomatch h) (And.intro (fun e he => ?_) trivial)
    cases he
    exact ⟨_, rfl⟩
  | closeScreen hc _ =>
    exact plain [_, _] hc rfl rfl (fun _ h => nomatch h) (fun _ h => nomatch h)
  | discard hc _ =>
    exact plain (if _ then _ else _) hc rfl (by split <;> rfl) (fun _ h => nomatch h) (fun _ h => nomatch h)
  | identSkip hc _ _ =>
    refine plain [] hc ?_ rfl (fun _ h => nomatch h) (fun _ h => nomatch h)
    show List.dropWhile _ _ = _
    rw [identSkip_chained (hc ▸ hch)]; rfl

theorem reach_frames {P : Prog} {c0 c : Cfg} (h0 : Started c0) (hr : Reach P c0 c) : FramesInv c.sv := by
  refine reach_sv_inv (H := fun _ => True) h0 hr (fun _ _ => trivial) ?_ (fun hb hi hs _ => frames_step hb hi hs) trivial
  obtain ⟨init, handlers, quitCb, stdin, rfl⟩ := h0
  refine frames_free fun i hi e he => ?_
  rcases List.mem_append.1 (show i ∈ init.map Instr.act ++ [Instr.apprun] from hi) with h | h
  · obtain ⟨a, _, rfl⟩ := List.mem_map.1 h; cases he
  · cases he ▸ List.mem_singleton.1 h

theorem modalEnd_step {P : Prog} {v v' : SV} {evs : List Tr} {e : Entry} (hs : SStepE P v evs v')
    (h : Tr.modalEnd e ∈ evs) : ∃ rest, v.code = .modalRet e :: rest := by
  obtain ⟨_, rest, hc, rfl⟩ := sstepE_origin hs _ h
  exact ⟨rest, hc⟩

theorem modalTr_shapeTr (l : List Tr) : modalTr (shapeTr l) = l.filter Tr.isModalEv := by
  unfold modalTr shapeTr
  rw [List.filter_filter]
  congr 1
  funext t
  cases t <;> rfl

theorem reach_fq_event {P : Prog} {c0 c : Cfg} (h0 : Started c0) (hr : Reach P c0 c)
    (hf : c.L.forceQuit = true) : Tr.forceQuit ∈ c.tr := by
  obtain ⟨init, handlers, quitCb, stdin, rfl⟩ := h0
  refine (mem_shapeTr.1 (reach_sv_induction (fun v => v.forceQuit = true → Tr.forceQuit ∈ v.ev) (by intro h; cases h)
    (fun v evs v' hi hs hf' => ?_) hr hf)).1
  rw [SStepE.ev_eq hs]
  cases hs with
  | forceQuit _ => exact List.mem_cons_self ..
  | apprun _ => cases hf'
  | raise _ _ | popExit _ _ _ | stutter | batch _ _ | halt _ _ | kill _ | enqAct _ | schedule _ | pushScr _ | replace _ _
  | restore _ _ | «open» _ _ | pop _ _ _ | pushModal _ | closeScreen _ _ | discard _ _ | identSkip _ _ _ =>
    exact List.mem_append_right _ (hi hf')

theorem reach_returned_closed {P : Prog} {c0 c : Cfg} (h0 : Started c0) (hr : Reach P c0 c) (hw : WFOpen c)
    {q : Nat} (hq : Tr.loopReturn q ∈ c.tr) : Tr.closeLevel q ∈ c.tr ∨ Tr.forceQuit ∈ c.tr := by
  revert hw hq
  refine reach_induction_trans (P := P) (c1 := c0)
    (motive := fun c => WFOpen c → Tr.loopReturn q ∈ c.tr → Tr.closeLevel q ∈ c.tr ∨ Tr.forceQuit ∈ c.tr) ?_ ?_ hr
  · intro _ hq; rw [h0.tr] at hq; cases hq
  · intro ca cb hra ht ih hw hq
    obtain ⟨n, hn⟩ := trans_grow ht
    have hwa : WFOpen ca := WFOpen.mono ⟨n, hn⟩ hw
    rw [hn] at hq ⊢
    refine ((List.mem_append.1 hq).elim (fun h1 => ?_) (ih hwa)).imp (List.mem_append_right _) (List.mem_append_right _)
    exact (blocks h0 hra ht hwa (by rw [newTr_of_grow hn]; exact h1)).2

theorem modal_blocks {P : Prog} {c0 c c' : Cfg} (h0 : Started c0) (hr : Reach P c0 c) (ht : Trans P c c')
    (hw : WFOpen c) (hf : NoForceQuit c) {e : Entry} (he : Tr.modalEnd e ∈ newTr c c') :
    ∃ q, OpenedFor q e c.tr ∧ Tr.loopReturn q ∈ c.tr ∧ Tr.closeLevel q ∈ c.tr := by
  obtain ⟨evs, hs, hev, _⟩ := trans_sstep ht
  obtain ⟨rest, hc⟩ := modalEnd_step hs ((mem_newTr_iff hev rfl).1 he)
  have hF : Frames c.sv none (.modalRet e :: rest) := hc ▸ reach_frames h0 hr
  rcases hF.1 e rfl with hfq | ⟨q, ⟨b, t1, t0, h1⟩, h2⟩
  · exact absurd (reach_fq_event h0 hr hfq) hf
  · have h2' : Tr.loopReturn q ∈ c.tr := (mem_shapeTr.1 h2).1
    exact ⟨q, ⟨b, t1, t0, (modalTr_shapeTr c.tr).symm.trans h1⟩, h2',
      (reach_returned_closed h0 hr hw h2').resolve_right hf⟩

end Shape

end Simpleline
