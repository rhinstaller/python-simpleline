/-
  C20d, MainLoop machine: what the instructions of a flat run do (micro steps), under the invariant of flat runs.
-/
import Simpleline.Lemmas.FlatBasic
import Simpleline.Lemmas.LoopQueue

namespace Simpleline.Flat
open Simpleline Simpleline.GLoop

theorem MSteps.trans {P : Prog} {a b c : Cfg} (h1 : MSteps P a b) (h2 : MSteps P b c) : MSteps P a c := by
  induction h1 with
  | refl => exact h2
  | head hs _ ih => exact .head hs (ih h2)

theorem MSteps.one {P : Prog} {c c' : Cfg} (h : step P c = .ok c') : MSteps P c c' := .head h (.refl _)

theorem MSteps.runFuel {P : Prog} {c c' : Cfg} (h : MSteps P c c') : ∃ k, ∀ j, runFuel P (k + j) c = runFuel P j c' := by
  induction h with
  | refl => exact ⟨0, fun j => by simp⟩
  | head hs _ ih =>
    obtain ⟨k, hk⟩ := ih
    refine ⟨k + 1, fun j => ?_⟩
    have : k + 1 + j = (k + j) + 1 := by omega
    rw [this, Simpleline.runFuel, hs]
    exact hk j

/-- one queue object (level 0, active) without sources, entries numbered below the arrival counter and flat; no force
quit; the handlers are the initial ones; no reader thread -/
structure MInv (hs : List (Cls × HRef × Option Nat)) (c : Cfg) : Prop where
  queues : ∃ q, c.L.queues = [q] ∧ q.sources = [] ∧
    ∀ x ∈ q.entries, x.2.1 < q.seq ∧ x.1 = x.2.2.prio ∧ sigOf (gsigOf x.2.2) = x.2.2
  levels : c.L.levels = [0]
  active : c.L.active = 0
  fq : c.L.forceQuit = false
  rl : c.L.runLoop = true
  handlers : c.L.handlers = baseH ++ hs
  readers : c.A.readers = []

/-- the machine state seen abstractly: pending signals, invocation counters, log -/
structure MSim (hs : List (Cls × HRef × Option Nat)) (c : Cfg) (st : List (Nat × Nat)) (queue : List GSig)
    (log : List Ev) : Prop where
  inv : MInv hs c
  q : mqueue c = queue
  cnt : ∀ hid, callCount c.tr hid = cntOf st hid
  log : c.log = log

variable {hs : List (Cls × HRef × Option Nat)} {c : Cfg} {st : List (Nat × Nat)} {q : List GSig} {lg : List Ev}

theorem emit_eq (P : Prog) (c : Cfg) (e : Ev) (hr : c.A.readers = []) : c.emit P e = { c with log := e :: c.log } := by
  simp only [Cfg.emit, Cfg.deliver, hr]
  split <;> rfl

theorem handlersOf_eq (h : MInv hs c) (k : Nat) :
    handlersOf c.L (.user k) = hsOf hs (.user k) := by
  show hsOf c.L.handlers (.user k) = _
  rw [h.handlers, hsOf_base]

theorem step_enq (P : Prog) (h : MSim hs c st q lg) (g : GSig) (rest : List Instr) (hc : c.code = .act (actOf g) :: rest) :
    ∃ c', step P c = .ok c' ∧ c'.code = rest ∧ MSim hs c' st (insertStable g q) lg := by
  obtain ⟨q0, hq, hsrc, hent⟩ := h.inv.queues
  have hq0 : q0.entries.map (fun x => gsigOf x.2.2) = q := by
    have := h.q
    simpa [mqueue, LoopSt.activeQ, hq, h.inv.active] using this
  refine ⟨{ c with code := rest, L := { c.L with queues := [q0.put (sigOf g)] }, tr := .enq 0 (sigOf g) :: c.tr }, ?_, rfl, ?_⟩
  · simp [step, hc, doAct, actOf, Cfg.enqueue, h.inv.fq, LoopSt.route, h.inv.levels, hq, hsrc, h.inv.active, listSet,
      sigOf]
  · refine ⟨⟨⟨_, rfl, hsrc, ?_⟩, h.inv.levels, h.inv.active, h.inv.fq, h.inv.rl, h.inv.handlers, h.inv.readers⟩, ?_, h.cnt, h.log⟩
    · intro x hx
      rcases mem_insertEntry.1 hx with rfl | hx
      · exact ⟨Nat.lt_succ_self _, rfl, rfl⟩
      · have := hent x hx
        exact ⟨Nat.lt_succ_of_lt this.1, this.2⟩
    · show (([q0.put (sigOf g)] : List EQueue).getD c.L.active {}).entries.map _ = _
      rw [h.inv.active, ← hq0]
      exact map_insertEntry (sigOf g) q0.seq q0.entries (fun x hx => ⟨(hent x hx).1, (hent x hx).2.1⟩)

theorem steps_enqs (P : Prog) (rest : List Instr) : ∀ (gs : List GSig) {c : Cfg} {q : List GSig}, MSim hs c st q lg →
    c.code = gs.map (fun g => Instr.act (actOf g)) ++ rest →
    ∃ c', MSteps P c c' ∧ c'.code = rest ∧ MSim hs c' st (gs.foldl (fun q e => insertStable e q) q) lg
  | [], c, q, h, hc => ⟨c, .refl _, hc, h⟩
  | g :: gs, c, q, h, hc => by
    obtain ⟨c1, hs1, hc1, h1⟩ := step_enq P h g _ hc
    obtain ⟨c2, hs2, hc2, h2⟩ := steps_enqs P rest gs h1 hc1
    exact ⟨c2, .head hs1 hs2, hc2, h2⟩

theorem step_callH (P : Prog) (h : MSim hs c st q lg) (hid : Nat) (d : Option Nat) (g : GSig) (rest : List Instr)
    (hc : c.code = .callH (.user hid) d (sigOf g) :: rest) :
    ∃ c', step P c = .ok c' ∧ c'.code = (P.handlerScript hid (cntOf st hid)).map .act ++ .hret hid :: rest ∧
      MSim hs c' (bumpSt st hid) q (.h hid g.id d 1 :: lg) := by
  refine ⟨{ c with code := (P.handlerScript hid (callCount c.tr hid)).map .act ++ .hret hid :: rest,
                   tr := .call (.user hid) d (sigOf g) :: c.tr, log := .h hid g.id d 1 :: c.log }, ?_, ?_, ?_⟩
  · simp only [step, hc, Cfg.trace]
    rw [emit_eq]
    · simp [push, h.inv.levels, callCount]
      rfl
    · exact h.inv.readers
  · show _ ++ _ = _
    rw [h.cnt]
  · refine ⟨⟨h.inv.queues, h.inv.levels, h.inv.active, h.inv.fq, h.inv.rl, h.inv.handlers, h.inv.readers⟩, h.q, ?_, ?_⟩
    · intro hid'
      rw [cntOf_bumpSt, ← h.cnt, ← h.cnt]
      show (List.filter _ (_ :: c.tr)).length = _
      rw [List.filter_cons]
      by_cases hh : hid' = hid
      · subst hh; simp [callCount]
      · have : ¬ hid = hid' := fun e => hh e.symm
        simp [callCount, hh, this]
    · show _ :: c.log = _
      rw [h.log]

end Simpleline.Flat
