/-
  What one step does to the scheduler's state and to the code, for every instruction (`step_eff`): the new stack,
  screens table and return registers as functions of the old configuration, the scheduler events and callback events
  added (`SEff`), and what is put in front of the code (`PushedBy`). Loop instructions are covered by `step_loopish`.
-/
import Simpleline.Lemmas.SchedStep

namespace Simpleline

/-- stack and next entry identity after the step out of `c`: the stack operation of the specification that the
head instruction stands for (`c.stackOp`) is applied; if there is none, or the specification refuses it, both stay -/
def Cfg.stackAfter (c : Cfg) : List Entry × Nat :=
  match c.stackOp with
  | none => (c.A.stack, c.A.nextEid)
  | some op =>
    match op.apply c.A.nextEid c.A.stack with
    | none => (c.A.stack, c.A.nextEid)
    | some s' => (s', if op.creates then c.A.nextEid + 1 else c.A.nextEid)

def Cfg.opEvs (c : Cfg) : List Tr :=
  match c.stackOp with
  | none => []
  | some op =>
    match op.apply c.A.nextEid c.A.stack with
    | none => []
    | some s' => [.stackOp op.name s']

def Cfg.schedEvs (c : Cfg) : List Tr :=
  match c.code with
  | .afterSetup2 top :: _ => [.refresh top]
  | .drawScreen top :: _ => [.show top]
  | _ => c.opEvs

/-- the screens table after the step out of `c`: only a callback (its counter), the return from `setup` (the
ready flag), `getInput2` (rejection counter or input arguments) and `countAndAct` (rejection counter) write a
screen object -/
def Cfg.screensAfter (c : Cfg) : List ScreenObj :=
  match c.code with
  | .callScr scr cb _ _ :: _ => (c.A.setScr scr fun s => { s with counts := bump s.counts cb }).screens
  | .scrRet scr .setup ret _ :: _ =>
    if ret = .failBefore then c.A.screens else (c.A.setScr scr fun s => { s with ready := true }).screens
  | .getInput2 scr args :: _ =>
    if c.retPromptNone then (c.A.setScr scr fun s => { s with err := 0 }).screens
    else (c.A.setScr scr fun s => { s with inputArgs := args }).screens
  | .countAndAct scr :: rest => (c.counted scr rest).A.screens
  | _ => c.A.screens

def Cfg.cbEvs (c : Cfg) : List Ev :=
  match c.code with
  | .callScr scr cb arg key :: _ => [.cb scr cb arg key]
  | _ => []

def Cfg.retSetupAfter (c : Cfg) : Bool :=
  match c.code with
  | .scrRet _ .setup ret _ :: _ => decide (ret ≠ .failBefore ∧ ret ≠ .failAfter)
  | _ => c.retSetup

def Cfg.retPromptNoneAfter (c : Cfg) : Bool :=
  match c.code with
  | .scrRet _ .prompt ret _ :: _ => decide (ret = .promptNone)
  | _ => c.retPromptNone

def Cfg.retInputAfter (c : Cfg) : Ret × Str :=
  match c.code with
  | .scrRet _ .input ret key :: _ => (ret, key.getD [])
  | _ => (c.retInput, c.retKey)

def Cfg.retActionAfter (c : Cfg) : UAction :=
  match c.code with
  | .classify _ :: _ => classifyRet c.retInput c.retKey
  | _ => c.retAction

def Cfg.viewAfter (c : Cfg) : SView :=
  ⟨c.stackAfter.1, c.stackAfter.2, c.screensAfter, c.retSetupAfter, c.retPromptNoneAfter, c.retInputAfter.1,
   c.retInputAfter.2, c.retActionAfter, c.schedEvs ++ schedTr c.tr⟩

/-- `c'` is what the step out of `c` makes of the scheduler's state. For a `c` whose code is written
out and a `c'` that is a record update of it, `view` and `cbs` hold by `rfl` unless the step looks at
the state. -/
structure SEff (c c' : Cfg) : Prop where
  view : c'.sview = c.viewAfter
  cbs : cbLog c'.log = c.cbEvs ++ cbLog c.log
  tr : c.tr <:+ c'.tr
  log : c.log <:+ c'.log

namespace SEff
variable {c c' c'' : Cfg}

theorem stack (h : SEff c c') : (c'.A.stack, c'.A.nextEid) = c.stackAfter :=
  congrArg (fun v => (v.stack, v.nextEid)) h.view
theorem sched (h : SEff c c') : schedTr c'.tr = c.schedEvs ++ schedTr c.tr := congrArg SView.sched h.view
theorem screens (h : SEff c c') : c'.A.screens = c.screensAfter := congrArg SView.screens h.view

theorem frame (hf : SFrame c'' c') (h : SEff c c') : SEff c c'' :=
  ⟨hf.view.trans h.view, hf.cbs.trans h.cbs, h.tr.trans hf.tr, h.log.trans hf.log⟩

theorem of_stack {st : List Entry × Nat} {evs : List Tr} (h : c.stackAfter = st ∧ c.schedEvs = evs)
    (hv : c'.sview = { c.viewAfter with stack := st.1, nextEid := st.2, sched := evs ++ schedTr c.tr })
    (hlog : c'.log = c.log) (hcb : c.cbEvs = []) (htr : c.tr <:+ c'.tr) : SEff c c' := by
  obtain ⟨rfl, rfl⟩ := h
  exact ⟨hv, by rw [hlog, hcb]; rfl, htr, hlog ▸ List.suffix_refl _⟩

end SEff

theorem Cfg.stackAfter_none {c : Cfg} (hop : c.stackOp = none) :
    c.stackAfter = (c.A.stack, c.A.nextEid) ∧ c.opEvs = [] := by
  simp only [Cfg.stackAfter, Cfg.opEvs, hop, and_self]

theorem Cfg.stackAfter_refused {c : Cfg} {op : Spec.Op} (hop : c.stackOp = some op)
    (ha : op.apply c.A.nextEid c.A.stack = none) : c.stackAfter = (c.A.stack, c.A.nextEid) ∧ c.opEvs = [] := by
  simp only [Cfg.stackAfter, Cfg.opEvs, hop, ha, and_self]

theorem Cfg.stackAfter_apply {c : Cfg} {op : Spec.Op} {s' : Spec.Stack} (hop : c.stackOp = some op)
    (ha : op.apply c.A.nextEid c.A.stack = some s') :
    c.stackAfter = (s', if op.creates then c.A.nextEid + 1 else c.A.nextEid) ∧ c.opEvs = [.stackOp op.name s'] := by
  simp only [Cfg.stackAfter, Cfg.opEvs, hop, ha, and_self]

theorem Cfg.opStep (c : Cfg) :
    (c.stackAfter = (c.A.stack, c.A.nextEid) ∧ c.opEvs = []) ∨
    ∃ op s', c.stackOp = some op ∧ op.apply c.A.nextEid c.A.stack = some s' ∧
      c.stackAfter = (s', if op.creates then c.A.nextEid + 1 else c.A.nextEid) ∧ c.opEvs = [.stackOp op.name s'] := by
  cases hop : c.stackOp with
  | none => exact .inl (stackAfter_none hop)
  | some op =>
    cases ha : op.apply c.A.nextEid c.A.stack with
    | none => exact .inl (stackAfter_refused hop ha)
    | some s' => exact .inr ⟨op, s', rfl, ha, stackAfter_apply hop ha⟩

theorem Cfg.schedEvs_eq (c : Cfg) :
    (∃ top rest, c.code = .afterSetup2 top :: rest ∧ c.schedEvs = [.refresh top] ∧ c.opEvs = []) ∨
    (∃ top rest, c.code = .drawScreen top :: rest ∧ c.schedEvs = [.show top] ∧ c.opEvs = []) ∨
    c.schedEvs = c.opEvs := by
  unfold Cfg.schedEvs
  split
  next hc => exact .inl ⟨_, _, hc, rfl, (stackAfter_none (by simp only [Cfg.stackOp, hc])).2⟩
  next hc => exact .inr (.inl ⟨_, _, hc, rfl, (stackAfter_none (by simp only [Cfg.stackOp, hc])).2⟩)
  · exact .inr (.inr rfl)

theorem schedEvs_cases (c : Cfg) :
    c.schedEvs = [] ∨ (∃ top rest, c.code = .afterSetup2 top :: rest ∧ c.schedEvs = [.refresh top]) ∨
    (∃ top rest, c.code = .drawScreen top :: rest ∧ c.schedEvs = [.show top]) ∨
    (∃ w s, c.schedEvs = [.stackOp w s]) := by
  rcases c.schedEvs_eq with ⟨top, rest, hc, h, -⟩ | ⟨top, rest, hc, h, -⟩ | h
  · exact .inr (.inl ⟨top, rest, hc, h⟩)
  · exact .inr (.inr (.inl ⟨top, rest, hc, h⟩))
  · rcases c.opStep with ⟨-, h'⟩ | ⟨op, s', -, -, -, h'⟩
    · exact .inl (h.trans h')
    · exact .inr (.inr (.inr ⟨_, _, h.trans h'⟩))

structure Idle (c : Cfg) : Prop where
  view : c.viewAfter = c.sview
  cbs : c.cbEvs = []

theorem Idle.eff {c c' : Cfg} (h : Idle c) (hf : SFrame c' c) : SEff c c' :=
  ⟨hf.view.trans h.view.symm, by rw [hf.cbs, h.cbs]; rfl, hf.tr, hf.log⟩

theorem loopish_idle (c : Cfg) {ins : Instr} (rest : List Instr) (hl : ins.loopish = true) :
    Idle { c with code := ins :: rest } := by
  cases ins
  case act a => cases a <;> first | (cases hl; done) | exact ⟨rfl, rfl⟩
  all_goals first | (cases hl; done) | exact ⟨rfl, rfl⟩

/-- what the scheduler's own instructions put in front of the code (the control flow of
`ScreenScheduler` and `InputManager`/`process_input`) -/
def SPushed (P : Prog) (c : Cfg) : Instr → List Instr → Prop
  | .pushModal scr args, p =>
    ∃ s, p = [.newLoop s, .modalRet { eid := c.A.nextEid, screen := scr, args := args, modal := true }]
  | .closeScreen frm, p =>
    p = [] ∨ ∃ e, c.A.stack.getLast? = some e ∧ (frm = none ∨ frm = some (.scr e.screen)) ∧
      p = [.callScr e.screen .closed none none, .closeScreen2 e frm]
  | .closeScreen2 e _, p => p = [] ∨ p = [.closeLoop, .closeScreen3 e] ∨ p = [.closeScreen3 e]
  | .processScreen, p =>
    p = [] ∨ ∃ top, c.A.stack.getLast? = some top ∧
      (((c.A.scr top.screen).ready = true ∧ p = [.afterSetup2 top]) ∨
       ((c.A.scr top.screen).ready = false ∧ p = [.callScr top.screen .setup top.args none, .afterSetup top]))
  | .afterSetup top, p =>
    (c.retSetup = true ∧ p = [.afterSetup2 top]) ∨
    (c.retSetup = false ∧ (p = [] ∨ ∃ e, c.A.stack.getLast? = some e ∧ p = [.closeLoop, .afterSetupFail e]))
  | .afterSetup2 top, p => p = [.callScr top.screen .refresh top.args none, .identCheck top, .catchPS]
  | .identCheck top, p =>
    p = [] ∨ ∃ l, c.A.stack.getLast? = some l ∧ l.eid = top.eid ∧ p = [.drawScreen top, .maybeInput top]
  | .drawScreen top, p => p = [.callScr top.screen .show none none, .catchDraw]
  | .maybeInput top, p => p = [] ∨ p = [.getInput top.screen top.args]
  | .callScr scr cb _ key, p =>
    ∃ pre acts ret, (pre = [] ∨ pre = [.printWidget scr]) ∧ p = pre ++ List.map Instr.act acts ++ [.scrRet scr cb ret key]
  | .getInput scr args, p => p = [.callScr scr .prompt args none, .getInput2 scr args]
  | .processInput scr key, p =>
    p = [.callScr scr .input (c.A.scr scr).inputArgs (some key), .classify scr, .catchPI scr, .countAndAct scr, .endPI]
  | .countAndAct _, p =>
    p = [] ∨ (∃ top, c.A.stack.getLast? = some top ∧ p = [.getInput top.screen top.args]) ∨ p = [.closeScreen none] ∨
      ∃ q, P.quitScreen = some q ∧ p = [.pushModal q none, .afterQuit q]
  | _, p => p = []

/-- what an instruction may push: loop instructions push only instructions that are not continuations
of scheduler frames; the scheduler's own instructions push what `SPushed` says -/
def Pushed (P : Prog) (c : Cfg) (ins : Instr) (pushed : List Instr) : Prop :=
  if ins.loopish then ∀ i ∈ pushed, i.external = true else SPushed P c ins pushed

/-- what `ins`, executed in `c`, may put in front of the code: `external` instructions (all a loop instruction pushes, and
the empty and external pushes of the scheduler's own instructions), or one of the lists of scheduler instructions that `SPushed`
names, one constructor each -/
inductive PushedBy (P : Prog) (c : Cfg) : Instr → List Instr → Prop
  | external {ins is} (h : ∀ i ∈ is, i.external = true) : PushedBy P c ins is
  | pushModal {scr args s} :
    PushedBy P c (.pushModal scr args) [.newLoop s, .modalRet { eid := c.A.nextEid, screen := scr, args := args, modal := true }]
  | close {frm e} (he : c.A.stack.getLast? = some e) (hacc : frm = none ∨ frm = some (.scr e.screen)) :
    PushedBy P c (.closeScreen frm) [.callScr e.screen .closed none none, .closeScreen2 e frm]
  | closeModal {e frm} : PushedBy P c (.closeScreen2 e frm) [.closeLoop, .closeScreen3 e]
  | closePlain {e frm} : PushedBy P c (.closeScreen2 e frm) [.closeScreen3 e]
  | ready {top} (ht : c.A.stack.getLast? = some top) (hr : (c.A.scr top.screen).ready = true) :
    PushedBy P c .processScreen [.afterSetup2 top]
  | setup {top} (ht : c.A.stack.getLast? = some top) (hr : (c.A.scr top.screen).ready = false) :
    PushedBy P c .processScreen [.callScr top.screen .setup top.args none, .afterSetup top]
  | setupOk {top} (h : c.retSetup = true) : PushedBy P c (.afterSetup top) [.afterSetup2 top]
  | discardModal {top e} (h : c.retSetup = false) (he : c.A.stack.getLast? = some e) :
    PushedBy P c (.afterSetup top) [.closeLoop, .afterSetupFail e]
  | refresh {top} : PushedBy P c (.afterSetup2 top) [.callScr top.screen .refresh top.args none, .identCheck top, .catchPS]
  | draw {top l} (hl : c.A.stack.getLast? = some l) (heid : l.eid = top.eid) :
    PushedBy P c (.identCheck top) [.drawScreen top, .maybeInput top]
  | show {top} : PushedBy P c (.drawScreen top) [.callScr top.screen .show none none, .catchDraw]
  | input {top} : PushedBy P c (.maybeInput top) [.getInput top.screen top.args]
  | callScr {scr cb a key pre acts ret} (hpre : pre = [] ∨ pre = [.printWidget scr]) :
    PushedBy P c (.callScr scr cb a key) (pre ++ List.map Instr.act acts ++ [.scrRet scr cb ret key])
  | prompt {scr args} : PushedBy P c (.getInput scr args) [.callScr scr .prompt args none, .getInput2 scr args]
  | processInput {scr key} :
    PushedBy P c (.processInput scr key)
      [.callScr scr .input (c.A.scr scr).inputArgs (some key), .classify scr, .catchPI scr, .countAndAct scr, .endPI]
  | again {scr top} (ht : c.A.stack.getLast? = some top) : PushedBy P c (.countAndAct scr) [.getInput top.screen top.args]
  | quit {scr q} (hq : P.quitScreen = some q) : PushedBy P c (.countAndAct scr) [.pushModal q none, .afterQuit q]

structure StepEff (P : Prog) (c c' : Cfg) (ins : Instr) (rest : List Instr) : Prop where
  state : SEff c c'
  code : ∃ pushed, CodeStep c' rest pushed ∧ PushedBy P c ins pushed

namespace StepEff
variable {P : Prog} {c c' : Cfg} {ins : Instr} {rest : List Instr}

theorem suffix (h : SEff c c') (hcode : c'.code <:+ rest) : StepEff P c c' ins rest :=
  ⟨h, [], .of_suffix hcode, .external fun _ h => absurd h List.not_mem_nil⟩

theorem next (h : SEff c c') (hcode : c'.code = rest) : StepEff P c c' ins rest :=
  suffix h (hcode ▸ List.suffix_refl _)

theorem push {is : List Instr} (hp : PushedBy P c ins is) (h : SEff c c') (hcode : c'.code = rest) :
    StepEff P c (push c' is) ins rest :=
  ⟨h.frame ((SFrame.refl c').push is), is, .of_eq (congrArg (is ++ ·) hcode), hp⟩

theorem raised (k : Kind) (h : SEff c c') (hcode : c'.code = rest) : StepEff P c (raised k c') ins rest :=
  suffix (h.frame (.raised k c')) (hcode ▸ raised_code_suffix k c')

theorem redraw (h : SEff c c') (hcode : c'.code = rest) : StepEff P c c'.redraw ins rest :=
  next (h.frame (.redraw c')) ((redraw_code c').trans hcode)

end StepEff

theorem Spec.Stack.close_none {s : Spec.Stack} (frm : Option Src) (he : s.getLast? = none) : s.close frm = none := by
  simp only [Spec.Stack.close, Spec.Stack.top, he]

theorem Spec.Stack.close_refused {s : Spec.Stack} {e : Entry} {frm : Option Src} (he : s.getLast? = some e)
    (hrf : frm ≠ none ∧ frm ≠ some (.scr e.screen)) : s.close frm = none := by
  simp only [Spec.Stack.close, Spec.Stack.top, he, if_pos hrf]

theorem Spec.Stack.close_top {s : Spec.Stack} {e : Entry} {frm : Option Src} (he : s.getLast? = some e)
    (hacc : ¬ (frm ≠ none ∧ frm ≠ some (.scr e.screen))) : s.close frm = some s.dropLast := by
  simp only [Spec.Stack.close, Spec.Stack.top, he, if_neg hacc, Spec.Stack.beneath]

theorem Spec.Stack.replace_none {s : Spec.Stack} (eid scr : Nat) (args : Option Nat) (he : s.getLast? = none) :
    s.replace eid scr args = none := by
  simp only [Spec.Stack.replace, Spec.Stack.top, he, Option.map_none]

theorem Spec.Stack.replace_top {s : Spec.Stack} {old : Entry} (eid scr : Nat) (args : Option Nat) (he : s.getLast? = some old) :
    s.replace eid scr args = some (s.dropLast ++ [{ eid := eid, screen := scr, args := args, modal := old.modal }]) := by
  simp only [Spec.Stack.replace, Spec.Stack.top, he, Option.map_some, Spec.Stack.beneath]

theorem Spec.Stack.pop_none {s : Spec.Stack} (he : s.getLast? = none) : s.pop = none := by
  simp only [Spec.Stack.pop, Spec.Stack.top, he, Option.map_none]

theorem Spec.Stack.pop_top {s : Spec.Stack} {e : Entry} (he : s.getLast? = some e) : s.pop = some s.dropLast := by
  simp only [Spec.Stack.pop, Spec.Stack.top, he, Option.map_some, Spec.Stack.beneath]

/-- The scheduler's own instructions, one by one. The configuration is written with its code spelled
out, so that the functions of `viewAfter` compute: `⟨rfl, rfl, ⟨evs, rfl⟩, ⟨es, rfl⟩⟩` is the `SEff` of a
record update that puts `evs` in front of the trace and `es` in front of the log; where the step
looks at the stack, `of_stack` takes the effect of the stack operation from the ideal stack. -/
theorem step_sched (P : Prog) (c : Cfg) (ins : Instr) (rest : List Instr) (hl : ins.loopish = false) :
    StepEff P { c with code := ins :: rest } (sOutCfg (step P { c with code := ins :: rest })) ins rest := by
  have idle : ∀ {ins}, Idle { c with code := ins :: rest } → SEff { c with code := ins :: rest } { c with code := rest } :=
    fun h => h.eff (.of_view rfl rfl ⟨[], rfl⟩)
  cases ins
  all_goals first | (cases hl; done) | simp only [step]
  case act a =>
    cases a
    all_goals first | (cases hl; done) | simp only [doAct]
    case schedule scr args =>
      split
      · exact .next ⟨rfl, rfl, ⟨[_], rfl⟩, ⟨[], rfl⟩⟩ rfl
      · exact .next (.frame (.trans (c' := Cfg.redraw _) (.of_view rfl rfl ⟨[], rfl⟩) (.redraw _)) ⟨rfl, rfl, ⟨[_], rfl⟩, ⟨[], rfl⟩⟩)
          (redraw_code _)
    case push scr args => exact .redraw ⟨rfl, rfl, ⟨[_], rfl⟩, ⟨[], rfl⟩⟩ rfl
    case replace scr args =>
      have hop : Cfg.stackOp { c with code := .act (.replace scr args) :: rest } = some (.replace scr args) := rfl
      split
      next he =>
        have h := Cfg.stackAfter_refused hop (Spec.Stack.replace_none _ scr args he)
        exact .raised _ (.of_stack h rfl rfl rfl ⟨[], rfl⟩) rfl
      next old he =>
        have h := Cfg.stackAfter_apply hop (Spec.Stack.replace_top _ scr args he)
        exact .redraw (.of_stack h rfl rfl rfl ⟨[_], rfl⟩) rfl
  case pushModal scr args => exact .push .pushModal ⟨rfl, rfl, ⟨[_, _], rfl⟩, ⟨[], rfl⟩⟩ rfl
  case closeScreen frm =>
    have hop : Cfg.stackOp { c with code := .closeScreen frm :: rest } = some (.close frm) := rfl
    split
    next he =>
      have h := Cfg.stackAfter_refused hop (Spec.Stack.close_none frm he)
      exact .raised _ (.of_stack h rfl rfl rfl ⟨[], rfl⟩) rfl
    next e he =>
      split
      next hrf =>
        have h := Cfg.stackAfter_refused hop (Spec.Stack.close_refused he hrf)
        exact .raised _ (.of_stack h rfl rfl rfl ⟨[], rfl⟩) rfl
      next hacc =>
        have h := Cfg.stackAfter_apply hop (Spec.Stack.close_top he hacc)
        exact .push (.close he (Decidable.or_iff_not_not_and_not.2 hacc)) (.of_stack h rfl rfl rfl ⟨[_], rfl⟩) rfl
  case closeScreen2 e frm =>
    have h0 := idle (ins := .closeScreen2 e frm) ⟨rfl, rfl⟩
    split
    · exact .raised _ h0 rfl
    · split
      · exact .push .closeModal h0 rfl
      · exact .push .closePlain h0 rfl
  case processScreen =>
    have h0 := idle (ins := .processScreen) ⟨rfl, rfl⟩
    split
    · exact .raised _ h0 rfl
    next top ht =>
      split
      next hr => exact .push (.ready ht hr) h0 rfl
      next hr => exact .push (.setup ht (Bool.eq_false_iff.2 hr)) h0 rfl
  case afterSetup top =>
    split
    next hrs =>
      have h := Cfg.stackAfter_none (c := { c with code := .afterSetup top :: rest }) (if_pos hrs)
      exact .push (.setupOk hrs) (.of_stack h rfl rfl rfl ⟨[], rfl⟩) rfl
    next hrs =>
      have hop : Cfg.stackOp { c with code := .afterSetup top :: rest } = some .discard := if_neg hrs
      split
      next he =>
        have h := Cfg.stackAfter_refused hop (Spec.Stack.pop_none he)
        exact .raised _ (.of_stack h rfl rfl rfl ⟨[], rfl⟩) rfl
      next e he =>
        have h := Cfg.stackAfter_apply hop (Spec.Stack.pop_top he)
        split
        · exact .push (.discardModal (Bool.eq_false_iff.2 hrs) he) (.of_stack h rfl rfl rfl ⟨[_], rfl⟩) rfl
        · exact .redraw (.of_stack h rfl rfl rfl ⟨[_], rfl⟩) rfl
  case afterSetup2 top => exact .push .refresh ⟨rfl, rfl, ⟨[_], rfl⟩, ⟨[], rfl⟩⟩ rfl
  case identCheck top =>
    have h0 := idle (ins := .identCheck top) ⟨rfl, rfl⟩
    split
    · exact .raised _ h0 rfl
    next l hl =>
      split
      next hne => exact .suffix (Idle.eff ⟨rfl, rfl⟩ (.of_view rfl rfl ⟨[], rfl⟩)) (List.dropWhile_suffix _)
      next heq => exact .push (.draw hl (Decidable.of_not_not heq)) h0 rfl
  case drawScreen top => split <;> exact .push .show ⟨rfl, rfl, ⟨[_], rfl⟩, ⟨[], rfl⟩⟩ rfl
  case maybeInput top =>
    have h0 := idle (ins := .maybeInput top) ⟨rfl, rfl⟩
    split
    · exact .push .input h0 rfl
    · exact .next h0 rfl
  case callScr scr cb arg key =>
    exact .push (.callScr (by split; exact .inr rfl; exact .inl rfl)) (.frame (.emitted _ _ _) ⟨rfl, rfl, ⟨[], rfl⟩, ⟨[_], rfl⟩⟩) (emit_code _ _ _)
  case scrRet scr cb ret key =>
    cases cb <;> dsimp only
    case setup => cases ret <;> exact .next ⟨rfl, rfl, ⟨[], rfl⟩, ⟨[], rfl⟩⟩ rfl
    all_goals exact .next ⟨rfl, rfl, ⟨[], rfl⟩, ⟨[], rfl⟩⟩ rfl
  case getInput scr args => exact .push .prompt (idle ⟨rfl, rfl⟩) rfl
  case processInput scr key => exact .push .processInput (idle ⟨rfl, rfl⟩) rfl
  case classify scr => exact .next ⟨rfl, rfl, ⟨[], rfl⟩, ⟨[], rfl⟩⟩ rfl
  case getInput2 scr args =>
    generalize c.retPromptNone = b
    cases b
    · exact .suffix (.frame (.startRequest _ _ _ _) ⟨rfl, rfl, ⟨[], rfl⟩, ⟨[], rfl⟩⟩) (startRequest_code_suffix _ _ _ _)
    · exact .next ⟨rfl, rfl, ⟨[], rfl⟩, ⟨[], rfl⟩⟩ rfl
  case countAndAct scr =>
    have h1 : SEff { c with code := .countAndAct scr :: rest } (Cfg.counted { c with code := .countAndAct scr :: rest } scr rest) :=
      ⟨rfl, rfl, ⟨[], rfl⟩, ⟨[], rfl⟩⟩
    generalize c.retAction = a at h1 ⊢
    split
    · exact .raised _ h1 rfl
    next top ht =>
      cases a <;> simp only [↓reduceIte, reduceCtorEq]
      · split
        · exact .redraw h1 rfl
        · exact .push (.again ht) h1 rfl
      · exact .next h1 rfl
      · exact .redraw h1 rfl
      · exact .push (.external fun _ h => List.mem_singleton.1 h ▸ rfl) h1 rfl
      · split
        next q hq => exact .push (.quit hq) h1 rfl
        · exact .raised _ h1 rfl
  case afterQuit q =>
    have h0 := idle (ins := .afterQuit q) ⟨rfl, rfl⟩
    split
    · exact .raised _ h0 rfl
    · exact .raised _ h0 rfl
    · exact .redraw h0 rfl

theorem step_eff (P : Prog) (c : Cfg) (ins : Instr) (rest : List Instr) (hc : c.code = ins :: rest) :
    StepEff P c (sOutCfg (step P c)) ins rest := by
  rw [show c = { c with code := ins :: rest } by rw [← hc]]
  cases hl : ins.loopish
  · exact step_sched P c ins rest hl
  · have h := step_loopish P { c with code := ins :: rest } ins rest rfl hl
    obtain ⟨pushed, hcode, hext⟩ := h.code
    exact ⟨(loopish_idle c rest hl).eff h.frame, pushed, hcode, .external hext⟩

theorem step_state (P : Prog) (c : Cfg) : SEff c (sOutCfg (step P c)) := by
  rcases hc : c.code with _ | ⟨ins, rest⟩
  · rw [Machine.step_nil hc, sOutCfg_error, show c = { c with code := [] } by rw [← hc]]
    exact Idle.eff ⟨rfl, rfl⟩ (.refl _)
  · exact (step_eff P c ins rest hc).state

theorem step_scr (P : Prog) (c : Cfg) (i : Nat) : (sOutCfg (step P c)).A.scr i = c.screensAfter.getD i {} :=
  congrArg (·.getD i {}) (step_state P c).screens

theorem step_rets (P : Prog) (c : Cfg) :
    (sOutCfg (step P c)).retSetup = c.retSetupAfter ∧
    (sOutCfg (step P c)).retPromptNone = c.retPromptNoneAfter ∧
    ((sOutCfg (step P c)).retInput, (sOutCfg (step P c)).retKey) = c.retInputAfter ∧
    (sOutCfg (step P c)).retAction = c.retActionAfter :=
  have h := (step_state P c).view
  ⟨congrArg SView.retSetup h, congrArg SView.retPromptNone h, congrArg (fun v => (v.retInput, v.retKey)) h,
   congrArg SView.retAction h⟩

end Simpleline
