/-
  Every transition is an `Eff` of the view (`trans_eff`), and what the micro-operations of LoopOps do to queues, levels,
  sources and the trace; `Static`: the transitions that leave the level list and the flags alone.
-/
import Simpleline.Lemmas.LoopStep
import Simpleline.Lemmas.Reach
import Simpleline.Lemmas.Store

namespace Simpleline

theorem trans_eff {P : Prog} {c c' : Cfg} (h : Trans P c c') : Eff c c' := by
  cases h with
  | step hs | halt hs =>
    have := step_eff P c
    rw [hs] at this
    exact this
  | deliver hd => exact .inl (Plain.deliver hd Plain.rfl')

theorem getD_append_default {α} (l : List α) (d : α) (j : Nat) : (l ++ [d]).getD j d = l.getD j d :=
  getD_append_replicate l 1 j d

theorem queue_of_le {v : QView} {q : Nat} (h : v.queues.length ≤ q) : v.queue q = {} := by
  unfold QView.queue
  rw [List.getD_eq_getElem?_getD, List.getElem?_eq_none h]; rfl

@[simp] theorem enq_levels (v : QView) (s : Sig) : (v.enq s).levels = v.levels := by
  unfold QView.enq; split <;> rfl
@[simp] theorem enq_active (v : QView) (s : Sig) : (v.enq s).active = v.active := by
  unfold QView.enq; split <;> rfl
@[simp] theorem enq_runLoop (v : QView) (s : Sig) : (v.enq s).runLoop = v.runLoop := by
  unfold QView.enq; split <;> rfl
@[simp] theorem enq_forceQuit (v : QView) (s : Sig) : (v.enq s).forceQuit = v.forceQuit := by
  unfold QView.enq; split <;> rfl
@[simp] theorem enq_length (v : QView) (s : Sig) : (v.enq s).queues.length = v.queues.length := by
  unfold QView.enq; split <;> simp

theorem enq_tr (v : QView) (s : Sig) :
    (v.enq s).tr = (if v.forceQuit then Tr.dropped s else Tr.enq (v.route s.src) s) :: v.tr := by
  unfold QView.enq; split <;> rfl

theorem enq_queue (v : QView) (s : Sig) (q : Nat) :
    (v.enq s).queue q =
      if v.forceQuit = false ∧ v.route s.src = q ∧ q < v.queues.length then (v.queue q).put s else v.queue q := by
  unfold QView.enq
  split
  · rename_i h; simp [h]; rfl
  · rename_i h
    simp only [QView.queue, listSet_getD]
    simp [h]

theorem enq_sources (v : QView) (s : Sig) (q : Nat) : ((v.enq s).queue q).sources = (v.queue q).sources := by
  rw [enq_queue]; split <;> rfl

theorem enq_entries_sub (v : QView) (s : Sig) (q : Nat) :
    (v.queue q).entries.Sublist ((v.enq s).queue q).entries := by
  rw [enq_queue]; split
  · exact insertEntry_sublist _ _
  · exact List.Sublist.refl _

theorem route_mem (v : QView) (src : Src) : v.route src ∈ v.levels ∨ v.route src = v.active := by
  unfold QView.route
  split
  · rename_i q h
    have := List.mem_of_find?_eq_some h
    exact .inl (by simpa using this)
  · exact .inr rfl

/-- what a chain of enqueues and uninteresting trace events leaves alone (`EnqSteps.static`) -/
structure Static (v v' : QView) : Prop where
  levels : v'.levels = v.levels
  active : v'.active = v.active
  runLoop : v'.runLoop = v.runLoop
  forceQuit : v'.forceQuit = v.forceQuit
  length : v'.queues.length = v.queues.length
  sources : ∀ q, (v'.queue q).sources = (v.queue q).sources

theorem Static.rfl' {v : QView} : Static v v := ⟨rfl, rfl, rfl, rfl, rfl, fun _ => rfl⟩

theorem Static.trans {v v' v'' : QView} (h : Static v v') (h' : Static v' v'') : Static v v'' :=
  ⟨h'.levels.trans h.levels, h'.active.trans h.active, h'.runLoop.trans h.runLoop,
    h'.forceQuit.trans h.forceQuit, h'.length.trans h.length, fun q => (h'.sources q).trans (h.sources q)⟩

theorem enq_static (v : QView) (s : Sig) : Static v (v.enq s) :=
  ⟨enq_levels v s, enq_active v s, enq_runLoop v s, enq_forceQuit v s, enq_length v s, enq_sources v s⟩

theorem note_static (v : QView) (t : Tr) : Static v (v.note t) := ⟨rfl, rfl, rfl, rfl, rfl, fun _ => rfl⟩

theorem Static.route {v v' : QView} (h : Static v v') (src : Src) : v'.route src = v.route src := by
  have hs : (fun q => (v'.queues.getD q {}).sources.contains src) =
      (fun q => (v.queues.getD q {}).sources.contains src) :=
    funext fun q => congrArg (·.contains src) (h.sources q)
  unfold QView.route
  rw [h.levels, h.active, hs]

theorem EnqSteps.static {v v' : QView} (h : EnqSteps v v') : Static v v' := by
  induction h with
  | refl => exact .rfl'
  | enq s _ ih => exact ih.trans (enq_static _ s)
  | note t _ _ ih => exact ih.trans (note_static _ t)

theorem EnqSteps.sub {v v' : QView} (h : EnqSteps v v') (q : Nat) :
    (v.queue q).entries.Sublist (v'.queue q).entries := by
  induction h with
  | refl => exact List.Sublist.refl _
  | enq s _ ih => exact ih.trans (enq_entries_sub _ s q)
  | note t _ _ ih => exact ih

def EnqEv (v : QView) (t : Tr) : Prop :=
  t.boring = true ∨ (∃ s, t = .dropped s ∧ v.forceQuit = true) ∨
    (∃ s, t = .enq (v.route s.src) s ∧ v.forceQuit = false)

theorem EnqEv.congr {v v' : QView} (st : Static v v') {t : Tr} (h : EnqEv v t) : EnqEv v' t := by
  rcases h with h | ⟨s, rfl, hf⟩ | ⟨s, rfl, hf⟩
  · exact .inl h
  · exact .inr (.inl ⟨s, rfl, by rw [st.forceQuit]; exact hf⟩)
  · exact .inr (.inr ⟨s, by rw [st.route], by rw [st.forceQuit]; exact hf⟩)

/-- the events of a chain of enqueues, read at its end (levels, flags and sources are those of its start) -/
theorem EnqSteps.tr {v v' : QView} (h : EnqSteps v v') :
    ∃ new, v'.tr = new ++ v.tr ∧ ∀ t ∈ new, EnqEv v' t := by
  induction h with
  | refl => exact ⟨[], rfl, by simp⟩
  | @enq v' s hs ih =>
    obtain ⟨new, h1, h2⟩ := ih
    have st := enq_static v' s
    refine ⟨_ :: new, by rw [enq_tr, h1]; rfl, List.forall_mem_cons.2 ⟨?_, fun t ht => (h2 t ht).congr st⟩⟩
    cases hf : v'.forceQuit
    · exact .inr (.inr ⟨s, by rw [st.route]; rfl, st.forceQuit.trans hf⟩)
    · exact .inr (.inl ⟨s, rfl, st.forceQuit.trans hf⟩)
  | @note v' t hb hs ih =>
    obtain ⟨new, h1, h2⟩ := ih
    exact ⟨t :: new, by show t :: v'.tr = _; rw [h1]; rfl, List.forall_mem_cons.2 ⟨.inl hb, h2⟩⟩

theorem pop_queues (v : QView) (q : Nat) : (v.pop q).queues = v.queues := by
  unfold QView.pop; split <;> rfl

theorem StructOp.queues {v v' : QView} (h : StructOp v v') :
    v'.queues = v.queues ∨ (∃ s, v'.queues = listSet v.queues v.active (addSource · s)) ∨
      v'.queues = v.queues ++ [({} : EQueue)] := by
  cases h with
  | addSrc s => exact .inr (.inl ⟨s, rfl⟩)
  | «open» hf => exact .inr (.inr rfl)
  | pop q hq => exact .inl (pop_queues v q)
  | _ => exact .inl rfl

theorem StructOp.frame {v v' : QView} (h : StructOp v v') (q : Nat) :
    (v'.queue q).entries = (v.queue q).entries ∧ (v'.queue q).seq = (v.queue q).seq ∧
      (q ≠ v.active → (v'.queue q).sources = (v.queue q).sources) ∧
      ∀ x ∈ (v.queue q).sources, x ∈ (v'.queue q).sources := by
  unfold QView.queue
  rcases h.queues with e | ⟨s, e⟩ | e <;> rw [e]
  · exact ⟨rfl, rfl, fun _ => rfl, fun _ hx => hx⟩
  · rw [listSet_getD]
    split
    · next hq =>
      exact ⟨addSource_entries _ s, addSource_seq _ s, fun hne => absurd hq.1.symm hne, addSource_sources_sub _ s⟩
    · exact ⟨rfl, rfl, fun _ => rfl, fun _ hx => hx⟩
  · rw [getD_append_default]
    exact ⟨rfl, rfl, fun _ => rfl, fun _ hx => hx⟩

theorem StructOp.entries {v v' : QView} (h : StructOp v v') (q : Nat) :
    (v'.queue q).entries = (v.queue q).entries :=
  (h.frame q).1

theorem StructOp.seq {v v' : QView} (h : StructOp v v') (q : Nat) :
    (v'.queue q).seq = (v.queue q).seq :=
  (h.frame q).2.1

theorem StructOp.sources {v v' : QView} (h : StructOp v v') (q : Nat) (hq : q ≠ v.active) :
    (v'.queue q).sources = (v.queue q).sources :=
  (h.frame q).2.2.1 hq

theorem StructOp.sources_sub {v v' : QView} (h : StructOp v v') (q : Nat) :
    ∀ x ∈ (v.queue q).sources, x ∈ (v'.queue q).sources :=
  (h.frame q).2.2.2

theorem StructOp.length {v v' : QView} (h : StructOp v v') : v.queues.length ≤ v'.queues.length := by
  rcases h.queues with e | ⟨s, e⟩ | e <;> rw [e] <;> simp

theorem pop_tr (v : QView) (q : Nat) : (v.pop q).tr = .closeLevel q :: v.tr := by
  unfold QView.pop; split <;> rfl

/-- the view after `execute_new_loop` has created its level -/
def openView (v : QView) : QView :=
  { v with queues := v.queues ++ [{}], active := v.queues.length, levels := v.levels ++ [v.queues.length], tr := .openLevel v.queues.length v.runLoop :: v.tr }

theorem StructOp.cases_tr {v v' : QView} (h : StructOp v v') :
    (v'.tr = v.tr ∧ v'.levels = v.levels ∧ v'.active = v.active) ∨
      (v'.tr = .forceQuit :: v.tr ∧ v'.levels = []) ∨
      (v.forceQuit = false ∧ v' = openView v) ∨ ∃ q, v.levels.getLast? = some q ∧ v' = v.pop q := by
  cases h with
  | forceQuit => exact .inr (.inl ⟨rfl, rfl⟩)
  | «open» hf => exact .inr (.inr (.inl ⟨hf, rfl⟩))
  | pop q hq => exact .inr (.inr (.inr ⟨q, hq, rfl⟩))
  | _ => exact .inl ⟨rfl, rfl, rfl⟩

def StructEv (t : Tr) : Prop := t = .forceQuit ∨ (∃ q r, t = .openLevel q r) ∨ ∃ q, t = .closeLevel q

theorem StructOp.tr {v v' : QView} (h : StructOp v v') :
    ∃ new, v'.tr = new ++ v.tr ∧ ∀ t ∈ new, StructEv t := by
  rcases h.cases_tr with ⟨h, _⟩ | ⟨h, _⟩ | ⟨_, rfl⟩ | ⟨q, _, rfl⟩
  · exact ⟨[], h, by simp⟩
  · exact ⟨[.forceQuit], h, by simp [StructEv]⟩
  · exact ⟨[.openLevel _ _], rfl, fun t ht => .inr (.inl ⟨_, _, List.mem_singleton.1 ht⟩)⟩
  · exact ⟨[.closeLevel q], pop_tr v q, by simp [StructEv]⟩

theorem takeV_queue {v v' : QView} (h : TakeV v v') (q : Nat) :
    v'.queue q = if v.active = q then { v.queue q with entries := (v.queue q).entries.tail } else v.queue q := by
  obtain ⟨e, es, he, rfl⟩ := h
  have hlt : v.active < v.queues.length := by
    refine Decidable.byContradiction fun hn => ?_
    rw [queue_of_le (Nat.le_of_not_lt hn)] at he
    cases he
  simp only [QView.queue, listSet_getD]
  by_cases hq : v.active = q
  · subst hq
    rw [if_pos ⟨rfl, hlt⟩, if_pos rfl]
    have he' : (v.queues.getD v.active {}).entries = e :: es := he
    rw [he']; rfl
  · rw [if_neg (fun hh => hq hh.1), if_neg hq]

theorem takeV_static {v v' : QView} (h : TakeV v v') : Static v v' := by
  have hs : ∀ q, (v'.queue q).sources = (v.queue q).sources := by
    intro q; rw [takeV_queue h q]; split <;> rfl
  obtain ⟨e, es, he, rfl⟩ := h
  exact ⟨rfl, rfl, rfl, rfl, by simp, hs⟩

end Simpleline
