/-
  Frame lemmas for the abstract machine, as needed by the scheduler properties (C04, C07, C08):
  what the helper functions of `Model/Machine.lean` (`Cfg.enqueue`, `Cfg.redraw`, `Cfg.deliver`,
  `Cfg.emit`, `Cfg.raise`/`unwind`, `startRequest`) do to the components the scheduler
  properties talk about: `code`, `A.stack`, `A.nextEid`, `A.screens`, the return registers, the
  callback part of the log and the scheduler part of the trace.
-/
import Simpleline.Lemmas.MachineOps
import Simpleline.Lemmas.Store

namespace Simpleline

def sOutCfg : Except (Outcome × Cfg) Cfg → Cfg
  | .ok c => c
  | .error (_, c) => c

@[simp] theorem sOutCfg_ok (c : Cfg) : sOutCfg (.ok c) = c := rfl
@[simp] theorem sOutCfg_error (o : Outcome) (c : Cfg) : sOutCfg (.error (o, c)) = c := rfl

theorem sOutCfg_of_ok {r : Except (Outcome × Cfg) Cfg} {c : Cfg} (h : r = .ok c) : c = sOutCfg r := by
  subst h; rfl
theorem sOutCfg_of_error {r : Except (Outcome × Cfg) Cfg} {o : Outcome} {c : Cfg} (h : r = .error (o, c)) :
    c = sOutCfg r := by
  subst h; rfl

/-- the environment transition, totalised the way `emit` and `take` use it -/
def Cfg.dlv (c : Cfg) : Cfg := c.deliver.getD c

theorem deliver_eq_dlv {c c' : Cfg} (h : c.deliver = some c') : c' = c.dlv := by
  simp [Cfg.dlv, h]

def raised (k : Kind) (c : Cfg) : Cfg := sOutCfg (c.raise k)

@[simp] theorem sOutCfg_raise (c : Cfg) (k : Kind) : sOutCfg (c.raise k) = raised k c := rfl

theorem StepTo.eq {P : Prog} {c c' : Cfg} (h : StepTo P c c') : c' = sOutCfg (step P c) := by
  rcases h with h | ⟨o, h⟩
  · exact sOutCfg_of_ok h
  · exact sOutCfg_of_error h

def schedTr (l : List Tr) : List Tr := l.filter Tr.isSched

def cbLog (l : List Ev) : List Ev := l.filter Ev.isCb

@[simp] theorem schedTr_nil : schedTr [] = [] := rfl
@[simp] theorem cbLog_nil : cbLog [] = [] := rfl
@[simp] theorem Tr.isSched_enq (a b) : (Tr.enq a b).isSched = false := rfl
@[simp] theorem Tr.isSched_dropped (a) : (Tr.dropped a).isSched = false := rfl
@[simp] theorem Tr.isSched_take (a b) : (Tr.take a b).isSched = false := rfl
@[simp] theorem Tr.isSched_putBack (a b) : (Tr.putBack a b).isSched = false := rfl
@[simp] theorem Tr.isSched_call (a b c) : (Tr.call a b c).isSched = false := rfl
@[simp] theorem Tr.isSched_dispatched (a b) : (Tr.dispatched a b).isSched = false := rfl
@[simp] theorem Tr.isSched_exit : Tr.exit.isSched = false := rfl
@[simp] theorem Tr.isSched_forceQuit : Tr.forceQuit.isSched = false := rfl
@[simp] theorem Tr.isSched_kill : Tr.kill.isSched = false := rfl
@[simp] theorem Tr.isSched_openLevel (a b) : (Tr.openLevel a b).isSched = false := rfl
@[simp] theorem Tr.isSched_closeLevel (a) : (Tr.closeLevel a).isSched = false := rfl
@[simp] theorem Tr.isSched_loopReturn (a) : (Tr.loopReturn a).isSched = false := rfl
@[simp] theorem Tr.isSched_closeReq (a b) : (Tr.closeReq a b).isSched = false := rfl
@[simp] theorem Tr.isSched_waitBegin (a b) : (Tr.waitBegin a b).isSched = false := rfl
@[simp] theorem Tr.isSched_waitEnd (a b c) : (Tr.waitEnd a b c).isSched = false := rfl
@[simp] theorem Tr.isSched_procBegin : Tr.procBegin.isSched = false := rfl
@[simp] theorem Tr.isSched_procEnd : Tr.procEnd.isSched = false := rfl
@[simp] theorem Tr.isSched_stackOp (a b) : (Tr.stackOp a b).isSched = true := rfl
@[simp] theorem Tr.isSched_show (a) : (Tr.show a).isSched = true := rfl
@[simp] theorem Tr.isSched_refresh (a) : (Tr.refresh a).isSched = true := rfl
@[simp] theorem Tr.isSched_modalBegin (a) : (Tr.modalBegin a).isSched = false := rfl
@[simp] theorem Tr.isSched_modalEnd (a) : (Tr.modalEnd a).isSched = false := rfl
@[simp] theorem Tr.isStackOp_enq (a b) : (Tr.enq a b).isStackOp = false := rfl
@[simp] theorem Tr.isStackOp_dropped (a) : (Tr.dropped a).isStackOp = false := rfl
@[simp] theorem Tr.isStackOp_take (a b) : (Tr.take a b).isStackOp = false := rfl
@[simp] theorem Tr.isStackOp_putBack (a b) : (Tr.putBack a b).isStackOp = false := rfl
@[simp] theorem Tr.isStackOp_call (a b c) : (Tr.call a b c).isStackOp = false := rfl
@[simp] theorem Tr.isStackOp_dispatched (a b) : (Tr.dispatched a b).isStackOp = false := rfl
@[simp] theorem Tr.isStackOp_exit : Tr.exit.isStackOp = false := rfl
@[simp] theorem Tr.isStackOp_forceQuit : Tr.forceQuit.isStackOp = false := rfl
@[simp] theorem Tr.isStackOp_kill : Tr.kill.isStackOp = false := rfl
@[simp] theorem Tr.isStackOp_openLevel (a b) : (Tr.openLevel a b).isStackOp = false := rfl
@[simp] theorem Tr.isStackOp_closeLevel (a) : (Tr.closeLevel a).isStackOp = false := rfl
@[simp] theorem Tr.isStackOp_loopReturn (a) : (Tr.loopReturn a).isStackOp = false := rfl
@[simp] theorem Tr.isStackOp_closeReq (a b) : (Tr.closeReq a b).isStackOp = false := rfl
@[simp] theorem Tr.isStackOp_waitBegin (a b) : (Tr.waitBegin a b).isStackOp = false := rfl
@[simp] theorem Tr.isStackOp_waitEnd (a b c) : (Tr.waitEnd a b c).isStackOp = false := rfl
@[simp] theorem Tr.isStackOp_procBegin : Tr.procBegin.isStackOp = false := rfl
@[simp] theorem Tr.isStackOp_procEnd : Tr.procEnd.isStackOp = false := rfl
@[simp] theorem Tr.isStackOp_stackOp (a b) : (Tr.stackOp a b).isStackOp = true := rfl
@[simp] theorem Tr.isStackOp_show (a) : (Tr.show a).isStackOp = false := rfl
@[simp] theorem Tr.isStackOp_refresh (a) : (Tr.refresh a).isStackOp = false := rfl
@[simp] theorem Tr.isStackOp_modalBegin (a) : (Tr.modalBegin a).isStackOp = false := rfl
@[simp] theorem Tr.isStackOp_modalEnd (a) : (Tr.modalEnd a).isStackOp = false := rfl
@[simp] theorem Ev.isCb_cb (a b c d) : (Ev.cb a b c d).isCb = true := rfl
@[simp] theorem Ev.isCb_h (a b c d) : (Ev.h a b c d).isCb = false := rfl
@[simp] theorem Ev.isCb_hret (a) : (Ev.hret a).isCb = false := rfl
@[simp] theorem Ev.isCb_read (a) : (Ev.read a).isCb = false := rfl
@[simp] theorem Ev.isCb_note (a) : (Ev.note a).isCb = false := rfl
@[simp] theorem Ev.isCb_quitcb (a) : (Ev.quitcb a).isCb = false := rfl

@[simp] theorem schedTr_cons (t : Tr) (l : List Tr) :
    schedTr (t :: l) = if t.isSched then t :: schedTr l else schedTr l := by
  simp [schedTr, List.filter_cons]
theorem schedTr_append (a b : List Tr) : schedTr (a ++ b) = schedTr a ++ schedTr b := by simp [schedTr]

/-- the trace event of an `enqueue_signal` -/
def enqEv (L : LoopSt) (s : Sig) : Tr := if L.forceQuit then .dropped s else .enq (L.route s.src) s

@[simp] theorem enqEv_isStackOp (L : LoopSt) (s : Sig) : (enqEv L s).isStackOp = false := by
  unfold enqEv; split <;> rfl

theorem enqEv_isRedraw (L : LoopSt) (s : Sig) : (enqEv L s).isRedraw = decide (s.cls = .render ∧ s.src = .sched) := by
  unfold enqEv; split <;> rfl

theorem enqEv_isExcFrom (L : LoopSt) (s : Sig) (src : Src) :
    (enqEv L s).isExcFrom src = decide (s.cls = .exception ∧ s.src = src) := by
  unfold enqEv; split <;> rfl

theorem enqEv_isEnq (L : LoopSt) (s : Sig) : enqEv L s = .dropped s ∨ ∃ q, enqEv L s = .enq q s :=
  (Machine.enqT_cases L s).imp_right fun h => ⟨_, h⟩

attribute [simp] Cfg.trace push Cfg.write Cfg.newSig newIH

structure SFrame (c' c : Cfg) : Prop where
  stack : c'.A.stack = c.A.stack
  nextEid : c'.A.nextEid = c.A.nextEid
  screens : c'.A.screens = c.A.screens
  retSetup : c'.retSetup = c.retSetup
  retPromptNone : c'.retPromptNone = c.retPromptNone
  retInput : c'.retInput = c.retInput
  retKey : c'.retKey = c.retKey
  retAction : c'.retAction = c.retAction
  cbs : cbLog c'.log = cbLog c.log
  sched : schedTr c'.tr = schedTr c.tr
  tr : c.tr <:+ c'.tr
  log : c.log <:+ c'.log

/-- the state components that `SFrame` compares (besides them it compares the callback log and the scheduler's trace) -/
structure SView where
  stack : List Entry
  nextEid : Nat
  screens : List ScreenObj
  retSetup : Bool
  retPromptNone : Bool
  retInput : Ret
  retKey : Str
  retAction : UAction
  sched : List Tr

def Cfg.sview (c : Cfg) : SView :=
  ⟨c.A.stack, c.A.nextEid, c.A.screens, c.retSetup, c.retPromptNone, c.retInput, c.retKey, c.retAction, schedTr c.tr⟩

namespace SFrame

theorem refl (c : Cfg) : SFrame c c :=
  ⟨rfl, rfl, rfl, rfl, rfl, rfl, rfl, rfl, rfl, rfl, List.suffix_refl _, List.suffix_refl _⟩

theorem trans {c'' c' c : Cfg} (h : SFrame c'' c') (h' : SFrame c' c) : SFrame c'' c :=
  ⟨h.stack.trans h'.stack, h.nextEid.trans h'.nextEid, h.screens.trans h'.screens, h.retSetup.trans h'.retSetup,
   h.retPromptNone.trans h'.retPromptNone, h.retInput.trans h'.retInput, h.retKey.trans h'.retKey,
   h.retAction.trans h'.retAction, h.cbs.trans h'.cbs, h.sched.trans h'.sched, h'.tr.trans h.tr,
   h'.log.trans h.log⟩

theorem scr {c' c : Cfg} (h : SFrame c' c) (i : Nat) : c'.A.scr i = c.A.scr i :=
  congrArg (·.getD i {}) h.screens

theorem view {c' c : Cfg} (h : SFrame c' c) : c'.sview = c.sview := by
  simp only [Cfg.sview, h.stack, h.nextEid, h.screens, h.retSetup, h.retPromptNone, h.retInput, h.retKey, h.retAction,
    h.sched]

/-- For a record update of `c` that leaves the scheduler's components alone and puts events that are
not the scheduler's in front of the trace, `hv` and `hlog` hold by `rfl`. -/
theorem of_view {c' c : Cfg} (hv : c'.sview = c.sview) (hlog : c'.log = c.log) (htr : c.tr <:+ c'.tr) : SFrame c' c :=
  ⟨congrArg SView.stack hv, congrArg SView.nextEid hv, congrArg SView.screens hv, congrArg SView.retSetup hv,
   congrArg SView.retPromptNone hv, congrArg SView.retInput hv, congrArg SView.retKey hv,
   congrArg SView.retAction hv, congrArg cbLog hlog, congrArg SView.sched hv, htr, hlog ▸ List.suffix_refl _⟩

theorem push {c' c : Cfg} (h : SFrame c' c) (is : List Instr) : SFrame (Simpleline.push c' is) c :=
  ⟨h.stack, h.nextEid, h.screens, h.retSetup, h.retPromptNone, h.retInput, h.retKey, h.retAction, h.cbs, h.sched,
   h.tr, h.log⟩

end SFrame

@[simp] theorem enqueue_A (c : Cfg) (s : Sig) : (c.enqueue s).A = c.A := by rw [Machine.enqueue_eq]
@[simp] theorem enqueue_code (c : Cfg) (s : Sig) : (c.enqueue s).code = c.code := by rw [Machine.enqueue_eq]
@[simp] theorem enqueue_log (c : Cfg) (s : Sig) : (c.enqueue s).log = c.log := by rw [Machine.enqueue_eq]
@[simp] theorem enqueue_nextSid (c : Cfg) (s : Sig) : (c.enqueue s).nextSid = c.nextSid := by rw [Machine.enqueue_eq]
@[simp] theorem enqueue_tr (c : Cfg) (s : Sig) : (c.enqueue s).tr = enqEv c.L s :: c.tr := by
  rw [Machine.enqueue_eq]; rfl
@[simp] theorem enqueue_forceQuit (c : Cfg) (s : Sig) : (c.enqueue s).L.forceQuit = c.L.forceQuit := by
  rw [Machine.enqueue_eq]

theorem SFrame.enqueue (c : Cfg) (s : Sig) : SFrame (c.enqueue s) c := by
  rw [Machine.enqueue_eq]
  rcases Machine.enqT_cases c.L s with h | h <;> rw [h] <;> exact .of_view rfl rfl ⟨[_], rfl⟩

def renderSig (c : Cfg) : Sig := { id := c.nextSid + 1, cls := .render, prio := 0, src := .sched }

theorem redraw_eq (c : Cfg) : c.redraw = ({ c with nextSid := c.nextSid + 1 } : Cfg).enqueue (renderSig c) := rfl

@[simp] theorem redraw_A (c : Cfg) : c.redraw.A = c.A := by simp [redraw_eq]
@[simp] theorem redraw_code (c : Cfg) : c.redraw.code = c.code := by simp [redraw_eq]
@[simp] theorem redraw_log (c : Cfg) : c.redraw.log = c.log := by simp [redraw_eq]
@[simp] theorem redraw_tr (c : Cfg) : c.redraw.tr = enqEv c.L (renderSig c) :: c.tr := by simp [redraw_eq]

theorem SFrame.redraw (c : Cfg) : SFrame c.redraw c :=
  (SFrame.enqueue _ _).trans (.of_view rfl rfl ⟨[], rfl⟩)

@[simp] theorem dlv_code (c : Cfg) : c.dlv.code = c.code := by
  unfold Cfg.dlv
  rcases Machine.deliver_cases c with ⟨-, h⟩ | ⟨r, rs, -, h⟩ <;> rw [h]
  · rfl
  · exact enqueue_code _ _

theorem SFrame.dlv (c : Cfg) : SFrame c.dlv c := by
  unfold Cfg.dlv
  rcases Machine.deliver_cases c with ⟨-, h⟩ | ⟨r, rs, -, h⟩ <;> rw [h]
  · exact .refl c
  · exact (SFrame.enqueue _ _).trans
      ⟨rfl, rfl, rfl, rfl, rfl, rfl, rfl, rfl, rfl, rfl, List.suffix_refl _, List.suffix_cons _ _⟩

@[simp] theorem emit_code (P : Prog) (c : Cfg) (e : Ev) : (c.emit P e).code = c.code := by
  rcases Machine.emit_cases P c e with h | h
  · rw [h]
  · rw [deliver_eq_dlv h, dlv_code]

theorem SFrame.emitted (P : Prog) (c : Cfg) (e : Ev) : SFrame (c.emit P e) { c with log := e :: c.log } := by
  rcases Machine.emit_cases P c e with h | h
  · rw [h]; exact .refl _
  · rw [deliver_eq_dlv h]; exact .dlv _

theorem SFrame.emit (P : Prog) (c : Cfg) (e : Ev) (he : e.isCb = false) : SFrame (c.emit P e) c :=
  (SFrame.emitted P c e).trans
    ⟨rfl, rfl, rfl, rfl, rfl, rfl, rfl, rfl, by simp [cbLog, he], rfl, List.suffix_refl _, List.suffix_cons _ _⟩

/-- `c'` is `c` after an exception has unwound part of `code`: the scheduler's state, the application
state and the log are kept, code is only dropped, and the trace gains at most the exception signal
enqueued by the scope that caught the exception. -/
structure Unwound (c' c : Cfg) (code : List Instr) : Prop where
  frame : SFrame c' c
  A : c'.A = c.A
  log : c'.log = c.log
  code : c'.code <:+ code
  tr : ∃ evs, c'.tr = evs ++ c.tr ∧ evs.length ≤ 1 ∧ ∀ t ∈ evs, ∃ src, t.isExcFrom src = true

/-- nobody catches the exception, or an `except ExitMainLoop` does -/
theorem Unwound.dropped (c : Cfg) {code' code : List Instr} (h : code' <:+ code) : Unwound { c with code := code' } c code :=
  ⟨.of_view rfl rfl ⟨[], rfl⟩, rfl, rfl, h, [], rfl, Nat.zero_le 1, fun _ h => nomatch h⟩

/-- an `except Exception` scope catches it: one exception signal is enqueued -/
theorem Unwound.caught (c : Cfg) (src : Src) {code' code : List Instr} (h : code' <:+ code) :
    Unwound { Dispatch.excEnq c src with code := code' } c code :=
  Machine.excEnq_eq c src ▸ ⟨.trans (c' := Cfg.enqueue _ _) (.of_view rfl rfl ⟨[], rfl⟩) ((SFrame.enqueue _ _).trans (.of_view rfl rfl ⟨[], rfl⟩)),
   enqueue_A _ _, enqueue_log _ _, h, [_], enqueue_tr _ _, Nat.le_refl 1,
   fun _ h => ⟨src, by rw [List.mem_singleton.1 h, enqEv_isExcFrom]; exact decide_eq_true ⟨rfl, rfl⟩⟩⟩

theorem unwind_keeps (k : Kind) (code : List Instr) (c : Cfg) : Unwound (sOutCfg (unwind k code c)) c code := by
  rcases Machine.unwind_cases k code c with ⟨-, h⟩ | ⟨pre, ins, rest, rfl, -, -, h⟩ <;> rw [h]
  · exact .dropped c List.nil_suffix
  · rcases Machine.caughtBy_cases ins c with h | ⟨src, h⟩ <;> rw [h]
    · exact .dropped c (Machine.afterCatch_suffix_split pre ins rest)
    · exact .caught c src (Machine.afterCatch_suffix_split pre ins rest)

theorem raised_err_keeps (c : Cfg) : Unwound (raised .err c) c c.code := unwind_keeps .err c.code c

theorem raised_keeps (k : Kind) (c : Cfg) :
    SFrame (raised k c) c ∧ (raised k c).A = c.A ∧ (raised k c).log = c.log ∧ (raised k c).code <:+ c.code := by
  have h := unwind_keeps k c.code (Dispatch.preRaise c k)
  rw [← Machine.raise_eq] at h
  have hp : SFrame (Dispatch.preRaise c k) c := by
    cases k
    · exact .of_view rfl rfl ⟨[_], rfl⟩
    all_goals exact .refl c
  exact ⟨h.frame.trans hp, h.A.trans (by cases k <;> rfl), h.log.trans (by cases k <;> rfl), h.code⟩

theorem SFrame.raised (k : Kind) (c : Cfg) : SFrame (raised k c) c := (raised_keeps k c).1
@[simp] theorem raised_A (k : Kind) (c : Cfg) : (raised k c).A = c.A := (raised_keeps k c).2.1
@[simp] theorem raised_log (k : Kind) (c : Cfg) : (raised k c).log = c.log := (raised_keeps k c).2.2.1
theorem raised_code_suffix (k : Kind) (c : Cfg) : (raised k c).code <:+ c.code := (raised_keeps k c).2.2.2

theorem setScr_scr (A : AppSt) (i : Nat) (f : ScreenObj → ScreenObj) (j : Nat) :
    (A.setScr i f).scr j = if j = i then f (A.scr i) else A.scr j := by
  unfold AppSt.scr
  rw [setScr_getD]
  by_cases h : i = j
  · rw [if_pos h, if_pos h.symm, h]
  · rw [if_neg h, if_neg (Ne.symm h)]

@[simp] theorem setScr_stack (A : AppSt) (i : Nat) (f : ScreenObj → ScreenObj) : (A.setScr i f).stack = A.stack := rfl
@[simp] theorem setScr_nextEid (A : AppSt) (i : Nat) (f : ScreenObj → ScreenObj) : (A.setScr i f).nextEid = A.nextEid := rfl

theorem startRequest_keeps (c : Cfg) (ih : Nat) (r : Src) (t : Str) :
    SFrame (sOutCfg (startRequest c ih r t)) c ∧ (sOutCfg (startRequest c ih r t)).log = c.log ∧
    (sOutCfg (startRequest c ih r t)).code <:+ c.code := by
  rw [Input.startRequest_eq]
  split
  · exact ⟨(SFrame.raised _ _).trans (.of_view rfl rfl ⟨[], rfl⟩), raised_log _ _, raised_code_suffix _ _⟩
  · split <;> exact ⟨.of_view rfl rfl ⟨[], rfl⟩, rfl, List.suffix_refl _⟩

theorem SFrame.startRequest (c : Cfg) (ih : Nat) (r : Src) (t : Str) : SFrame (sOutCfg (startRequest c ih r t)) c :=
  (startRequest_keeps c ih r t).1
theorem startRequest_code_suffix (c : Cfg) (ih : Nat) (r : Src) (t : Str) :
    (sOutCfg (startRequest c ih r t)).code <:+ c.code := (startRequest_keeps c ih r t).2.2

@[simp] theorem suffix_cons3 {α} (a b c : α) (l : List α) : l <:+ a :: b :: c :: l := ⟨[a, b, c], rfl⟩

end Simpleline
