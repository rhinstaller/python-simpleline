import Simpleline.Lemmas.DispatchTrans
import Simpleline.Lemmas.Reach
import Simpleline.Lemmas.Store

/-
  The code invariant: a handler call is pending only as the next instruction, put there by `dispatch`; `processSignal`
  only as the next instruction; every block opener has its closing marker.  With it: only registered handlers are called.
-/

namespace Simpleline.Dispatch
open Simpleline

def isCallH : Instr → Bool
  | .callH _ _ _ => true
  | _ => false

def isPS : Instr → Bool
  | .processSignal _ => true
  | _ => false

structure CodeInv (c : Cfg) : Prop where
  noCall : ∀ i ∈ c.code.tail, isCallH i = false
  noPS : ∀ i ∈ c.code.tail, isPS i = false
  headCall : ∀ h d s, c.code.head? = some (.callH h d s) →
    ∃ j K, c.code = .callH h d s :: .catchHandler :: .dispatch s (j + 1) :: K ∧
      (handlersOf c.L s.cls)[j]? = some (h, d) ∧ c.L.forceQuit = false
  closed : closedB c.code = true

theorem softI_not_callH {i : Instr} (h : softI i = true) : isCallH i = false ∧ isPS i = false := by
  unfold isCallH isPS
  split <;> split <;> first | cases h | exact ⟨rfl, rfl⟩

theorem CodeInv.of_clean {c : Cfg} (h : ∀ i ∈ c.code, isCallH i = false ∧ isPS i = false) (hcl : closedB c.code = true) :
    CodeInv c := by
  refine ⟨fun i hi => (h i (List.mem_of_mem_tail hi)).1, fun i hi => (h i (List.mem_of_mem_tail hi)).2, ?_, hcl⟩
  intro hd d s hh
  cases (h _ (List.mem_of_mem_head? hh)).1

theorem CodeInv.rest_clean {c : Cfg} {ins : Instr} {rest : List Instr} (hI : CodeInv c) (hc : c.code = ins :: rest) :
    ∀ i ∈ rest, isCallH i = false ∧ isPS i = false :=
  fun i hi => ⟨hI.noCall i (by rw [hc]; exact hi), hI.noPS i (by rw [hc]; exact hi)⟩

theorem CodeInv.drop {c c' : Cfg} {ins : Instr} {rest : List Instr} (hI : CodeInv c) (hc : c.code = ins :: rest)
    (h : c'.code <:+ rest) : CodeInv c' :=
  .of_clean (fun i hi => hI.rest_clean hc i (h.subset hi)) (closedB_suffix h (closedB_tail (hc ▸ hI.closed)))

theorem handlersOf_ext {L L' : LoopSt} (h : HExt L.handlers L'.handlers) (cls : Cls) :
    handlersOf L cls <+: handlersOf L' cls := by
  obtain ⟨m, hm, -⟩ := h
  exact handlers_prefix (hm ▸ List.prefix_append _ _) cls

theorem getElem?_of_prefix {α} {l l' : List α} (h : l <+: l') {j : Nat} {a : α} (hj : l[j]? = some a) : l'[j]? = some a := by
  obtain ⟨t, rfl⟩ := h
  rw [List.getElem?_append_left (List.getElem?_eq_some_iff.mp hj).1]; exact hj

theorem CodeInv.congr {c c' : Cfg} (hI : CodeInv c) (h1 : c'.code = c.code) (h2 : HExt c.L.handlers c'.L.handlers)
    (h3 : c'.L.forceQuit = c.L.forceQuit) : CodeInv c' := by
  refine ⟨h1 ▸ hI.noCall, h1 ▸ hI.noPS, ?_, h1 ▸ hI.closed⟩
  intro h d s hh
  rw [h1] at hh ⊢
  obtain ⟨j, K, e1, e2, e3⟩ := hI.headCall h d s hh
  exact ⟨j, K, e1, getElem?_of_prefix (handlersOf_ext h2 s.cls) e2, h3 ▸ e3⟩

theorem CodeInv.soft {rest : List Instr} {ins : Instr} {c m c' : Cfg} {e : End} (hI : CodeInv c) (hc : c.code = ins :: rest)
    (hm : Soft rest c m) (hf : Fin m e c') : CodeInv c' := by
  obtain ⟨pushed, suf, hcode, hsuf, hp, hpc⟩ := hm.code.suffix_rest
  refine .of_clean (fun i hi => ?_) (closedB_suffix hf.suffix ?_)
  · have : i ∈ pushed ++ suf := hcode ▸ hf.suffix.subset hi
    rcases List.mem_append.mp this with h | h
    · exact softI_not_callH (hp i h)
    · exact hI.rest_clean hc i (hsuf.subset h)
  · rw [hcode]
    exact closedB_append hpc (closedB_suffix hsuf (closedB_tail (hc ▸ hI.closed)))

theorem closedB_acts (acts : List Act) (l : List Instr) : closedB (acts.map .act ++ l) = closedB l :=
  closedB_append_plain (by simp [blockI]) l

section table
variable {P : Prog} {c : Cfg} {ins : Instr} {pushed : List Instr} {new : List Tr} {L' : LoopSt} {lg : List Ev} {e : End}

theorem CoreStep.pushed_ok (h : CoreStep P c ins pushed new L' lg e) :
    pushed.tail.all (fun i => !isCallH i && !isPS i) = true ∧ closedB pushed = true ∧
    (pushed.head?.all (fun i => !isCallH i) = true ∨
      ∃ hd d s j, pushed = [.callH hd d s, .catchHandler, .dispatch s (j + 1)] ∧
        (handlersOf L' s.cls)[j]? = some (hd, d) ∧ L'.forceQuit = false) := by
  have body : ∀ (tr : List Tr) (hd : HRef) (s : Sig),
      (bodyOf P tr hd s).tail.all (fun i => !isCallH i && !isPS i) = true ∧ closedB (bodyOf P tr hd s) = true ∧
      (bodyOf P tr hd s).head?.all (fun i => !isCallH i) = true := by
    intro tr hd s
    have hall : ∀ i ∈ bodyOf P tr hd s, isCallH i = false ∧ isPS i = false ∧ blockI i = false := by
      intro i hi
      rcases bodyOf_mem hi with ⟨h1, h2⟩ | ⟨hid, rfl⟩
      · exact ⟨(softI_not_callH h1).1, (softI_not_callH h1).2, h2⟩
      · exact ⟨rfl, rfl, rfl⟩
    refine ⟨List.all_eq_true.mpr fun i hi => ?_, closedB_plain fun i hi => (hall i hi).2.2, ?_⟩
    · obtain ⟨h1, h2, -⟩ := hall i (List.mem_of_mem_tail hi)
      rw [h1, h2]; rfl
    · cases hb : (bodyOf P tr hd s).head? with
      | none => rfl
      | some i => simp [(hall i (List.mem_of_mem_head? hb)).1]
  cases h with
  | dispCall hh hf => exact ⟨rfl, rfl, .inr ⟨_, _, _, _, rfl, hh, hf⟩⟩
  | callUser => exact ⟨(body ..).1, (body ..).2.1, .inl (body ..).2.2⟩
  | callSys => exact ⟨(body ..).1, (body ..).2.1, .inl (body ..).2.2⟩
  | _ => exact ⟨rfl, rfl, .inl rfl⟩

end table

theorem CodeInv.push {c c' : Cfg} {ins : Instr} {rest pushed : List Instr} (hI : CodeInv c) (hc : c.code = ins :: rest)
    (hcode : c'.code = pushed ++ rest) (htail : pushed.tail.all (fun i => !isCallH i && !isPS i) = true)
    (hcl : closedB pushed = true)
    (hhead : pushed.head?.all (fun i => !isCallH i) = true ∨
      ∃ hd d s j, pushed = [.callH hd d s, .catchHandler, .dispatch s (j + 1)] ∧
        (handlersOf c'.L s.cls)[j]? = some (hd, d) ∧ c'.L.forceQuit = false) : CodeInv c' := by
  have hrest := hI.rest_clean hc
  have hclr : closedB rest = true := closedB_tail (hc ▸ hI.closed)
  have htl : ∀ i ∈ c'.code.tail, isCallH i = false ∧ isPS i = false := by
    rw [hcode]
    cases pushed with
    | nil => exact fun i hi => hrest i (List.mem_of_mem_tail hi)
    | cons a p =>
      intro i hi
      rcases List.mem_append.mp hi with hi | hi
      · simpa using List.all_eq_true.mp htail i hi
      · exact hrest i hi
  refine ⟨fun i hi => (htl i hi).1, fun i hi => (htl i hi).2, ?_, hcode ▸ closedB_append hcl hclr⟩
  intro hd d s hh
  rw [hcode] at hh ⊢
  cases pushed with
  | nil => cases (hrest _ (List.mem_of_mem_head? hh)).1
  | cons a p =>
    cases Option.some.inj hh
    rcases hhead with h | ⟨hd', d', s', j, hp, h1, h2⟩
    · cases h
    · cases hp; exact ⟨j, rest, rfl, h1, h2⟩

theorem CodeInv.trans {P : Prog} {c c' : Cfg} (hI : CodeInv c) (ht : Trans P c c') : CodeInv c' := by
  cases trans_cases ht with
  | idle hcode h => exact hI.congr hcode h.handlers h.forceQuit
  | soft hc ho hm hf _ => exact hI.soft hc hm hf
  | core hc ho h hcode hL htr hlog hf _ =>
    obtain ⟨h1, h2, h3⟩ := h.pushed_ok
    have hm := hI.push hc hcode h1 h2 (hL ▸ h3)
    obtain rfl | ⟨code', Q, T, n, rfl, hs, -⟩ := hf.nf
    · exact hm
    · exact .of_clean (fun i hi => ⟨hm.noCall i (hs.subset hi), hm.noPS i (hs.subset hi)⟩)
        (closedB_suffix (hs.trans (List.tail_suffix _)) hm.closed)

theorem CodeInv.init {c0 : Cfg} (h0 : Started c0) : CodeInv c0 := by
  obtain ⟨init, hc⟩ := h0.code
  refine .of_clean (fun i hi => ?_) (by rw [hc, closedB_acts]; rfl)
  rcases List.mem_append.mp (hc ▸ hi) with hi | hi
  · obtain ⟨a, -, rfl⟩ := List.mem_map.mp hi; exact ⟨rfl, rfl⟩
  · rw [List.mem_singleton.mp hi]; exact ⟨rfl, rfl⟩

theorem Reach.trans_cases {P : Prog} {c0 c : Cfg} (hr : Reach P c0 c) :
    c = c0 ∨ ∃ c1, Reach P c0 c1 ∧ Trans P c1 c :=
  Simpleline.Reach.trans_cases hr

theorem codeInv_reach {P : Prog} {c0 c : Cfg} (h0 : Started c0) (hr : Reach P c0 c) : CodeInv c := by
  exact reach_induction (.init h0) (fun _ _ _ hI ht => hI.trans ht) hr

theorem HExt.mem {old new : List (Cls × HRef × Option Nat)} (h : HExt old new) {x} (hx : x ∈ old) : x ∈ new := by
  obtain ⟨m, rfl, -⟩ := h
  exact List.mem_append_left _ hx

theorem HExt.prefix {old new : List (Cls × HRef × Option Nat)} (h : HExt old new) : old <+: new := by
  obtain ⟨m, rfl, -⟩ := h
  exact List.prefix_append _ _

def CallReg (c : Cfg) : Prop := ∀ h d s, Tr.call h d s ∈ c.tr → (s.cls, h, d) ∈ c.L.handlers

theorem CallReg.trans {P : Prog} {c c' : Cfg} (hI : CallReg c) (hC : CodeInv c) (ht : Trans P c c') : CallReg c' := by
  intro h d s hm
  obtain ⟨hH, -, -⟩ := trans_static ht
  obtain ⟨new, hnew, hp⟩ := trans_origin ht
  rw [hnew] at hm
  rcases List.mem_append.mp hm with hm | hm
  · obtain ⟨j, K, -, hj, -⟩ := hC.headCall h d s (hp _ hm)
    exact hH.mem (handlersOf_mem hj)
  · exact hH.mem (hI h d s hm)

end Simpleline.Dispatch
