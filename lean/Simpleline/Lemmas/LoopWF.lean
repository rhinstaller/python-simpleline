/-
  The well-formedness invariant of reachable configurations: queues sorted, the active queue is the
  top level, levels are existing distinct queue objects, and every queue holds exactly what a stable
  priority queue fed by the history would hold.
-/
import Simpleline.Lemmas.LoopInv

namespace Simpleline

/-- trace events that change a queue's contents -/
def Tr.isQ : Tr → Bool
  | .enq .. | .take .. => true
  | _ => false

theorem replayQ_cons_other (q : Nat) (t : Tr) (tr : List Tr) (h : t.isQ = false) :
    replayQ q (t :: tr) = replayQ q tr := by
  cases t <;> first | rfl | cases h

theorem takesAreHeads_cons_other (t : Tr) (tr : List Tr) (h : t.isQ = false) :
    TakesAreHeads (t :: tr) ↔ TakesAreHeads tr := by
  cases t <;> first | exact Iff.rfl | cases h

theorem isQ_of_boring {t : Tr} (h : t.boring = true) : t.isQ = false := by
  cases t <;> first | rfl | cases h

/-- `replay` and `heads` tie the queue objects to the trace (`replayQ`, `TakesAreHeads` of Spec/LoopSpec). -/
structure WF (v : QView) : Prop where
  sorted : ∀ q, (v.queue q).Sorted
  top : v.levels.getLast? = some v.active ∨ v.levels = []
  active_lt : v.active < v.queues.length
  levels_lt : ∀ q ∈ v.levels, q < v.queues.length
  levels_inc : v.levels.Pairwise (· < ·)
  replay : ∀ q, (v.queue q).sigs = replayQ q v.tr
  heads : TakesAreHeads v.tr

theorem WF.route_lt {v : QView} (h : WF v) (src : Src) : v.route src < v.queues.length := by
  rcases route_mem v src with hm | hm
  · exact h.levels_lt _ hm
  · rw [hm]; exact h.active_lt

theorem WF.note {v : QView} (h : WF v) (t : Tr) (ht : t.isQ = false) : WF (v.note t) :=
  ⟨h.sorted, h.top, h.active_lt, h.levels_lt, h.levels_inc,
    fun q => by show _ = replayQ q (t :: v.tr); rw [replayQ_cons_other q t _ ht]; exact h.replay q,
    (takesAreHeads_cons_other t _ ht).2 h.heads⟩

theorem WF.enq {v : QView} (h : WF v) (s : Sig) : WF (v.enq s) := by
  refine ⟨?_, by simpa using h.top, by simpa using h.active_lt, by simpa using h.levels_lt,
    by simpa using h.levels_inc, ?_, ?_⟩
  · intro q
    rw [enq_queue]; split
    · exact put_sorted s (h.sorted q)
    · exact h.sorted q
  · intro q
    rw [enq_queue, enq_tr]
    by_cases hf : v.forceQuit = true
    · simp only [hf, if_true]
      rw [replayQ_cons_other q _ _ rfl]
      simpa using h.replay q
    · have hf' : v.forceQuit = false := by simpa using hf
      simp only [hf', true_and]
      show _ = replayQ q (Tr.enq (v.route s.src) s :: v.tr)
      unfold replayQ
      by_cases hr : v.route s.src = q
      · have hlt : q < v.queues.length := hr ▸ h.route_lt s.src
        rw [if_pos ⟨hr, hlt⟩, if_pos hr, sigs_put s (h.sorted q), h.replay q]
      · rw [if_neg (fun hh => hr hh.1), if_neg hr]; exact h.replay q
  · rw [enq_tr]
    split <;> exact h.heads

theorem WF.enqSteps {v v' : QView} (hs : EnqSteps v v') (h : WF v) : WF v' := by
  induction hs with
  | refl => exact h
  | enq s _ ih => exact ih.enq s
  | note t hb _ ih => exact ih.note t (isQ_of_boring hb)

theorem WF.of_same {v v' : QView} (h : WF v)
    (he : ∀ q, (v'.queue q).entries = (v.queue q).entries) (hq : ∀ q, (v'.queue q).seq = (v.queue q).seq)
    (htr : v'.tr = v.tr)
    (top : v'.levels.getLast? = some v'.active ∨ v'.levels = [])
    (active_lt : v'.active < v'.queues.length)
    (levels_lt : ∀ q ∈ v'.levels, q < v'.queues.length)
    (levels_inc : v'.levels.Pairwise (· < ·)) : WF v' := by
  refine ⟨?_, top, active_lt, levels_lt, levels_inc, ?_, htr ▸ h.heads⟩
  · intro q
    have := h.sorted q
    exact ⟨he q ▸ this.ordered, by rw [he q, hq q]; exact this.fresh, he q ▸ this.prio⟩
  · intro q
    rw [htr, ← h.replay q]
    unfold EQueue.sigs; rw [he q]

theorem WF.struct {v v' : QView} (hs : StructOp v v') (h : WF v) : WF v' := by
  cases hs with
  | addSrc s =>
    refine h.of_same (StructOp.entries (.addSrc v s)) (StructOp.seq (.addSrc v s)) rfl h.top ?_ ?_ h.levels_inc
    · simpa using h.active_lt
    · simpa using h.levels_lt
  | forceQuit =>
    have : WF { v with forceQuit := true, levels := [], runLoop := false } :=
      h.of_same (fun _ => rfl) (fun _ => rfl) rfl (.inr rfl) h.active_lt (by simp) List.Pairwise.nil
    exact this.note .forceQuit rfl
  | apprun | setRun => exact h.of_same (fun _ => rfl) (fun _ => rfl) rfl h.top h.active_lt h.levels_lt h.levels_inc
  | «open» hf =>
    have : WF { v with queues := v.queues ++ [{}], active := v.queues.length,
                       levels := v.levels ++ [v.queues.length] } := by
      refine h.of_same ?_ ?_ rfl (.inl (by simp)) (by simp) ?_ ?_
      · intro q; simp only [QView.queue, getD_append_default]
      · intro q; simp only [QView.queue, getD_append_default]
      · intro q hq
        simp only [List.mem_append, List.mem_singleton] at hq
        simp only [List.length_append, List.length_singleton]
        rcases hq with hq | hq
        · have := h.levels_lt q hq; omega
        · omega
      · exact List.pairwise_append.2 ⟨h.levels_inc, List.pairwise_singleton _ _,
          fun a ha b hb => List.mem_singleton.1 hb ▸ h.levels_lt a ha⟩
    exact this.note (.openLevel _ _) rfl
  | pop q hq =>
    unfold QView.pop
    split
    · have : WF { v with levels := [] } :=
        h.of_same (fun _ => rfl) (fun _ => rfl) rfl (.inr rfl) h.active_lt (by simp) List.Pairwise.nil
      exact this.note (.closeLevel q) rfl
    · rename_i a ha
      have : WF { v with levels := v.levels.dropLast, active := a, runLoop := false } :=
        h.of_same (fun _ => rfl) (fun _ => rfl) rfl (.inl ha) (h.levels_lt a ((List.dropLast_sublist _).subset (List.mem_of_getLast? ha)))
          (fun x hx => h.levels_lt x ((List.dropLast_sublist _).subset hx))
          (h.levels_inc.sublist (List.dropLast_sublist _))
      exact this.note (.closeLevel q) rfl

theorem WF.plain {v v' : QView} (hp : Plain v v') (h : WF v) : WF v' := by
  obtain ⟨vm, h1, h2⟩ := hp
  rcases h1 with rfl | h1
  · exact h.enqSteps h2
  · exact (h.struct h1).enqSteps h2

theorem WF.takeV {v v' : QView} (ht : TakeV v v') (h : WF v) : WF v' := by
  have hq := takeV_queue ht
  obtain ⟨e, es, he, rfl⟩ := ht
  have hsig : (v.queue v.active).sigs = e.2.2 :: es.map (·.2.2) := by unfold EQueue.sigs; rw [he]; rfl
  refine ⟨?_, h.top, by simpa using h.active_lt, by simpa using h.levels_lt, h.levels_inc, ?_, ?_⟩
  · intro q
    rw [hq]; split
    · rename_i hc; rw [← hc, he]; exact sorted_tail (h.sorted _) he
    · exact h.sorted q
  · intro q
    show _ = replayQ q (Tr.take v.active e.2.2 :: v.tr)
    rw [hq]; unfold replayQ
    by_cases hc : v.active = q
    · subst hc
      rw [if_pos rfl, if_pos rfl, ← h.replay, hsig]
      unfold EQueue.sigs; rw [he]; rfl
    · rw [if_neg hc, if_neg hc]; exact h.replay q
  · show TakesAreHeads (Tr.take v.active e.2.2 :: v.tr)
    refine ⟨?_, h.heads⟩
    rw [← h.replay, hsig]; rfl

theorem WF.eff {c c' : Cfg} (he : Eff c c') (h : WF c.view) : WF c'.view := by
  rcases he with hp | ⟨vm, h1, h2⟩ | ⟨e, es, _, h2⟩
  · exact h.plain hp
  · rcases h1 with rfl | ⟨_, d, hd, rfl⟩
    · exact h.takeV h2
    · exact (h.plain (Plain.deliver hd Plain.rfl')).takeV h2
  · rw [h2]
    exact (h.note (.putBack c.L.active e.2.2) rfl).note .procEnd rfl

theorem Started.queue {c0 : Cfg} (h0 : Started c0) (q : Nat) : c0.view.queue q = {} := by
  show c0.L.queues.getD q {} = {}
  rw [h0.queues]
  cases q <;> rfl

theorem WF.init {c0 : Cfg} (h0 : Started c0) : WF c0.view := by
  have hq := h0.queue
  obtain ⟨_, _, _, _, rfl⟩ := h0
  refine ⟨?_, .inl rfl, Nat.zero_lt_one, ?_, ?_, ?_, trivial⟩
  · intro q
    rw [hq]; exact sorted_empty
  · exact fun q hq => List.mem_singleton.1 hq ▸ Nat.zero_lt_one
  · exact List.pairwise_singleton _ 0
  · intro q
    rw [hq]; rfl

theorem WF.reach {P : Prog} {c0 c : Cfg} (h0 : Started c0) (h : Reach P c0 c) : WF c.view := by
  refine reach_induction (motive := fun c => WF c.view) ?_ (fun _ _ _ ih ht => ih.eff (trans_eff ht)) h
  exact WF.init h0

end Simpleline
