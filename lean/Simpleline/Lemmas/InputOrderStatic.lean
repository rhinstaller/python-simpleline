/-
  C06b: the static alternative to `NoReadyReentry`. If the application registered no handler of its own for
  `InputReadySignal` (`k0 c0 = 0`), no application code runs between the moment a successful `InputReadySignal`
  is taken from the queue and the call of the handler of its `InputHandler`: while such a signal is on its way, the
  pending code is `processSignal s`, `dispatch s i`, or one of the three shapes around a handler call. Hence whenever
  the next instruction takes a signal, the rest of the code carries none (`TakeQuiet`).
-/
import Simpleline.Lemmas.InputOrderInv

namespace Simpleline.InputOrder
open Input

def ChainOK (code : List Instr) : Prop :=
  nPre 0 code.tail = 0 ∨
  (∃ n d s rest, code = .callH (.ih n) d s :: .catchHandler :: .dispatch s (n + 1) :: rest ∧ nPre 0 rest = 0) ∨
  (∃ n s rest, code = .inputReady n s :: .catchHandler :: .dispatch s (n + 1) :: rest ∧ nPre 0 rest = 0) ∨
  (∃ s j rest, code = .catchHandler :: .dispatch s j :: rest ∧ nPre 0 rest = 0)

theorem takeQuiet_of_chainOK {c : Cfg} (h : ChainOK c.code) : TakeQuiet 0 c := by
  intro ins rest hc ht
  rcases h with h | ⟨n, d, s, r, h, _⟩ | ⟨n, s, r, h, _⟩ | ⟨s, j, r, h, _⟩
  · rw [hc] at h; exact h
  · rw [hc] at h; cases h; cases ht
  · rw [hc] at h; cases h; cases ht
  · rw [hc] at h; cases h; cases ht

macro "ord_q_all" hq:ident : tactic => `(tactic| first
    | ((with_reducible apply quiet_raise); simp [Quiet, $hq:ident, Instr.pre]; done)
    | ((with_reducible apply doAct_quiet); simp [Quiet, $hq:ident, Instr.pre]; done)
    | ((with_reducible apply startRequest_quiet); simp [Quiet, $hq:ident, Instr.pre, newIH]; done)
    | (simp [Quiet, $hq:ident, Instr.pre, Cfg.newSig, nPre_acts]; done))

macro "ord_ch_leaf" hq:ident : tactic => `(tactic| first
    | ((with_reducible apply chainOK_take (f := fun s => [Instr.processSignal s])) <;>
        simp [Quiet, $hq:ident, Instr.pre]; done)
    | ((with_reducible apply chainOK_take (f := fun s => [Instr.processSignal s, _])) <;>
        simp [Quiet, $hq:ident, Instr.pre]; done)
    | ((with_reducible apply chainOK_of_quiet); ord_q_all $hq; done)
    | ((with_reducible apply chainOK_of_tail); simp [$hq:ident, Instr.pre, nPre_acts]; done))

theorem step_callH_ih (P : Prog) (c : Cfg) (n : Nat) (d : Option Nat) (s : Sig) (rest : List Instr)
    (hc : c.code = .callH (.ih n) d s :: rest) :
    step P c = .ok (push (({ c with code := rest } : Cfg).trace (.call (.ih n) d s)) [.inputReady n s]) := by
  simp only [step, hc]

theorem step_catchHandler (P : Prog) (c : Cfg) (rest : List Instr) (hc : c.code = .catchHandler :: rest) :
    step P c = .ok { c with code := rest } := by
  simp only [step, hc]

theorem chainOK_step {c0 : Cfg} (P : Prog) (c : Cfg) (hP : P.NoForge) (hk : k0 c0 = 0) (hH : HandlersOK c)
    (hR : ReadyHandlers c0 c) (hc : ChainOK c.code) : ChainOK (final (step P c)).code := by
  rcases hc with hq | ⟨n, d, s, rest, hcode, hq⟩ | ⟨n, s, rest, hcode, hq⟩ | ⟨s, j, rest, hcode, hq⟩
  rotate_left
  · -- the call of handler `n`
    rw [step_callH_ih P c n d s _ hcode]
    exact .inr (.inr (.inl ⟨n, s, rest, rfl, hq⟩))
  · -- handler `n` runs
    rw [step_inputReady P c n s _ hcode]
    simp only [final_ok]
    split
    · exact .inr (.inr (.inr ⟨s, n + 1, rest, rfl, hq⟩))
    · rename_i hih
      have hih' : s.ih = n := by simpa using hih
      split
      · exact .inr (.inr (.inr ⟨s, n + 1, rest, rfl, hq⟩))
      · cases hcb : (c.A.ihs.getD n default).cb with
        | none => exact .inr (.inr (.inr ⟨s, n + 1, rest, rfl, hq⟩))
        | some scr =>
          refine .inl ?_
          have hpre : (Instr.dispatch s (n + 1)).pre 0 = [] := by
            simp only [Instr.pre]; rw [if_neg (by omega)]
          simp only [List.cons_append, List.nil_append, List.tail_cons, nPre_cons, hpre, hq]
          rfl
  · -- back in the dispatch loop
    rw [step_catchHandler P c _ hcode]
    exact .inl hq
  · -- the rest of the code is quiet: it stays so, unless handler `i` of a successful signal is called next
    obtain ⟨h, hfin⟩ | ⟨ins, rest, c', hcode, hfin, hm⟩ := Input.step_cases P c <;> rw [hfin]
    · exact .inl (by rw [h]; rfl)
    rw [hcode, List.tail_cons] at hq
    have quiet {code : List Instr} (h : (carriers code).Sublist rest) : ChainOK code :=
      .inl (Nat.le_zero.mp (Nat.le_trans (nPre_sublist (List.tail_sublist _))
        (Nat.le_trans (nPre_carriers h) (Nat.le_of_eq hq))))
    have tail {i : Instr} {new : List Instr} (h : new.all Instr.inert = true) : ChainOK (i :: new ++ rest) :=
      .inl (by rw [List.cons_append, List.tail_cons, nPre_append, nPre_of_inert h, hq])
    cases hm with
    | calm new rest' _ hc' hsub hn => rw [hc']; exact quiet (carriers_pushed hn hsub)
    | @pass X new t _ hc' hp =>
      show ChainOK (new ++ X.code)
      rw [hc']
      cases hp with
      | dispatch s i h d hg =>
        by_cases hs : s.okReady = true
        · obtain rfl := (slot_ih hH hR hg i).mpr ⟨okReady_cls hs, by omega⟩
          exact .inr (.inl ⟨i, d, s, rest, rfl, hq⟩)
        · exact .inl (by simp [Instr.pre, hs, hq])
      | processInput scr key => exact tail (new := [_, _, _, _]) rfl
      | newLoop cls prio sid => exact tail (new := [_]) rfl
      | _ => exact tail (new := []) rfl
    | enq s new _ hc' hs hn =>
      rw [push_code, enqueue_code, hs.code, hc']; exact quiet (carriers_pushed hn (.refl _))
    | emit e new _ hc' _ hn => rw [push_code, emit_code, hc']; exact quiet (carriers_pushed (hn hP) (.refl _))
    | idle _ hc' hd => rw [Input.deliver_code hd, hc']; exact quiet (carriers_sublist _)
    | pop e es more _ _ hc' hd _ hm => rw [push_code, pop_code, hd.code, hc']; exact tail hm
    | closeLevel q a => exact quiet (carriers_sublist _)
    | request ih src text new _ hX hc' hn =>
      rcases request_cases ih src text (hX.silent (hc' ▸ carriers_pushed hn (.refl _))) with hs | ⟨c1, hs, hr⟩
      · exact quiet hs.code
      · rw [hr.code]; exact quiet hs.code
    | handoff s rs r _ _ _ hc' => rw [hc']; exact quiet (carriers_sublist _)
    | ready n s new _ _ _ hc' hnew =>
      rw [hc']
      rcases hnew with rfl | ⟨_, scr, rfl⟩
      · exact quiet (carriers_sublist _)
      · exact tail (new := []) rfl

theorem chainOK_reach {P : Prog} {c0 c : Cfg} (h0 : Started c0) (hU : UserHandlers c0) (hF : NoForge P c0)
    (hk : k0 c0 = 0) (h : Reach P c0 c) : ChainOK c.code := by
  refine reach_step_induction (I := fun c => ChainOK c.code) ?_ ?_ ?_ h
  · exact .inl (Nat.le_zero.mp (Nat.le_trans (nPre_sublist (List.tail_sublist _))
      (Nat.le_of_eq (nPre_of_inert (inert_init h0 hF.2) 0))))
  · intro c hr hi
    exact chainOK_step P c hF.1 hk (handlersOK_reach h0 hU hr) (readyHandlers_reach h0 hU hr) hi
  · intro c c' _ hi hd
    rw [Input.deliver_code hd]; exact hi


theorem k0_of_noReadyHandler {c0 : Cfg} (h : NoReadyHandler c0) : k0 c0 = 0 := by
  unfold k0 handlersOf
  rw [List.length_map, List.length_eq_zero_iff, List.filter_eq_nil_iff]
  intro x hx
  simpa using h x hx

theorem takeQuiet_reach {P : Prog} {c0 c : Cfg} (h0 : Started c0) (hU : UserHandlers c0) (hF : NoForge P c0)
    (hH : NoReadyHandler c0) (h : Reach P c0 c) : TakeQuiet (k0 c0) c := by
  rw [k0_of_noReadyHandler hH]
  exact takeQuiet_of_chainOK (chainOK_reach h0 hU hF (k0_of_noReadyHandler hH) h)

end Simpleline.InputOrder
