/-
  Predicates on configurations that the helpers of the machine preserve.  By `MachineOps` every helper is a composition of
  `enqueue` and a few record updates; a predicate that these preserve (`EnqClosed`; with the exit trace and dropped code:
  `HelperClosed`) is therefore preserved by `redraw`, `deliver`, `emit`, and by `unwind`, `raise` and the delivery
  inside `take`, whatever view of the configuration it speaks of.

  Two kinds of views can say more, and a family with such a view goes through its own instructions only.
  A view that does not see the loop state (`BookClosed`: scheduler, console) is preserved by the whole step of every
  instruction of the event loop, of the hand-over steps of the input pipeline, of the catchers and of those ends of
  scheduler frames that only redraw or raise (`Instr.bookkeeping`, `step_bookkeeping`).
  A view that does not see the application state (`AppClosed`: dispatch, loop) is preserved, up to a raise at the end, by
  the step of every instruction of the scheduler, of the input pipeline and of the user actions (`Dispatch.otherI`,
  `step_app`).  The two classes overlap (the input pipeline, the catchers, most user actions) and together are every
  instruction but `kill`, which writes the crash dump and ends the run.
-/
import Simpleline.Lemmas.MachineOps

namespace Simpleline

/-- what the helpers that raise nothing are made of: `enqueue_signal`, a new signal identity, the reader thread handing
in a line -/
structure EnqClosed (R : Cfg → Prop) : Prop where
  enqueue : ∀ {c : Cfg} (s : Sig), R c → R (c.enqueue s)
  sid : ∀ {c : Cfg} (n : Nat), R c → R { c with nextSid := n }
  read : ∀ {c : Cfg} (rs : List Nat) (sd : List Str) (line : Str) (n : Nat), R c →
    R { c with A := { c.A with readers := rs, stdin := sd }, log := .read line :: c.log, nextSid := n }

/-- … and the helpers that raise: the trace of an exit request, pending code being abandoned -/
structure HelperClosed (R : Cfg → Prop) : Prop extends EnqClosed R where
  exit : ∀ {c : Cfg}, R c → R { c with tr := .exit :: c.tr }
  drop : ∀ {c : Cfg} {code : List Instr}, code <:+ c.code → R c → R { c with code := code }

namespace EnqClosed
variable {R : Cfg → Prop} (h : EnqClosed R) {c : Cfg}
include h

theorem signal (cls : Cls) (prio : Int) (src : Src) (line : Str) (ih : Nat) (ok : Bool) (hc : R c) :
    R ((c.newSig cls prio src line ih ok).2.enqueue (c.newSig cls prio src line ih ok).1) :=
  h.enqueue _ (h.sid _ hc)

theorem redraw (hc : R c) : R c.redraw := h.signal .render 0 .sched [] 0 true hc

theorem deliver {c' : Cfg} (hd : c.deliver = some c') (hc : R c) : R c' := by
  rcases Machine.deliver_cases c with ⟨-, e⟩ | ⟨r, rs, -, e⟩ <;> rw [e] at hd <;> cases hd
  exact h.enqueue _ (h.read _ _ _ _ hc)

/-- the event itself is the caller's business: callbacks log events the scheduler watches -/
theorem emit (P : Prog) (e : Ev) (hc : R { c with log := e :: c.log }) : R (c.emit P e) := by
  rcases Machine.emit_cases P c e with he | he
  · rw [he]; exact hc
  · exact h.deliver he hc

omit h in
theorem foldl {α} (f : Cfg → α → Cfg) (hf : ∀ c a, R c → R (f c a)) : ∀ (l : List α) (c : Cfg), R c → R (l.foldl f c)
  | [], _, hc => hc
  | a :: as, c, hc => foldl f hf as (f c a) (hf c a hc)

end EnqClosed

namespace HelperClosed
variable {R : Cfg → Prop} (h : HelperClosed R) {c : Cfg}
include h

theorem unwind (k : Kind) {code : List Instr} (hs : code <:+ c.code) (hc : R c) : R (final (unwind k code c)) := by
  rcases Machine.unwind_cases k code c with ⟨-, e⟩ | ⟨pre, ins, rest, rfl, -, -, e⟩ <;> rw [e]
  · exact h.drop List.nil_suffix hc
  · have hs' : Dispatch.afterCatch ins rest <:+ c.code := (Machine.afterCatch_suffix_split pre ins rest).trans hs
    rcases Machine.caughtBy_cases ins c with e | ⟨src, e⟩ <;> rw [e]
    · exact h.drop hs' hc
    · exact h.drop (c := Dispatch.excEnq c src) hs' (Machine.excEnq_eq c src ▸ h.enqueue _ (h.sid _ hc))

theorem raise (k : Kind) (hc : R c) : R (final (c.raise k)) := by
  rw [Machine.raise_eq]
  cases k
  · exact h.unwind .exit (c := Dispatch.preRaise c .exit) (List.suffix_refl _) (h.exit hc)
  · exact h.unwind .err (List.suffix_refl _) hc
  · exact h.unwind .sysexit (List.suffix_refl _) hc

/-- the pop is the caller's business: to the views of the loop it is no bookkeeping -/
theorem take (hc : R c) :
    (∃ c1, R c1 ∧ c.take = .error (.blocked, c1)) ∨ ∃ c1 e es, R c1 ∧ c.take = .ok (e.2.2, c1.pop e es) := by
  obtain ⟨c1, h1, h2⟩ := Machine.take_cases c
  have hc1 : R c1 := by
    rcases h1 with rfl | ⟨-, hd⟩
    · exact hc
    · exact h.deliver hd hc
  rcases h2 with ⟨-, e⟩ | ⟨e, es, -, e'⟩
  · exact .inl ⟨c1, hc1, e⟩
  · exact .inr ⟨c1, e, es, hc1, e'⟩

end HelperClosed

/-- the part of the application state that neither input requests nor the reader thread write -/
structure AppSt.SameScreens (A' A : AppSt) : Prop where
  stack : A'.stack = A.stack
  nextEid : A'.nextEid = A.nextEid
  firstScheduled : A'.firstScheduled = A.firstScheduled
  screens : A'.screens = A.screens
  out : A'.out = A.out

theorem startRequest_cases (c : Cfg) (ih : Nat) (r : Src) (t : Str) :
    ∃ A', A'.SameScreens c.A ∧
      (startRequest c ih r t = ({ c with A := A' } : Cfg).raise .err ∨
       startRequest c ih r t = .ok (({ c with A := A' } : Cfg).write t)) := by
  rw [Input.startRequest_eq]
  split
  · exact ⟨_, by exact ⟨rfl, rfl, rfl, rfl, rfl⟩, .inl rfl⟩
  · split <;> exact ⟨_, by exact ⟨rfl, rfl, rfl, rfl, rfl⟩, .inr rfl⟩

theorem ite_final {R : Cfg → Prop} {p : Prop} [Decidable p] {x y : Except (Outcome × Cfg) Cfg} (hx : R (final x))
    (hy : R (final y)) : R (final (if p then x else y)) := by
  split
  · exact hx
  · exact hy

/-! ### views that do not see the loop state -/

/-- the events that bookkeeping instructions trace: all but the scheduler's, `modalBegin` and the kill -/
def Tr.isLoop : Tr → Bool
  | .stackOp .. | .show _ | .refresh _ | .modalBegin _ | .kill => false
  | _ => true

/-- the events that bookkeeping instructions log -/
def Ev.isLoop : Ev → Bool
  | .cb .. => false
  | _ => true

/-- the instructions that bookkeeping instructions push -/
def Instr.plain : Instr → Bool
  | .act _ | .catchExit | .quitCb | .mainCheck _ | .restoreRun | .loopCheck | .getDispatch
  | .processSignal _ | .dispatch .. | .catchHandler | .kill _ | .callH .. | .hret _ | .note _
  | .procWait _ | .waitStep .. | .waitCheck .. | .procIter _ | .newLoop _ | .closeLoop | .popLevel
  | .pushModal .. | .closeScreen _ | .processScreen | .blockingInput .. | .waitInput _
  | .inputReceived _ | .inputReady .. | .processInput .. => true
  | _ => false

def Act.bookkeeping : Act → Bool
  | .schedule .. | .push .. | .replace .. => false
  | _ => true

/-- the instructions of the event loop and of the input pipeline, the catchers, and those ends of scheduler frames that
only redraw or raise: everything that touches neither stack, screens, return registers nor console and pushes `plain`
instructions only -/
def Instr.bookkeeping : Instr → Bool
  | .act a => a.bookkeeping
  | .apprun | .catchExit | .quitCb | .mainCheck _ | .restoreRun | .loopCheck | .getDispatch
  | .processSignal _ | .dispatch .. | .catchHandler | .callH .. | .hret _ | .note _
  | .procWait _ | .waitStep .. | .waitCheck .. | .procIter _ | .newLoop _ | .closeLoop | .popLevel
  | .modalRet _ | .closeScreen3 _ | .afterSetupFail _ | .catchPS | .catchDraw
  | .waitInput _ | .inputReceived _ | .inputReady .. | .catchPI _ | .endPI => true
  | _ => false

/-- what a bookkeeping step is made of, besides the helpers: the loop state and the signal counter are replaced, an
event of the loop is traced or logged, the input fields of the application state are written, `plain` instructions
are pushed -/
structure BookClosed (R : Cfg → Prop) : Prop where
  loop : ∀ {c : Cfg} (L : LoopSt) (n : Nat), R c → R { c with L := L, nextSid := n }
  event : ∀ {c : Cfg} (L : LoopSt) (t : Tr), t.isLoop = true → R c → R { c with L := L, tr := t :: c.tr }
  logged : ∀ {c : Cfg} (e : Ev), e.isLoop = true → R c → R { c with log := e :: c.log }
  input : ∀ {c : Cfg} (A' : AppSt), A'.SameScreens c.A → R c → R { c with A := A' }
  pushed : ∀ {c : Cfg} (is : List Instr), (∀ i ∈ is, i.plain = true) → R c → R (push c is)
  drop : ∀ {c : Cfg} {code : List Instr}, code <:+ c.code → R c → R { c with code := code }

namespace BookClosed
variable {R : Cfg → Prop} (h : BookClosed R) {c : Cfg}
include h

theorem helper : HelperClosed R where
  enqueue := fun {c} s hc => by
    rw [Machine.enqueue_eq]
    exact h.event _ _ (by rcases Machine.enqT_cases c.L s with e | e <;> rw [e] <;> rfl) hc
  sid n hc := h.loop _ n hc
  exit hc := h.event _ .exit rfl hc
  read := fun {c} rs sd line n hc =>
    h.logged (.read line) rfl (h.loop c.L n (h.input { c.A with readers := rs, stdin := sd } ⟨rfl, rfl, rfl, rfl, rfl⟩ hc))
  drop := h.drop

theorem pop (e : Int × Nat × Sig) (es : List (Int × Nat × Sig)) (hc : R c) : R (c.pop e es) :=
  h.event _ (.take c.L.active e.2.2) rfl hc

theorem take_bind (k : Sig × Cfg → Except (Outcome × Cfg) Cfg) (hk : ∀ s c2, R c2 → R (final (k (s, c2)))) (hc : R c) :
    R (final (c.take >>= k)) := by
  obtain ⟨c1, h1, e⟩ | ⟨c1, e, es, h1, e'⟩ := h.helper.take hc
  · rw [e]; exact h1
  · rw [e']; exact hk _ _ (h.pop e es h1)

/-- for a list of instructions written out, `his` holds by `rfl` -/
theorem push (is : List Instr) (his : is.all Instr.plain = true) (hc : R c) : R (Simpleline.push c is) :=
  h.pushed is (List.all_eq_true.1 his) hc

theorem setL (L : LoopSt) (hc : R c) : R { c with L := L } := h.loop L c.nextSid hc

theorem trace (t : Tr) (ht : t.isLoop = true) (hc : R c) : R (c.trace t) := h.event c.L t ht hc

theorem emit (P : Prog) (e : Ev) (he : e.isLoop = true) (hc : R c) : R (c.emit P e) :=
  h.helper.emit P e (h.logged e he hc)

theorem doAct (a : Act) (ha : a.bookkeeping = true) (hc : R c) : R (final (doAct c a)) := by
  cases a
  all_goals first | (cases ha; done) | simp only [Simpleline.doAct]
  case enq => exact h.helper.enqueue _ hc
  case regSource => exact h.setL _ hc
  case newLoop | closeLoop | pushModal | closeDirect | getUserInput => exact h.push _ rfl hc
  case proc cls =>
    cases cls
    · exact h.push _ rfl (h.trace _ rfl hc)
    · exact h.push _ rfl hc
  case forceQuit => exact h.event _ .forceQuit rfl hc
  case raiseExit => exact h.helper.raise .exit hc
  case raiseErr => exact h.helper.raise .err hc
  case closeSig | redrawSig => exact h.helper.signal _ _ _ _ _ _ hc
  case schedRedraw => exact h.helper.redraw hc

end BookClosed

theorem mem_acts {acts : List Act} {i j : Instr} (hi : i ∈ acts.map Instr.act ++ [j]) : (∃ a, i = .act a) ∨ i = j := by
  rcases List.mem_append.1 hi with hi | hi
  · obtain ⟨a, _, rfl⟩ := List.mem_map.1 hi
    exact .inl ⟨a, rfl⟩
  · exact .inr (List.mem_singleton.1 hi)

/-- `here` speaks of `c` with the instruction taken off, the configuration every case of `step` starts from -/
theorem step_bookkeeping {R : Cfg → Prop} (h : BookClosed R) (P : Prog) (c : Cfg) (ins : Instr) (rest : List Instr)
    (hc : c.code = ins :: rest) (hb : ins.bookkeeping = true) (here : R { c with code := rest }) :
    R (final (step P c)) := by
  have hh := h.helper
  cases ins
  all_goals first | (cases hb; done) | simp only [step, hc]
  case act a => exact h.doAct a hb here
  case apprun => exact ite_final here (h.push _ rfl (h.setL _ here))
  case catchExit | catchHandler | catchPS | catchDraw | catchPI | endPI => exact here
  case quitCb =>
    split
    · exact h.emit P _ rfl here
    · exact here
  case mainCheck => exact ite_final (h.push _ rfl here) (h.push _ rfl (h.trace _ rfl here))
  case restoreRun => exact ite_final here (h.setL _ here)
  case loopCheck => exact ite_final (h.push _ rfl here) here
  case getDispatch => exact h.take_bind _ (fun s _ h2 => h.push [.processSignal s] rfl h2) here
  case processSignal =>
    exact ite_final (h.push _ rfl (h.setL _ here)) (ite_final (h.push _ rfl (h.setL _ here)) (h.trace _ rfl (h.setL _ here)))
  case dispatch =>
    split
    · exact ite_final (h.trace _ rfl here) (h.push _ rfl here)
    · exact h.trace _ rfl here
  case callH hd d s =>
    cases hd <;> dsimp only
    case user hid =>
      exact h.pushed _ (fun i hi => by rcases mem_acts hi with ⟨a, rfl⟩ | rfl <;> rfl) (h.emit P _ rfl (h.trace _ rfl here))
    case exc => exact h.emit P _ rfl (h.trace _ rfl here)
    all_goals exact h.push _ rfl (h.trace _ rfl here)
  case hret | note => exact h.emit P _ rfl here
  case procWait => exact h.push _ rfl (h.trace _ rfl (h.setL _ here))
  case waitStep cls t =>
    exact ite_final (h.take_bind _ (fun s _ h2 => h.push [.processSignal s, .waitCheck cls t] rfl h2) here) (h.trace _ rfl here)
  case waitCheck => exact ite_final (h.trace _ rfl (h.setL _ here)) (h.push _ rfl here)
  case procIter p =>
    split
    · exact h.trace _ rfl here
    · refine ite_final (h.trace _ rfl here) ?_
      cases p
      · exact h.push _ rfl (h.event _ (.take _ _) rfl here)
      · exact ite_final (h.push _ rfl (h.event _ (.take _ _) rfl here)) (h.trace _ rfl (h.trace (.putBack _ _) rfl here))
  case newLoop => exact ite_final here (h.push _ rfl (hh.enqueue _ (h.trace _ rfl (h.setL _ here))))
  case closeLoop => exact h.push _ rfl (h.trace _ rfl (h.trace (.closeReq _ _) rfl here))
  case popLevel =>
    split
    · exact hh.raise .err here
    · split
      · exact hh.raise .exit (h.setL _ (h.trace _ rfl here))
      · exact h.setL _ (h.trace _ rfl here)
  case modalRet => exact h.trace _ rfl here
  case closeScreen3 e =>
    have hq : R (if c.A.stack ≠ [] ∧ ¬e.modal = true then Cfg.redraw { c with code := rest } else { c with code := rest }) := by
      split
      · exact hh.redraw here
      · exact here
    exact ite_final (hh.raise .exit hq) hq
  case afterSetupFail => exact ite_final (hh.raise .exit here) here
  case waitInput => exact ite_final here (ite_final here (h.push _ rfl here))
  case inputReceived s =>
    split
    · exact hh.raise .err here
    · exact h.input _ (by exact ⟨rfl, rfl, rfl, rfl, rfl⟩)
        (EnqClosed.foldl _ (fun c t hc => hh.signal _ _ _ _ _ _ hc) _ _ (hh.signal _ _ _ _ _ _ here))
  case inputReady =>
    refine ite_final here (ite_final (h.input _ (by exact ⟨rfl, rfl, rfl, rfl, rfl⟩) here) ?_)
    split
    · exact h.push _ rfl (h.input _ (by exact ⟨rfl, rfl, rfl, rfl, rfl⟩) here)
    · exact h.input _ (by exact ⟨rfl, rfl, rfl, rfl, rfl⟩) here

/-! ### views that do not see the application state

What the scheduler, the input pipeline and the user actions push: instructions outside the loop core (`softI`) in closed
blocks (`closedB`). The vocabulary is that of the dispatch properties, whose `Soft` keeps track of it. -/

end Simpleline

namespace Simpleline.Dispatch
open Simpleline

/-- instructions that scheduler / input / user-action code may push -/
def softI : Instr → Bool
  | .apprun | .catchExit | .quitCb | .mainCheck _ | .restoreRun | .loopCheck | .getDispatch
  | .processSignal _ | .dispatch _ _ | .catchHandler | .kill _ | .callH _ _ _ | .hret _
  | .waitStep _ _ | .waitCheck _ _ | .procIter (some _) | .popLevel => false
  | _ => true

/-- the instructions outside the loop core: scheduler, input pipeline, user actions except force-quit -/
def otherI : Instr → Bool
  | .act .forceQuit => false
  | .newLoop _ | .closeLoop | .procWait _ | .procIter none => false
  | i => softI i

def isCatchPS : Instr → Bool
  | .catchPS => true
  | _ => false

def notCatchPS : Instr → Bool
  | .catchPS => false
  | _ => true

def isEndPI : Instr → Bool
  | .endPI => true
  | _ => false

/-- instructions that open a block closed by a later marker: `identCheck … catchPS`, `catchPI … endPI` -/
def blockI : Instr → Bool
  | .identCheck _ => true
  | .catchPI _ => true
  | _ => false

def closedB : List Instr → Bool
  | [] => true
  | .identCheck _ :: l => l.any isCatchPS && closedB l
  | .catchPI _ :: l => l.any isEndPI && closedB l
  | _ :: l => closedB l

theorem closedB_cons_plain {i : Instr} (hi : blockI i = false) (l : List Instr) : closedB (i :: l) = closedB l := by
  cases i <;> first | rfl | cases hi

theorem closedB_append_plain {d : List Instr} (hd : ∀ i ∈ d, blockI i = false) (l : List Instr) :
    closedB (d ++ l) = closedB l := by
  induction d with
  | nil => rfl
  | cons a d ih =>
    rw [List.cons_append, closedB_cons_plain (hd a (by simp)), ih (fun i hi => hd i (by simp [hi]))]

theorem closedB_plain {l : List Instr} (h : ∀ i ∈ l, blockI i = false) : closedB l = true := by
  rw [← List.append_nil l, closedB_append_plain h]; rfl

theorem softI_go (scr : Nat) (evs : List OutEv) : ∀ (cur : List Str) (acc : List Instr),
    (∀ i ∈ acc, softI i = true ∧ blockI i = false) → ∀ i ∈ step.go scr evs cur acc, softI i = true ∧ blockI i = false := by
  induction evs with
  | nil =>
    intro cur acc hacc i hi
    simp only [step.go] at hi
    split at hi
    · exact hacc i hi
    · simp at hi; rcases hi with hi | rfl; exact hacc i hi; exact ⟨rfl, rfl⟩
  | cons e evs ih =>
    intro cur acc hacc
    cases e with
    | line l => simp only [step.go]; exact ih _ _ hacc
    | ask =>
      simp only [step.go]
      apply ih
      intro i hi
      simp at hi
      rcases hi with hi | rfl
      · split at hi
        · exact hacc i hi
        · simp at hi; rcases hi with hi | rfl; exact hacc i hi; exact ⟨rfl, rfl⟩
      · exact ⟨rfl, rfl⟩

end Simpleline.Dispatch

namespace Simpleline

/-- the events that application instructions trace themselves (enqueues come through `enqueue`) -/
def Tr.isApp : Tr → Bool
  | .stackOp .. | .show _ | .refresh _ | .modalBegin _ | .modalEnd _ | .procBegin => true
  | _ => false

/-- the events that application instructions log themselves (`read` comes with a delivery) -/
def Ev.isApp : Ev → Bool
  | .cb .. | .note _ => true
  | _ => false

/-- What the step of an application instruction out of `c0`, whose code is `ins :: rest`, is made of. It starts from `c0`
with the instruction taken off (`base`), with a source registered with the active queue first (`source`: the refresh step,
the return of `setup`, `regSource`), or with the code skipped to the catcher of `_process_screen` (`skipPS`: the identity
check giving up). Then come enqueues, deliveries, writes outside code, loop state, trace and log (`free`), events of the
application, pushes of application code, new input handlers. -/
structure AppClosed (c0 : Cfg) (rest : List Instr) (R : Cfg → Prop) : Prop extends EnqClosed R where
  base : R { c0 with code := rest }
  source : ∀ src : Src,
    R { c0 with code := rest, L := { c0.L with queues := listSet c0.L.queues c0.L.active (addSource · src) } }
  skipPS : ∀ top, c0.code = .identCheck top :: rest → R { c0 with code := rest.dropWhile Dispatch.notCatchPS }
  free : ∀ {m m' : Cfg}, m'.code = m.code → m'.L = m.L → m'.tr = m.tr → m'.log = m.log → R m → R m'
  event : ∀ {m : Cfg} (t : Tr), t.isApp = true → R m → R (m.trace t)
  logged : ∀ {m : Cfg} (e : Ev), e.isApp = true → R m → R { m with log := e :: m.log }
  pushed : ∀ {m : Cfg} (is : List Instr), is.all Dispatch.softI = true → Dispatch.closedB is = true → R m → R (push m is)
  handler : ∀ {m : Cfg} (src : Src) (skip : Bool) (cb : Option Nat), R m → R (newIH m src skip cb).2

/-- the result of the step of an application instruction: a configuration `m` with `R`, reached, left by raising an
exception other than `SystemExit`, or in which the run would spin for ever (the pager has no room to print; a blocking
input waits with the loop flag down) -/
def AppRes (R : Cfg → Prop) (r : Except (Outcome × Cfg) Cfg) : Prop :=
  ∃ m, R m ∧ (r = .ok m ∨ (∃ k, k ≠ Kind.sysexit ∧ r = m.raise k) ∨ r = .error (.livelock, m))

namespace AppRes
variable {R : Cfg → Prop} {m : Cfg}

theorem ok (h : R m) : AppRes R (.ok m) := ⟨m, h, .inl rfl⟩
/-- no instruction but `kill` raises `SystemExit` -/
theorem raise (h : R m) {k : Kind} (hk : k ≠ Kind.sysexit := by decide) : AppRes R (m.raise k) :=
  ⟨m, h, .inr (.inl ⟨k, hk, rfl⟩)⟩
theorem livelock (h : R m) : AppRes R (.error (.livelock, m)) := ⟨m, h, .inr (.inr rfl)⟩

theorem ite {p : Prop} [Decidable p] {r r' : Except (Outcome × Cfg) Cfg} (h : AppRes R r) (h' : AppRes R r') :
    AppRes R (if p then r else r') := by
  split
  · exact h
  · exact h'

end AppRes

namespace AppClosed
variable {c0 : Cfg} {rest : List Instr} {R : Cfg → Prop} (h : AppClosed c0 rest R) {m : Cfg}
include h

/-- `m'` is `m` but for application state, return registers and signal counter: the equations hold by `rfl` -/
theorem same {m' : Cfg} (hm : R m) (hcode : m'.code = m.code := by rfl) (hL : m'.L = m.L := by rfl)
    (htr : m'.tr = m.tr := by rfl) (hlog : m'.log = m.log := by rfl) : R m' := h.free hcode hL htr hlog hm

theorem setA (A' : AppSt) (hm : R m) : R { m with A := A' } := h.same hm

theorem push (is : List Instr) (hm : R m) (hs : is.all Dispatch.softI = true := by rfl)
    (hcl : Dispatch.closedB is = true := by rfl) : R (Simpleline.push m is) := h.pushed is hs hcl hm

theorem emit (P : Prog) (e : Ev) (he : e.isApp = true) (hm : R m) : R (m.emit P e) :=
  h.toEnqClosed.emit P e (h.logged e he hm)

theorem startReq (ih : Nat) (req : Src) (text : Str) (hm : R m) : AppRes R (startRequest m ih req text) := by
  obtain ⟨A', -, e | e⟩ := startRequest_cases m ih req text <;> rw [e]
  · exact .raise (h.setA A' hm)
  · exact .ok (h.same (h.setA A' hm))

theorem doAct (a : Act) (ha : a ≠ .forceQuit) : AppRes R (doAct { c0 with code := rest } a) := by
  have B := h.base
  cases a
  case forceQuit => exact absurd rfl ha
  case enq cls prio src sid => exact .ok (h.enqueue _ B)
  case regSource src => exact .ok (h.source src)
  case newLoop | closeLoop | pushModal | closeDirect | getUserInput => exact .ok (h.push _ B)
  case proc cls =>
    cases cls
    · exact .ok (h.push _ (h.event _ rfl B))
    · exact .ok (h.push _ B)
  case raiseExit | raiseErr => exact .raise B
  case schedule scr args =>
    simp only [Simpleline.doAct]
    split
    · exact .ok (h.event _ rfl (h.setA _ B))
    · exact .ok (h.setA _ (h.redraw (h.event _ rfl (h.setA _ B))))
  case push scr args => exact .ok (h.redraw (h.event _ rfl (h.setA _ B)))
  case replace scr args =>
    simp only [Simpleline.doAct]
    split
    · exact .raise B
    · exact .ok (h.redraw (h.event _ rfl (h.setA _ B)))
  case closeSig | redrawSig => exact .ok (h.signal _ _ _ _ _ _ B)
  case schedRedraw => exact .ok (h.redraw B)

end AppClosed

theorem step_app {c0 : Cfg} {rest : List Instr} {R : Cfg → Prop} (h : AppClosed c0 rest R) (P : Prog) {ins : Instr}
    (hc : c0.code = ins :: rest) (ha : Dispatch.otherI ins = true) : AppRes R (step P c0) := by
  have B := h.base
  unfold step
  simp only [hc]
  cases ins
  case act a => exact h.doAct a (by rintro rfl; cases ha)
  case note w => exact .ok (h.emit P _ rfl B)
  case pushModal scr args =>
    exact .ok (h.push _ (h.sid _ (h.event _ rfl (h.event _ rfl (h.setA _ B)))))
  case modalRet e => exact .ok (h.event _ rfl B)
  case closeScreen frm =>
    dsimp only
    split
    · exact .raise B
    · split
      · exact .raise B
      · exact .ok (h.push _ (h.event _ rfl (h.setA _ B)))
  case closeScreen2 e frm =>
    exact .ite (.raise B) (.ite (.ok (h.push _ B)) (.ok (h.push _ B)))
  case closeScreen3 e =>
    dsimp only
    split
    · exact .ite (.raise (h.redraw B)) (.ok (h.redraw B))
    · exact .ite (.raise B) (.ok B)
  case processScreen =>
    dsimp only
    split
    · exact .raise B
    · split <;> exact .ok (h.push _ B)
  case afterSetup top =>
    dsimp only
    split
    · exact .ok (h.push _ B)
    · split
      · exact .raise B
      · split
        · exact .ok (h.push _ (h.event _ rfl (h.setA _ B)))
        · exact .ok (h.redraw (h.event _ rfl (h.setA _ B)))
  case afterSetupFail e => exact .ite (.raise B) (.ok B)
  case afterSetup2 top => exact .ok (h.push _ (h.event _ rfl (h.source _)))
  case identCheck top =>
    dsimp only
    split
    · exact .raise B
    · split
      · exact .ok (h.skipPS top hc)
      · exact .ok (h.push _ B)
  case catchPS | catchDraw | catchPI | endPI => exact .ok B
  case drawScreen top =>
    refine .ok (h.push _ (h.event _ rfl ?_))
    split
    · exact B
    · exact h.setA _ B
  case maybeInput top => exact .ite (.ok (h.push _ B)) (.ok B)
  case callScr scr cb arg key =>
    refine .ok (h.pushed _ (List.all_eq_true.mpr ?_) ?_ (h.emit P _ rfl (h.setA _ B)))
    · intro i hi
      simp only [List.mem_append, List.mem_map, List.mem_singleton] at hi
      rcases hi with (hi | ⟨a, -, rfl⟩) | rfl
      · split at hi
        · rw [List.mem_singleton.mp hi]; rfl
        · cases hi
      · rfl
      · rfl
    · rw [List.append_assoc, Dispatch.closedB_append_plain, Dispatch.closedB_append_plain]
      · rfl
      · intro i hi; obtain ⟨a, -, rfl⟩ := List.mem_map.mp hi; rfl
      · intro i hi
        split at hi
        · rw [List.mem_singleton.mp hi]; rfl
        · cases hi
  case scrRet scr cb ret key =>
    dsimp only
    split
    · split
      · exact .ok (h.same B)
      · exact .ok (h.same (h.source (.scr scr)))
    · exact .ok (h.same B)
    · exact .ok (h.same B)
    · exact .ok B
  case printWidget scr =>
    dsimp only
    split
    · exact .raise B
    · split
      · exact .livelock B
      · exact .ok (h.pushed _ (List.all_eq_true.mpr fun i hi => (Dispatch.softI_go _ _ _ _ (by simp) i hi).1)
          (Dispatch.closedB_plain fun i hi => (Dispatch.softI_go _ _ _ _ (by simp) i hi).2) B)
  case printLines ls => exact .ok (h.setA _ B)
  case getInput scr args => exact .ok (h.push _ B)
  case getInput2 scr args => exact .ite (.ok (h.setA _ B)) (h.startReq _ _ _ (h.handler _ _ _ (h.setA _ B)))
  case blockingInput scr cont => exact h.startReq _ _ _ (h.push _ (h.handler _ _ _ B))
  case waitInput ih => exact .ite (.ok B) (.ite (.livelock B) (.ok (h.push _ B)))
  case inputReceived s =>
    dsimp only
    split
    · exact .raise B
    · exact .ok (h.setA _ (EnqClosed.foldl _ (fun m t hm => h.signal _ _ _ _ _ _ hm) _ _ (h.signal _ _ _ _ _ _ B)))
  case inputReady n s =>
    dsimp only
    split
    · exact .ok B
    · split
      · exact .ok (h.setA _ B)
      · split
        · exact .ok (h.push _ (h.setA _ B))
        · exact .ok (h.setA _ B)
  case processInput scr key => exact .ok (h.push _ B)
  case classify scr => exact .ok (h.same B)
  case countAndAct scr =>
    dsimp only
    split
    · exact .raise (h.setA _ B)
    · split
      · exact .ite (.ok (h.redraw (h.setA _ B))) (.ok (h.push _ (h.setA _ B)))
      · exact .ok (h.setA _ B)
      · exact .ok (h.redraw (h.setA _ B))
      · exact .ok (h.push _ (h.setA _ B))
      · split
        · exact .ok (h.push _ (h.setA _ B))
        · exact .raise (h.setA _ B)
  case afterQuit q =>
    dsimp only
    split
    · exact .raise B
    · exact .raise B
    · exact .ok (h.redraw B)
  case procIter p => cases p <;> cases ha
  all_goals cases ha

end Simpleline
