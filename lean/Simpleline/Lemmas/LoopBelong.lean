/-
  Routing (`LoopSt.route`) and the invariant that every signal pending in a level's queue belongs to
  that level: its source is registered with the level, or with no enclosing level.
-/
import Simpleline.Lemmas.LoopTrans
import Simpleline.Lemmas.LoopWF

namespace Simpleline

theorem find?_reverse_some {α} {l : List α} {p : α → Bool} {b : α} (h : l.reverse.find? p = some b) :
    ∃ i, ∃ hi : i < l.length, l[i] = b ∧ p b = true ∧ ∀ j (hj : j < l.length), i < j → p l[j] = false := by
  obtain ⟨hp, as, bs, hl, hall⟩ := List.find?_eq_some_iff_append.1 h
  have hl' : l = bs.reverse ++ b :: as.reverse := by
    have := congrArg List.reverse hl
    simpa using this
  subst hl'
  refine ⟨bs.length, by simp, by simp, hp, ?_⟩
  intro j hj hij
  have hmem : (bs.reverse ++ b :: as.reverse)[j] ∈ as := by
    rw [List.getElem_append_right (by simp; omega)]
    simp only [List.length_reverse]
    rw [List.getElem_cons, dif_neg (by omega)]
    exact List.mem_reverse.1 (List.getElem_mem _)
  simpa using hall _ hmem

theorem owns_iff (L : LoopSt) (q : Nat) (src : Src) :
    L.owns q src ↔ (L.queues.getD q {}).sources.contains src = true := by
  unfold LoopSt.owns; simp

def QView.owns (v : QView) (q : Nat) (src : Src) : Prop := src ∈ (v.queue q).sources

theorem view_owns (c : Cfg) (q : Nat) (src : Src) : c.view.owns q src ↔ c.L.owns q src := Iff.rfl

theorem Static.owns {v v' : QView} (st : Static v v') (q : Nat) (src : Src) : v'.owns q src ↔ v.owns q src := by
  unfold QView.owns; rw [st.sources]

theorem route_owns (v : QView) (src : Src) : v.owns (v.route src) src ∨ ∀ q ∈ v.levels, ¬ v.owns q src := by
  unfold QView.route QView.owns QView.queue
  split
  · next q h => exact .inl (by simpa using List.find?_some h)
  · next h => exact .inr fun q hq => by simpa using List.find?_eq_none.1 h q (List.mem_reverse.2 hq)

theorem le_getLast_of_pairwise {l : List Nat} {a : Nat} (hinc : l.Pairwise (· < ·)) (ha : l.getLast? = some a) :
    ∀ q ∈ l, q ≤ a := by
  obtain ⟨ys, rfl⟩ := List.getLast?_eq_some_iff.1 ha
  intro q hq
  rcases List.mem_append.1 hq with h | h
  · exact Nat.le_of_lt ((List.pairwise_append.1 hinc).2.2 q h a (List.mem_singleton_self a))
  · exact Nat.le_of_eq (List.mem_singleton.1 h)

/-- the enclosing levels of `q` are the smaller ones: levels are in ascending order (`WF.levels_inc`) -/
def Belong (v : QView) : Prop :=
  ∀ q ∈ v.levels, ∀ e ∈ (v.queue q).entries,
    v.owns q e.2.2.src ∨ ∀ q' ∈ v.levels, q' < q → ¬ v.owns q' e.2.2.src

theorem Belong.enq {v : QView} (h : Belong v) (s : Sig) : Belong (v.enq s) := by
  have st := enq_static v s
  intro q hq e he
  rw [st.levels] at hq
  simp only [st.owns, st.levels]
  rw [enq_queue] at he
  split at he
  · rename_i hc
    rcases mem_insertEntry.1 he with rfl | he
    · rw [← hc.2.1]
      exact (route_owns v s.src).imp_right fun h1 q' hq' _ => h1 q' hq'
    · exact h q hq e he
  · exact h q hq e he

theorem Belong.enqSteps {v v' : QView} (hs : EnqSteps v v') (h : Belong v) : Belong v' := by
  induction hs with
  | refl => exact h
  | enq s _ ih => exact ih.enq s
  | note t _ _ ih => exact ih

theorem StructOp.levels_sub {v v' : QView} (h : StructOp v v') :
    ∀ q ∈ v'.levels, q ∈ v.levels ∨ q = v.queues.length := by
  rcases h.cases_tr with ⟨_, h, _⟩ | ⟨_, h⟩ | ⟨_, rfl⟩ | ⟨q, _, rfl⟩
  · rw [h]; exact fun q hq => .inl hq
  · rw [h]; exact fun q hq => nomatch hq
  · exact fun q hq => by simpa [openView] using hq
  · rw [pop_levels]; exact fun q hq => .inl ((List.dropLast_sublist _).subset hq)

theorem Belong.struct {v v' : QView} (hs : StructOp v v') (wf : WF v) (h : Belong v) : Belong v' := by
  intro q hq e he
  rw [hs.entries q] at he
  -- a level with a pending entry is an old one: the created queue object is empty
  have hq : q ∈ v.levels := (hs.levels_sub q hq).resolve_right fun hn => by
    rw [hn, queue_of_le (Nat.le_refl _)] at he; cases he
  rcases h q hq e he with h1 | h1
  · exact .inl (hs.sources_sub q _ h1)
  · refine .inr fun q' hq' hlt hown => ?_
    -- an old level below `q` is not the active queue, so it has the sources it had
    have hq'l : q' ∈ v.levels := (hs.levels_sub q' hq').resolve_right fun hn => by
      have := wf.levels_lt q hq; omega
    have hne : q' ≠ v.active := by
      rcases wf.top with ht | ht
      · have := le_getLast_of_pairwise wf.levels_inc ht q hq; omega
      · rw [ht] at hq; cases hq
    unfold QView.owns at hown
    rw [hs.sources q' hne] at hown
    exact h1 q' hq'l hlt hown

theorem Belong.plain {v v' : QView} (hp : Plain v v') (wf : WF v) (h : Belong v) : Belong v' := by
  obtain ⟨vm, h1, h2⟩ := hp
  rcases h1 with rfl | h1
  · exact h.enqSteps h2
  · exact (h.struct h1 wf).enqSteps h2

theorem Belong.takeV {v v' : QView} (ht : TakeV v v') (h : Belong v) : Belong v' := by
  have st := takeV_static ht
  have hq := takeV_queue ht
  intro q hq' e he
  rw [st.levels] at hq'
  simp only [st.owns, st.levels]
  have he' : e ∈ (v.queue q).entries := by
    rw [hq q] at he
    split at he
    · exact List.mem_of_mem_tail he
    · exact he
  exact h q hq' e he'

theorem Belong.eff {c c' : Cfg} (he : Eff c c') (wf : WF c.view) (h : Belong c.view) : Belong c'.view := by
  rcases he with hp | ⟨vm, h1, h2⟩ | ⟨e, es, _, h2⟩
  · exact h.plain hp wf
  · rcases h1 with rfl | ⟨_, d, hd, rfl⟩
    · exact h.takeV h2
    · exact (h.plain (Plain.deliver hd Plain.rfl') wf).takeV h2
  · rw [h2]; exact h

theorem Belong.reach {P : Prog} {c0 c : Cfg} (h0 : Started c0) (h : Reach P c0 c) : Belong c.view := by
  refine reach_induction (motive := fun c => Belong c.view) ?_
    (fun _ _ hr ih ht => ih.eff (trans_eff ht) (WF.reach h0 hr)) h
  intro q hq e he
  rw [h0.queue] at he; cases he

end Simpleline
