import Simpleline.Lemmas.DispatchExec

/-
  Waiting: the ticket invariant (ids fresh and distinct; a marked ticket saw a signal of its class taken since its wait
  began) and the ways a transition changes the ticket table.
-/

namespace Simpleline.Dispatch
open Simpleline

theorem since_append {e : Tr} {new : List Tr} (h : e ∉ new) (tr : List Tr) : since e (new ++ tr) = new ++ since e tr := by
  induction new with
  | nil => rfl
  | cons t new ih =>
    have ht : t ≠ e := fun he => h (by simp [he])
    simp only [since, List.cons_append, List.takeWhile_cons, ht, ne_eq, not_false_eq_true, decide_true, if_true]
    congr 1
    exact ih (fun hm => h (by simp [hm]))

theorem since_cons_self (e : Tr) (tr : List Tr) : since e (e :: tr) = [] := by
  simp [since]

theorem mem_since_grow {e t : Tr} {new tr : List Tr} (h : e ∉ new) (hm : t ∈ since e tr) : t ∈ since e (new ++ tr) := by
  rw [since_append h]; exact List.mem_append_right _ hm

structure TicketInv (c : Cfg) : Prop where
  lt : ∀ k ∈ c.L.tickets, k.id < c.L.tcounter
  nodup : (c.L.tickets.map (·.id)).Nodup
  begun : ∀ cls t, Tr.waitBegin cls t ∈ c.tr → t < c.L.tcounter
  /-- every outstanding ticket's wait has begun; if it is marked, a signal of its class was taken since -/
  marked : ∀ k ∈ c.L.tickets, Tr.waitBegin k.line k.id ∈ c.tr ∧
    (k.marked = true → ∃ q s, s.cls = k.line ∧ Tr.take q s ∈ since (.waitBegin k.line k.id) c.tr)
  /-- the signal about to be processed was taken after every outstanding wait began -/
  head : ∀ s, c.code.head? = some (.processSignal s) →
    ∀ k ∈ c.L.tickets, ∃ q, Tr.take q s ∈ since (.waitBegin k.line k.id) c.tr

def isWaitBegin : Tr → Bool
  | .waitBegin _ _ => true
  | _ => false

theorem not_mem_of_noBegin {new : List Tr} (h : ∀ t ∈ new, isWaitBegin t = false) (cls : Cls) (t : Nat) :
    Tr.waitBegin cls t ∉ new := fun hm => by have := h _ hm; simp [isWaitBegin] at this

theorem TicketInv.step {c c' : Cfg} {new : List Tr} (hI : TicketInv c)
    (hsub : ∀ k' ∈ c'.L.tickets, ∃ k ∈ c.L.tickets, k'.line = k.line ∧ k'.id = k.id ∧
      (k'.marked = true → k.marked = true ∨ ∃ s, c.code.head? = some (.processSignal s) ∧ s.cls = k.line))
    (hids : (c'.L.tickets.map (·.id)).Sublist (c.L.tickets.map (·.id))) (hc : c'.L.tcounter = c.L.tcounter)
    (htr : c'.tr = new ++ c.tr) (hnew : ∀ t ∈ new, isWaitBegin t = false)
    (hhead : ∀ s, c'.code.head? = some (.processSignal s) →
      c.code.head? = some (.processSignal s) ∨ ∃ q, Tr.take q s ∈ new) : TicketInv c' := by
  have hn := not_mem_of_noBegin hnew
  refine ⟨fun k' hk' => ?_, hids.nodup hI.nodup, fun cls t hm => ?_, fun k' hk' => ?_, fun s hs k' hk' => ?_⟩
  · obtain ⟨k, hk, -, hid, -⟩ := hsub k' hk'
    rw [hid, hc]; exact hI.lt k hk
  · rw [htr] at hm; rw [hc]
    rcases List.mem_append.mp hm with hm | hm
    · exact absurd hm (hn cls t)
    · exact hI.begun cls t hm
  · obtain ⟨k, hk, hl, hid, hm⟩ := hsub k' hk'
    obtain ⟨h1, h2⟩ := hI.marked k hk
    rw [hl, hid, htr]
    refine ⟨List.mem_append_right _ h1, fun hmk => ?_⟩
    rcases hm hmk with hold | ⟨s, hs, hline⟩
    · obtain ⟨q, s0, hs0, hmem0⟩ := h2 hold
      exact ⟨q, s0, hs0, mem_since_grow (hn _ _) hmem0⟩
    · obtain ⟨q, hq⟩ := hI.head s hs k hk
      exact ⟨q, s, hline, mem_since_grow (hn _ _) hq⟩
  · obtain ⟨k, hk, hl, hid, -⟩ := hsub k' hk'
    rw [hl, hid, htr]
    rcases hhead s hs with h | ⟨q, h⟩
    · obtain ⟨q, hq⟩ := hI.head s h k hk
      exact ⟨q, mem_since_grow (hn _ _) hq⟩
    · exact ⟨q, by rw [since_append (hn _ _)]; exact List.mem_append_left _ h⟩

theorem TicketInv.keep {c c' : Cfg} {new : List Tr} (hI : TicketInv c) (ht : c'.L.tickets = c.L.tickets)
    (hc : c'.L.tcounter = c.L.tcounter) (htr : c'.tr = new ++ c.tr) (hnew : ∀ t ∈ new, isWaitBegin t = false)
    (hhead : ∀ s, c'.code.head? = some (.processSignal s) →
      c.code.head? = some (.processSignal s) ∨ ∃ q, Tr.take q s ∈ new) : TicketInv c' :=
  hI.step (fun k hk => ⟨k, ht ▸ hk, rfl, rfl, .inl⟩) (ht ▸ List.Sublist.refl _) hc htr hnew hhead

theorem softT_noBegin {t : Tr} (h : softT t = true) : isWaitBegin t = false := by
  cases t <;> first | rfl | cases h

theorem exitOrSoft_noBegin {t : Tr} (h : exitOrSoft t) : isWaitBegin t = false := by
  rcases h with rfl | h
  · rfl
  · exact softT_noBegin h

theorem TicketInv.mark {c c' : Cfg} {s : Sig} {new : List Tr} (hI : TicketInv c) (hhd : c.code.head? = some (.processSignal s))
    (ht : c'.L.tickets = mark c.L.tickets s.cls) (hc : c'.L.tcounter = c.L.tcounter) (htr : c'.tr = new ++ c.tr)
    (hnew : ∀ t ∈ new, isWaitBegin t = false) (hhead : ∀ s', c'.code.head? ≠ some (.processSignal s')) : TicketInv c' := by
  refine hI.step (fun k' hk' => ?_) ?_ hc htr hnew fun s' h => absurd h (hhead s')
  · rw [ht] at hk'
    obtain ⟨k, hk, rfl⟩ := List.mem_map.mp hk'
    refine ⟨k, hk, ?_⟩
    split
    · exact ⟨rfl, rfl, fun _ => .inr ⟨s, hhd, ‹k.line = s.cls›.symm⟩⟩
    · exact ⟨rfl, rfl, .inl⟩
  · rw [ht, Simpleline.mark, List.map_map]
    refine (List.map_congr_left fun k _ => ?_) ▸ List.Sublist.refl _
    simp only [Function.comp]; split <;> rfl

/-- `process_signals(return_after=cls)` takes a new, unmarked ticket -/
theorem TicketInv.begin {c c' : Cfg} {cls : Cls} (hI : TicketInv c)
    (ht : c'.L.tickets = c.L.tickets ++ [({ line := cls, id := c.L.tcounter, marked := false } : Ticket)])
    (hc : c'.L.tcounter = c.L.tcounter + 1) (htr : c'.tr = .waitBegin cls c.L.tcounter :: c.tr)
    (hhead : ∀ s', c'.code.head? ≠ some (.processSignal s')) : TicketInv c' := by
  have hfresh : ∀ k ∈ c.L.tickets, Tr.waitBegin k.line k.id ≠ Tr.waitBegin cls c.L.tcounter := by
    intro k hk he
    have := hI.lt k hk
    have hid : k.id = c.L.tcounter := by injection he
    omega
  refine ⟨?_, ?_, ?_, ?_, fun s' h => absurd h (hhead s')⟩
  · intro k hk
    rw [ht] at hk; rw [hc]
    rcases List.mem_append.mp hk with hk | hk
    · exact Nat.lt_succ_of_lt (hI.lt k hk)
    · simp at hk; subst hk; exact Nat.lt_succ_self _
  · rw [ht, List.map_append, List.nodup_append]
    refine ⟨hI.nodup, by simp, ?_⟩
    intro a ha b hb
    simp at hb; subst hb
    simp only [List.mem_map] at ha
    obtain ⟨k, hk, rfl⟩ := ha
    exact Nat.ne_of_lt (hI.lt k hk)
  · intro cls' t hm
    rw [htr] at hm; rw [hc]
    rcases List.mem_cons.mp hm with hm | hm
    · cases hm; exact Nat.lt_succ_self _
    · exact Nat.lt_succ_of_lt (hI.begun cls' t hm)
  · intro k hk
    rw [ht] at hk; rw [htr]
    rcases List.mem_append.mp hk with hk | hk
    · obtain ⟨h1, h2⟩ := hI.marked k hk
      refine ⟨List.mem_cons_of_mem _ h1, fun hm => ?_⟩
      obtain ⟨q, s, hs, hmem⟩ := h2 hm
      refine ⟨q, s, hs, ?_⟩
      exact mem_since_grow (new := [_]) (by
        intro hm'; simp only [List.mem_singleton] at hm'; exact hfresh k hk hm') hmem
    · simp at hk; subst hk
      exact ⟨by simp, fun hm => by cases hm⟩

theorem TicketInv.release {c c' : Cfg} {cls : Cls} {t : Nat} {new : List Tr} (hI : TicketInv c)
    (ht : c'.L.tickets = c.L.tickets.filter fun k => ¬ (k.line = cls ∧ k.id = t)) (hc : c'.L.tcounter = c.L.tcounter)
    (htr : c'.tr = new ++ c.tr) (hnew : ∀ t ∈ new, isWaitBegin t = false)
    (hhead : ∀ s', c'.code.head? ≠ some (.processSignal s')) : TicketInv c' :=
  hI.step (fun k hk => ⟨k, (List.mem_filter.mp (ht ▸ hk)).1, rfl, rfl, .inl⟩) (ht ▸ List.filter_sublist.map _) hc htr hnew
    fun s' h => absurd h (hhead s')

/-- What a row of the table does to the tickets.  A `processSignal` is pushed only together with the take of its signal. -/
inductive TicketRow (c : Cfg) (ins : Instr) (pushed : List Instr) (new : List Tr) (L' : LoopSt) : Prop
  | keep (ht : L'.tickets = c.L.tickets) (hn : L'.tcounter = c.L.tcounter) (hw : ∀ t ∈ new, isWaitBegin t = false)
      (hp : pushed.head?.all (fun i => !isPS i) = true ∨ ∃ s q, pushed.head? = some (.processSignal s) ∧ Tr.take q s ∈ new)
  | begin {cls} (hi : ins = .procWait cls)
      (ht : L'.tickets = c.L.tickets ++ [({ line := cls, id := c.L.tcounter, marked := false } : Ticket)])
      (hn : L'.tcounter = c.L.tcounter + 1) (hw : new = [.waitBegin cls c.L.tcounter])
      (hp : pushed.head?.all (fun i => !isPS i) = true)
  | mark {s} (hi : ins = .processSignal s) (ht : L'.tickets = mark c.L.tickets s.cls) (hn : L'.tcounter = c.L.tcounter)
      (hw : ∀ t ∈ new, isWaitBegin t = false) (hp : pushed.head?.all (fun i => !isPS i) = true)
  | release {cls t} (hi : ins = .waitCheck cls t)
      (ht : L'.tickets = c.L.tickets.filter fun k => ¬ (k.line = cls ∧ k.id = t)) (hn : L'.tcounter = c.L.tcounter)
      (hw : ∀ t ∈ new, isWaitBegin t = false) (hp : pushed.head?.all (fun i => !isPS i) = true)

section table
variable {P : Prog} {c : Cfg} {ins : Instr} {pushed : List Instr} {new : List Tr} {L' : LoopSt} {lg : List Ev} {e : End}

theorem CoreStep.tickets (h : CoreStep P c ins pushed new L' lg e) : TicketRow c ins pushed new L' := by
  have soft : ∀ {tr' : List Tr}, (∀ t ∈ tr', softT t = true) → ∀ t ∈ tr', isWaitBegin t = false :=
    fun h t ht => softT_noBegin (h t ht)
  have body : ∀ {tr : List Tr} {hd : HRef} {s : Sig}, (bodyOf P tr hd s).head?.all (fun i => !isPS i) = true := by
    intro tr hd s
    cases hb : (bodyOf P tr hd s).head? with
    | none => rfl
    | some i =>
      rcases bodyOf_mem (List.mem_of_mem_head? hb) with ⟨h1, -⟩ | ⟨hid, rfl⟩
      · simp [(softI_not_callH h1).2]
      · rfl
  cases h with
  | procWait => exact .begin rfl rfl rfl rfl rfl
  | psDispatch | psKill | psNone => exact .mark rfl rfl rfl (all_false rfl) rfl
  | waitDone => exact .release rfl rfl rfl (all_false rfl) rfl
  | getDispatch ht _ => exact .keep rfl rfl (List.forall_mem_cons.mpr ⟨rfl, soft ht⟩) (.inr ⟨_, _, rfl, List.mem_cons_self⟩)
  | waitTake _ ht _ => exact .keep rfl rfl (List.forall_mem_cons.mpr ⟨rfl, soft ht⟩) (.inr ⟨_, _, rfl, List.mem_cons_self⟩)
  | iterTake => exact .keep rfl rfl (all_false rfl) (.inr ⟨_, _, rfl, List.mem_cons_self⟩)
  | quitCbSome _ ht _ => exact .keep rfl rfl (soft ht) (.inl rfl)
  | hret ht _ => exact .keep rfl rfl (soft ht) (.inl rfl)
  | getBlocked ht _ => exact .keep rfl rfl (soft ht) (.inl rfl)
  | waitBlocked _ ht _ => exact .keep rfl rfl (soft ht) (.inl rfl)
  | callUser ht _ => exact .keep rfl rfl (forall_mem_snoc (soft ht) rfl) (.inl body)
  | callSys _ ht _ => exact .keep rfl rfl (forall_mem_snoc (soft ht) rfl) (.inl body)
  | newLoop _ ht => exact .keep rfl rfl (List.forall_mem_cons.mpr ⟨softT_noBegin ht, all_false rfl⟩) (.inl rfl)
  | _ => exact .keep rfl rfl (all_false rfl) (.inl rfl)

theorem TicketInv.core {rest : List Instr} {m : Cfg} (hI : TicketInv c) (hC : CodeInv c) (hc : c.code = ins :: rest)
    (h : CoreStep P c ins pushed new L' lg e) (hcode : m.code = pushed ++ rest) (hL : m.L = L')
    (htr : m.tr = new ++ c.tr) : TicketInv m := by
  have hrest : ∀ s, rest.head? ≠ some (.processSignal s) := by
    intro s hh
    cases (hC.rest_clean hc _ (List.mem_of_mem_head? hh)).2
  have hhd : pushed.head?.all (fun i => !isPS i) = true → ∀ s, m.code.head? ≠ some (.processSignal s) := by
    intro hp s hh
    rw [hcode] at hh
    cases pushed with
    | nil => exact hrest s hh
    | cons a p => cases Option.some.inj hh; cases hp
  subst hL
  cases h.tickets with
  | keep ht hn hw hp =>
    refine hI.keep ht hn htr hw fun s hs => ?_
    rcases hp with hp | ⟨s', q, hp, hq⟩
    · exact absurd hs (hhd hp s)
    · cases pushed with
      | nil => cases hp
      | cons a p =>
        rw [hcode] at hs
        cases Option.some.inj hp; cases Option.some.inj hs
        exact .inr ⟨q, hq⟩
  | begin hi ht hn hw hp => subst hw; exact hI.begin ht hn htr (hhd hp)
  | mark hi ht hn hw hp => subst hi; exact hI.mark (head_of_cons hc) ht hn htr hw (hhd hp)
  | release hi ht hn hw hp => exact hI.release ht hn htr hw (hhd hp)

end table

theorem TicketInv.fin {m c' : Cfg} {e : End} (hI : TicketInv m) (hps : ∀ i ∈ m.code.tail, isPS i = false) (hf : Fin m e c') :
    TicketInv c' := by
  obtain rfl | ⟨code', Q, T, n, rfl, hs, hT⟩ := hf.nf
  · exact hI
  · refine hI.keep rfl rfl rfl (fun t ht => exitOrSoft_noBegin (hT t ht)) fun s hh => ?_
    cases hps _ (hs.subset (List.mem_of_mem_head? hh))

theorem ticketInv_trans {P : Prog} {c c' : Cfg} (hI : TicketInv c) (hC : CodeInv c) (ht : Trans P c c') : TicketInv c' := by
  cases trans_cases ht with
  | idle hcode h =>
    obtain ⟨d, hd, hds⟩ := h.tr
    exact hI.keep h.tickets h.tcounter hd (fun t ht => softT_noBegin (hds t ht)) fun s hs => .inl (hcode ▸ hs)
  | soft hc ho hm hf _ =>
    obtain ⟨d, hd, hds⟩ := (hm.tr.toP fun _ => softT_noBegin).trans (hf.tr.mono fun _ => exitOrSoft_noBegin)
    refine hI.keep (hm.frame hf).tickets (hm.frame hf).tcounter hd hds fun s hs => ?_
    obtain ⟨pushed, suf, hcode, hsuf, hp, -⟩ := hm.code.suffix_rest
    rcases List.mem_append.mp (hcode ▸ hf.suffix.subset (List.mem_of_mem_head? hs)) with h | h
    · cases hp _ h
    · cases (hC.rest_clean hc _ (hsuf.subset h)).2
  | core hc ho h hcode hL htr hlog hf _ =>
    obtain ⟨h1, h2, h3⟩ := h.pushed_ok
    exact (hI.core hC hc h hcode hL htr).fin (hC.push hc hcode h1 h2 (hL ▸ h3)).noPS hf

theorem TicketInv.init {c0 : Cfg} (h0 : Started c0) : TicketInv c0 :=
  ⟨by simp [h0.tickets], by simp [h0.tickets], by simp [h0.tr], by simp [h0.tickets], by simp [h0.tickets]⟩

theorem ticketInv_reach {P : Prog} {c0 c : Cfg} (h0 : Started c0) (hr : Reach P c0 c) : TicketInv c := by
  refine reach_induction ?_ ?_ hr
  · exact .init h0
  · intro c c' hr hI ht
    exact ticketInv_trans hI (codeInv_reach h0 hr) ht

theorem mark_spec (ts : List Ticket) (cls : Cls) :
    (mark ts cls).length = ts.length ∧
    ∀ i (hi : i < ts.length) (hi' : i < (mark ts cls).length),
      (mark ts cls)[i].line = ts[i].line ∧ (mark ts cls)[i].id = ts[i].id ∧
      ((mark ts cls)[i].marked = true ↔ ts[i].marked = true ∨ ts[i].line = cls) := by
  refine ⟨by simp [Simpleline.mark], fun i hi hi' => ?_⟩
  simp only [Simpleline.mark, List.getElem_map]
  split
  · rename_i h; simp [h]
  · rename_i h; simp [h]

theorem mark_all (ts : List Ticket) (cls : Cls) : ∀ k ∈ mark ts cls, k.line = cls → k.marked = true := by
  intro k hk hl
  simp only [Simpleline.mark, List.mem_map] at hk
  obtain ⟨k0, -, rfl⟩ := hk
  split
  · rfl
  · rename_i h; split at hl <;> simp_all

theorem step_procIter_empty (P : Prog) (c : Cfg) (p : Option Int) (rest : List Instr) (hc : c.code = .procIter p :: rest)
    (he : c.L.activeQ.entries = []) : step P c = .ok { c with code := rest, tr := .procEnd :: c.tr } := by
  have he' : ({ c with code := rest } : Cfg).L.activeQ.entries = [] := he
  simp only [step, hc]
  split
  · simp [Cfg.trace]
  · rename_i e es heq; rw [he'] at heq; cases heq

def TicketStep (c c' : Cfg) : Prop :=
  c'.L.tickets = c.L.tickets ∨
  (∃ cls, c.code.head? = some (.procWait cls) ∧
    c'.L.tickets = c.L.tickets ++ [({ line := cls, id := c.L.tcounter, marked := false } : Ticket)]) ∨
  (∃ s, c.code.head? = some (.processSignal s) ∧ c'.L.tickets = mark c.L.tickets s.cls) ∨
  (∃ cls t, c.code.head? = some (.waitCheck cls t) ∧
    c'.L.tickets = c.L.tickets.filter fun k => ¬ (k.line = cls ∧ k.id = t))

theorem trans_tickets {P : Prog} {c c' : Cfg} (ht : Trans P c c') : TicketStep c c' := by
  cases trans_cases ht with
  | idle _ h => exact .inl h.tickets
  | soft hc ho hm hf _ => exact .inl (hm.frame hf).tickets
  | core hc ho h hcode hL htr hlog hf _ =>
    unfold TicketStep
    rw [hf.frame.tickets, hL, head_of_cons hc]
    cases h.tickets with
    | keep g => exact .inl g
    | begin hi g => exact .inr (.inl ⟨_, congrArg some hi, g⟩)
    | mark hi g => exact .inr (.inr (.inl ⟨_, congrArg some hi, g⟩))
    | release hi g => exact .inr (.inr (.inr ⟨_, _, congrArg some hi, g⟩))

theorem eq_of_nodup_id {ts : List Ticket} (hn : (ts.map (·.id)).Nodup) {k k' : Ticket} (hk : k ∈ ts) (hk' : k' ∈ ts)
    (hid : k.id = k'.id) : k = k' := by
  induction ts with
  | nil => cases hk
  | cons a ts ih =>
    simp only [List.map_cons, List.nodup_cons, List.mem_map, not_exists, not_and] at hn
    rcases List.mem_cons.mp hk with rfl | hk1 <;> rcases List.mem_cons.mp hk' with rfl | hk1'
    · rfl
    · exact absurd hid.symm (hn.1 k' hk1')
    · exact absurd hid (hn.1 k hk1)
    · exact ih hn.2 hk1 hk1'

theorem mark_origin {P : Prog} {c c' : Cfg} (hI : TicketInv c) (ht : Trans P c c') {k k' : Ticket} (hk : k ∈ c.L.tickets)
    (hk' : k' ∈ c'.L.tickets) (hid : k'.id = k.id) (hu : k.marked = false) (hm : k'.marked = true) :
    ∃ s, c.code.head? = some (.processSignal s) ∧ s.cls = k.line := by
  rcases trans_tickets ht with h | ⟨cls, -, h⟩ | ⟨s, hs, h⟩ | ⟨cls, t, -, h⟩
  · rw [h] at hk'
    have := eq_of_nodup_id hI.nodup hk hk' hid.symm
    subst this; rw [hu] at hm; cases hm
  · rw [h] at hk'
    rcases List.mem_append.mp hk' with hk' | hk'
    · have := eq_of_nodup_id hI.nodup hk hk' hid.symm
      subst this; rw [hu] at hm; cases hm
    · simp at hk'; subst hk'; cases hm
  · refine ⟨s, hs, ?_⟩
    rw [h] at hk'
    simp only [Simpleline.mark, List.mem_map] at hk'
    obtain ⟨k0, hk0, rfl⟩ := hk'
    split at hid <;> split at hm
    · rename_i hl _
      have := eq_of_nodup_id hI.nodup hk hk0 (by simpa using hid.symm)
      subst this; exact hl.symm
    · rename_i hl hl'; exact absurd hl hl'
    · rename_i hl hl'; exact absurd hl' hl
    · have := eq_of_nodup_id hI.nodup hk hk0 hid.symm
      subst this; rw [hu] at hm; cases hm
  · rw [h] at hk'
    have hk'' := (List.mem_filter.mp hk').1
    have := eq_of_nodup_id hI.nodup hk hk'' hid.symm
    subst this; rw [hu] at hm; cases hm

end Simpleline.Dispatch
