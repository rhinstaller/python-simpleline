/-
  Small concrete programs for the non-vacuity examples and counterexamples of C04, C07, C08.
-/
import Simpleline.Lemmas.SchedSetup

namespace Simpleline
namespace Ex

def e (eid scr : Nat) (modal : Bool := false) : Entry := { eid := eid, screen := scr, args := none, modal := modal }

/-- no input, no separator lines: keeps the runs short -/
def quiet : ScreenSpec := { inputRequired := false, noSeparator := true }

/-- Two screens. Screen 0 is scheduled; its first draw pushes screen 1; the draw of screen 1 closes it,
which reveals screen 0 again. -/
def P1 : Prog :=
  { cc := asciiClass, width := 10, screens := [quiet, quiet],
    screenScript := fun scr cb n =>
      if scr = 0 ∧ cb = .show ∧ n = 0 then { acts := [.push 1 none] }
      else if scr = 1 ∧ cb = .show then { acts := [.closeDirect] }
      else {} }

def c1 : Cfg := initCfg [.schedule 0 none] [] none []

/-- Screens 0 and 1 scheduled, 0 shown first (scheduling puts 1 at the bottom); the draw of screen 0
replaces it by screen 2; the draw of screen 2 pushes a modal screen 3, whose draw closes it. -/
def P2 : Prog :=
  { cc := asciiClass, width := 10, screens := [quiet, quiet, quiet, quiet],
    screenScript := fun scr cb n =>
      if scr = 0 ∧ cb = .show then { acts := [.replace 2 none] }
      else if scr = 2 ∧ cb = .show ∧ n = 0 then { acts := [.pushModal 3 none] }
      else if scr = 3 ∧ cb = .show then { acts := [.closeDirect] }
      else {} }

def c2 : Cfg := initCfg [.schedule 0 none, .schedule 1 none] [] none []

/-- One screen whose draw closes it: the stack runs empty and the application ends. -/
def P3 : Prog :=
  { cc := asciiClass, width := 10, screens := [quiet],
    screenScript := fun _ cb _ => if cb = .show then { acts := [.closeDirect] } else {} }

def c3 : Cfg := initCfg [.schedule 0 none] [] none []

/-- Screen 0 with input: the typed lines are answered by the script of `input()`. Screen 1 is a quit
dialog whose draw closes it at once and whose answer is "no". -/
def P4 (answers : Nat → Ret) (quit : Option Nat := none) : Prog :=
  { cc := asciiClass, width := 40, screens := [{ noSeparator := true }, { quiet with answer := some (some false) }],
    quitScreen := quit,
    screenScript := fun scr cb n =>
      if scr = 0 ∧ cb = .input then { ret := answers n }
      else if scr = 1 ∧ cb = .show then { acts := [.closeDirect] }
      else {} }

/-- the `setup` of screen 0 pushes screen 1 and succeeds: screen 0 is refreshed although it is no
longer on top (and then not drawn) -/
def P8 : Prog :=
  { cc := asciiClass, width := 10, screens := [quiet, quiet],
    screenScript := fun scr cb n => if scr = 0 ∧ cb = .setup ∧ n = 0 then { acts := [.push 1 none] } else {} }

/-- the `input()` of the only screen raises an ordinary exception -/
def P9 : Prog :=
  { cc := asciiClass, width := 40, screens := [{ noSeparator := true }],
    screenScript := fun _ cb _ => if cb = .input then { acts := [.raiseErr] } else {} }

def cbs (c : Cfg) : List Ev := (c.log.filter Ev.isCb).reverse

def sched (c : Cfg) : List Tr := (c.tr.filter Tr.isSched).reverse

def c4 (lines : List String) : Cfg := initCfg [.schedule 0 none] [] none (lines.map String.toList)

/-- A screen whose first `setup` processes the pending signals itself — among them a second render
request — so that a second `setup` of the same screen starts before the first one has returned. -/
def P5 : Prog :=
  { cc := asciiClass, width := 10, screens := [quiet],
    screenScript := fun _ cb n => if cb = .setup ∧ n = 0 then { acts := [.proc none] } else {} }

def c5 : Cfg := initCfg [.schedule 0 none, .schedRedraw] [] none []

/-- Screens 0 (bottom) and 1; the `setup` of screen 1 fails (before the base method): it is discarded
and screen 0 is processed instead. -/
def P6 : Prog :=
  { cc := asciiClass, width := 10, screens := [quiet, quiet],
    screenScript := fun scr cb _ => if scr = 1 ∧ cb = .setup then { ret := .failBefore } else {} }

def c6 : Cfg := initCfg [.schedule 1 none, .schedule 0 none] [] none []

/-- the first `setup` of screen 0 pushes screen 1 and then reports failure: what is discarded is
screen 1, and screen 0 is set up again -/
def P7 : Prog :=
  { cc := asciiClass, width := 10, screens := [quiet, quiet],
    screenScript := fun scr cb n =>
      if scr = 0 ∧ cb = .setup ∧ n = 0 then { acts := [.push 1 none], ret := .failBefore } else {} }

def c7 : Cfg := initCfg [.schedule 0 none] [] none []

/-- is the counting step of `scr` the next instruction? (`Instr` has no decidable equality) -/
def headCA (c : Cfg) (scr : Nat) : Bool :=
  match c.code with
  | .countAndAct s :: _ => s == scr
  | _ => false

theorem headCA_spec {c : Cfg} {scr : Nat} (h : headCA c scr = true) : ∃ rest, c.code = .countAndAct scr :: rest := by
  unfold headCA at h
  split at h
  · rename_i s rest hc
    exact ⟨rest, by rw [hc, beq_iff_eq.1 h]⟩
  · cases h

def headSetup (c : Cfg) (scr : Nat) : Bool :=
  match c.code with
  | .callScr s .setup _ _ :: _ => s == scr
  | _ => false

/-- Screen 0 is scheduled; its first draw pushes the modal screen 1; the first draw of screen 1 enqueues
a `CloseScreenSignal` whose source is screen 2 — a screen that is not on the stack at all — which is
dispatched while screen 1 is on top. -/
def P10 : Prog :=
  { cc := asciiClass, width := 10, screens := [quiet, quiet, quiet],
    screenScript := fun scr cb n =>
      if scr = 0 ∧ cb = .show ∧ n = 0 then { acts := [.pushModal 1 none] }
      else if scr = 1 ∧ cb = .show ∧ n = 0 then { acts := [.closeSig 2] }
      else {} }

/-- the application handles `ExceptionSignal` itself (so it survives the `RenderUnexpectedError`) -/
def c10 : Cfg := initCfg [.schedule 0 none] [(.exception, .exc, none)] none []

def headCloseFrom (c : Cfg) (src : Src) : Bool :=
  match c.code with
  | .closeScreen (some s) :: _ => s == src
  | _ => false

theorem headCloseFrom_spec {c : Cfg} {src : Src} (h : headCloseFrom c src = true) :
    ∃ rest, c.code = .closeScreen (some src) :: rest := by
  unfold headCloseFrom at h
  split at h
  · rename_i s rest hc
    exact ⟨rest, by rw [hc, beq_iff_eq.1 h]⟩
  · cases h

end Ex
end Simpleline
