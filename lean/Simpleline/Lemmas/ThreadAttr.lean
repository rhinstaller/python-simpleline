/-
  The simp set `tstate` of the thread model. Its lemmas are in ThreadBasic: an attribute cannot be used in the
  module that registers it.
-/
import Lean.Meta.Tactic.Simp.RegisterCommand

/-- what `setPc`, `setQ` and the record updates of `tstep` leave of each component of a `TState` -/
register_simp_attr tstate
