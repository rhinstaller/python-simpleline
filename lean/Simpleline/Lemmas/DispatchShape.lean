import Simpleline.Lemmas.DispatchExec
import Simpleline.Lemmas.ShapeExc

/-
  The shape of the pending code (`CodeShape`): a body of handler, scheduler and loop instructions on top of what is left of
  `run()` (`OpenTail`: the pending `apprun`, or the outermost loop test, `catchExit`, `quitCb`); or, once the outermost loop
  has been left, exactly `restoreRun, catchExit, quitCb` / `catchExit, quitCb` / `quitCb` / nothing.  `CodeShapeStep`: the
  transitions by what they do to the bottom.  What a caught ordinary exception drops is body (`fin_cases`, from
  the bracket invariant `Chained`), so the bottom stays (`drop_body`) and no loop instruction but the scope of a handler
  call goes (`keep_of_drop`); an exit request is computed forwards on `body ++ tail`.
-/

namespace Simpleline.Dispatch
open Simpleline Simpleline.Machine

/-- the instructions of `App.run()` outside its main loop -/
def isTop : Instr → Bool
  | .apprun | .catchExit | .quitCb => true
  | _ => false


/-- the tails above which other code may be pending: before the start, and while the outermost loop runs -/
def OpenTail (T : List Instr) : Prop := T = [.apprun] ∨ T = [.mainCheck 0, .catchExit, .quitCb]

def CodeShape (c : Cfg) : Prop :=
  c.code = [] ∨ c.code = [.quitCb] ∨ c.code = [.catchExit, .quitCb] ∨ c.code = [.restoreRun, .catchExit, .quitCb] ∨
    ∃ body T, c.code = body ++ T ∧ (∀ i ∈ body, isTop i = false) ∧ OpenTail T

theorem clean_not_catchExit {i : Instr} (h : isTop i = false) : isCatchExit i = false := by
  unfold isCatchExit
  split <;> first | cases h | rfl

theorem softI_clean {i : Instr} (h : softI i = true) : isTop i = false := by
  unfold isTop
  split <;> first | cases h | rfl

theorem shape_exit_none {B T : List Instr} (hT : OpenTail T) (h : ∀ i ∈ B ++ T, isCatchExit i = false) : T = [.apprun] := by
  rcases hT with rfl | rfl
  · rfl
  · have := h .catchExit (by simp); simp [isCatchExit] at this

theorem dropWhile_append_of_mem {α} {p : α → Bool} {l1 : List α} (l2 : List α) {x : α} (hx : x ∈ l1) (hp : p x = false) :
    (l1 ++ l2).dropWhile p = l1.dropWhile p ++ l2 ∧ l1.dropWhile p ≠ [] := by
  induction l1 with
  | nil => simp at hx
  | cons a l ih =>
    simp only [List.cons_append, List.dropWhile_cons]
    cases hpa : p a
    · simp
    · simp only [if_true]
      rcases List.mem_cons.mp hx with rfl | hx
      · rw [hp] at hpa; cases hpa
      · exact ih hx

theorem isEndPI_eq (i : Instr) : isEndPI i = !notEndPI i := by
  unfold isEndPI notEndPI; split <;> first | rfl | (split <;> first | rfl | contradiction)

section chained
open Simpleline.Shape

theorem unwindTo_err_eq {pre post : List Instr} {x : Instr} {src : Src} (hpre : ∀ i ∈ pre, errCatch i = none)
    (hx : errCatch x = some src) : unwindTo .err (pre ++ x :: post) = some (afterCatch x post) :=
  unwindTo_catch (not_catches_err hpre) (by rw [catches_err, hx]; rfl) post

theorem err_drop_noLC {h : Instr} {rest pre post : List Instr} {x : Instr} {src : Src} (hch : Chained (h :: rest))
    (hh : h.isLC = false) (hsplit : rest = pre ++ x :: post) (hpre : ∀ i ∈ pre, errCatch i = none)
    (hx : errCatch x = some src) :
    ∃ D, rest = D ++ afterCatch x post ∧ ∀ i ∈ D, i.isLC = false ∨ i = .catchHandler := by
  have := unwind_err_chained hch hh
  rw [hsplit, unwindTo_err_eq hpre hx] at this
  obtain ⟨D, h1, h2⟩ := this
  exact ⟨D, by rw [hsplit]; exact h1, h2⟩

theorem softI_nonLC {i : Instr} (h : softI i = true) : i.isLC = false := by
  unfold Instr.isLC
  split <;> first | cases h | rfl

theorem otherI_nonLC {i : Instr} (h : otherI i = true) : i.isLC = false := by
  unfold Instr.isLC
  split <;> first | cases h | rfl

theorem notCatchPS_eq : Dispatch.notCatchPS = Simpleline.notCatchPS := by
  funext i; cases i <;> rfl

theorem soft_code_eq {rest : List Instr} {ins : Instr} {c m : Cfg} (hc : c.code = ins :: rest) (hch : Chained c.code)
    (hm : Soft rest c m) : ∃ pushed, m.code = pushed ++ rest ∧ (∀ i ∈ pushed, softI i = true) ∧ closedB pushed = true := by
  obtain ⟨pushed, suf, hcode, hsuf, hp, hpc⟩ := hm.code
  refine ⟨pushed, ?_, hp, hpc⟩
  rcases hsuf with rfl | ⟨top, hfull, rfl⟩
  · exact hcode
  · rw [hcode, notCatchPS_eq]
    rw [hc] at hfull
    obtain ⟨rfl, -⟩ := List.cons.inj hfull
    rw [hc] at hch
    rw [identSkip_chained hch]

/-- How a step out of a chained code ends: as it is, or with an ordinary exception caught (what is dropped, `D`, holds no
loop-core instruction but the catching `catchHandler`; the new events are soft); or an exit request is caught; or the run dies. -/
theorem fin_cases {ins : Instr} {rest pushed : List Instr} {m c' : Cfg} {e : End} (hch : Chained (ins :: rest))
    (hins : ins.isLC = false) (hmcode : m.code = pushed ++ rest) (hp : ∀ i ∈ pushed, softI i = true)
    (hpc : closedB pushed = true) (hf : Fin m e c') :
    (∃ D T, (∀ i ∈ D, i.isLC = false ∨ i = .catchHandler) ∧ m.code = D ++ c'.code ∧ c'.tr = T ++ m.tr ∧
        ∀ t ∈ T, softT t = true) ∨
      m.raise .exit = .ok c' ∨ ∃ k o, e = .raise k ∧ m.raise k = .error (o, c') := by
  cases hf with
  | done => exact .inl ⟨[], [], by simp, rfl, rfl, by simp⟩
  | halt => exact .inl ⟨[], [], by simp, rfl, rfl, by simp⟩
  | died h => exact .inr (.inr ⟨_, _, rfl, h⟩)
  | caught h =>
    rcases raise_ok h with ⟨rfl, -⟩ | ⟨-, pre, x, post, src, hcode', hpre, hx, rfl⟩
    · exact .inr (.inl h)
    suffices hD : ∃ D, (∀ i ∈ D, i.isLC = false ∨ i = .catchHandler) ∧ pushed ++ rest = D ++ afterCatch x post by
      obtain ⟨D, h1, h2⟩ := hD
      exact .inl ⟨D, [enqT m.L (excSig m.nextSid src)], h1, hmcode ▸ h2, rfl, by simp⟩
    rw [hmcode] at hcode'
    have inRest : ∀ r1, pre = pushed ++ r1 → rest = r1 ++ x :: post →
        ∃ D, (∀ i ∈ D, i.isLC = false ∨ i = .catchHandler) ∧ pushed ++ rest = D ++ afterCatch x post := by
      intro r1 hpre' hrest
      obtain ⟨D', hD1, hD2⟩ :=
        err_drop_noLC hch hins hrest (fun i hi => hpre i (by rw [hpre']; exact List.mem_append_right _ hi)) hx
      refine ⟨pushed ++ D', ?_, by rw [List.append_assoc, ← hD1]⟩
      intro i hi
      rcases List.mem_append.mp hi with h | h
      · exact .inl (softI_nonLC (hp i h))
      · exact hD2 i h
    rcases List.append_eq_append_iff.mp hcode' with ⟨r1, h1, h2⟩ | ⟨p, hpushed, hpost⟩
    · exact inRest r1 h1 h2
    cases p with
    | nil => exact inRest [] (by rw [hpushed, List.append_nil, List.append_nil]) hpost.symm
    | cons y p2 =>
      -- the catcher is among the pushed instructions
      obtain ⟨rfl, rfl⟩ := List.cons.inj hpost
      have hY : ∃ Y, Y <:+ p2 ∧ afterCatch x (p2 ++ rest) = Y ++ rest := by
        cases x <;> first | (cases hx; done) | skip
        case catchPI scr =>
          have hcl : closedB (.catchPI scr :: p2) = true :=
            closedB_suffix (by rw [hpushed]; exact List.suffix_append _ _) hpc
          simp only [closedB, Bool.and_eq_true, List.any_eq_true] at hcl
          obtain ⟨⟨e, he, hee⟩, -⟩ := hcl
          obtain ⟨h1, h2⟩ := dropWhile_append_of_mem (p := notEndPI) rest he (by rw [isEndPI_eq] at hee; simpa using hee)
          refine ⟨(p2.dropWhile notEndPI).tail, (List.tail_suffix _).trans (List.dropWhile_suffix _), ?_⟩
          simp only [afterCatch, h1]
          cases hd : p2.dropWhile notEndPI with
          | nil => exact absurd hd h2
          | cons a l => simp
        all_goals exact ⟨p2, List.suffix_refl _, rfl⟩
      obtain ⟨Y, ⟨D0, hD0⟩, hYeq⟩ := hY
      have hD : pushed = (pre ++ x :: D0) ++ Y := by rw [hpushed, ← hD0]; simp
      refine ⟨pre ++ x :: D0, fun i hi => .inl (softI_nonLC (hp i (by rw [hD]; exact List.mem_append_left _ hi))), ?_⟩
      show _ = _ ++ afterCatch x (p2 ++ rest)
      rw [hYeq, hD, List.append_assoc]

end chained

theorem soft_no_exit {d : List Tr} (h : ∀ t ∈ d, softT t = true) : Tr.exit ∉ d := by
  intro hm; have := h _ hm; simp [softT] at this

def CodeC (rest code : List Instr) : Prop := ∃ pushed, code = pushed ++ rest ∧ ∀ i ∈ pushed, isTop i = false

theorem CodeC.append {rest l d : List Instr} (hd : ∀ i ∈ d, isTop i = false) (h : CodeC rest l) : CodeC rest (d ++ l) := by
  obtain ⟨p, rfl, hp⟩ := h
  refine ⟨d ++ p, by simp, ?_⟩
  intro t ht; simp at ht; rcases ht with ht | ht; exact hd t ht; exact hp t ht

def NoExit (old new : List Tr) : Prop := ∃ d, new = d ++ old ∧ Tr.exit ∉ d

theorem NoExit.append {old l d : List Tr} (hd : ∀ t ∈ d, softT t = true) (h : NoExit old l) : NoExit old (d ++ l) := by
  obtain ⟨d', rfl, hd'⟩ := h
  refine ⟨d ++ d', by simp, ?_⟩
  intro hm; rcases List.mem_append.mp hm with hm | hm
  · exact soft_no_exit hd hm
  · exact hd' hm

theorem raise_exit_error_no_catch {c c' : Cfg} {o : Outcome} (h : c.raise .exit = .error (o, c')) :
    ∀ i ∈ c.code, isCatchExit i = false := by
  rcases catchExit_split c.code with hn | ⟨pre, rest, h1, h2⟩
  · exact hn
  · rw [raise_eq, h1, unwind_exit_catch h2] at h; cases h

theorem not_afterStart_of_mem {c : Cfg} (h : Instr.apprun ∈ c.code) : ¬ AfterStart c := by
  intro hA
  have := List.all_eq_true.mp hA _ h
  simp [isApprun] at this

theorem open_ne {B T : List Instr} (hT : OpenTail T) :
    B ++ T ≠ [] ∧ B ++ T ≠ [.quitCb] ∧ B ++ T ≠ [.catchExit, .quitCb] ∧ B ++ T ≠ [.restoreRun, .catchExit, .quitCb] := by
  rcases hT with rfl | rfl
  · refine ⟨by simp, ?_, ?_, ?_⟩ <;> intro h <;> have := congrArg List.reverse h <;> simp at this
  · refine ⟨by simp, ?_, ?_, ?_⟩ <;> intro h <;> have := congrArg List.reverse h <;> simp at this

def OpenCode (code : List Instr) : Prop := ∃ B T, code = B ++ T ∧ (∀ i ∈ B, isTop i = false) ∧ OpenTail T

theorem OpenCode.not_over {code : List Instr} (h : OpenCode code) :
    code ≠ [] ∧ code ≠ [.quitCb] ∧ code ≠ [.catchExit, .quitCb] ∧ code ≠ [.restoreRun, .catchExit, .quitCb] := by
  obtain ⟨B, T, rfl, -, hT⟩ := h
  exact open_ne hT

/-- What a transition does to the bottom of the pending code. `B`, `B'` are bodies (no `apprun`, `catchExit`, `quitCb`). -/
inductive CodeShapeStep (P : Prog) (c c' : Cfg) : Prop
  /-- a step of a body instruction, or of the outermost loop test with the flag up, that is not a successful exit
  request: the tail stays -/
  | body {B B' T : List Instr} (hT : OpenTail T) (hc : c.code = B ++ T) (hB : ∀ i ∈ B, isTop i = false)
      (hcode : c'.code = B' ++ T) (hB' : ∀ i ∈ B', isTop i = false) (hx : Tr.exit ∉ newTr c c') : CodeShapeStep P c c'
  /-- a successful exit request (`run()` has been entered): everything up to `catchExit` is dropped -/
  | exit {B : List Instr} (hc : c.code = B ++ [.mainCheck 0, .catchExit, .quitCb]) (hB : ∀ i ∈ B, isTop i = false)
      (hcode : c'.code = [.quitCb]) (hx : Tr.exit ∈ newTr c c') : CodeShapeStep P c c'
  | start (hc : c.code = [.apprun]) (hcode : c'.code = [.mainCheck 0, .catchExit, .quitCb]) (htr : c'.tr = c.tr) : CodeShapeStep P c c'
  | loopOff (hc : c.code = [.mainCheck 0, .catchExit, .quitCb]) (hr : c.L.runLoop = false)
      (hcode : c'.code = [.restoreRun, .catchExit, .quitCb]) (htr : c'.tr = .loopReturn 0 :: c.tr) : CodeShapeStep P c c'
  | restored (hc : c.code = [.restoreRun, .catchExit, .quitCb]) (hcode : c'.code = [.catchExit, .quitCb]) (htr : c'.tr = c.tr) :
      CodeShapeStep P c c'
  | leave (hc : c.code = [.catchExit, .quitCb]) (hcode : c'.code = [.quitCb]) (htr : c'.tr = c.tr) : CodeShapeStep P c c'
  | quit (hc : c.code = [.quitCb]) (hcode : c'.code = []) (hx : Tr.exit ∉ newTr c c')
      (hlog : ∃ lg, (∀ e ∈ lg, softE e = true) ∧ c'.log = lg ++ c.L.quitCb.toList.map Ev.quitcb ++ c.log) : CodeShapeStep P c c'
  /-- a delivery; the "step" of a configuration without code -/
  | same (hcode : c'.code = c.code) (hx : Tr.exit ∉ newTr c c') : CodeShapeStep P c c'
  | dead (hs : ∃ o, step P c = .error (o, c')) (hcode : c'.code = []) (hx : Tr.exit ∈ newTr c c' → ¬ AfterStart c) : CodeShapeStep P c c'

theorem CodeShapeStep.shape {c c' : Cfg} (h : CodeShapeStep P c c') (hS : CodeShape c) : CodeShape c' := by
  cases h
  case body B B' T hT hc hB hcode hB' hx => exact .inr (.inr (.inr (.inr ⟨B', T, hcode, hB', hT⟩)))
  case exit hc hB hcode hx => exact .inr (.inl hcode)
  case start hc hcode htr => exact .inr (.inr (.inr (.inr ⟨[], _, hcode, by simp, .inr rfl⟩)))
  case loopOff hc hr hcode htr => exact .inr (.inr (.inr (.inl hcode)))
  case restored hc hcode htr => exact .inr (.inr (.inl hcode))
  case leave hc hcode htr => exact .inr (.inl hcode)
  case quit hc hcode hx hlog => exact .inl hcode
  case same hcode hx => unfold CodeShape; rw [hcode]; exact hS
  case dead hs hcode hx => exact .inl hcode

theorem open_afterStart {c : Cfg} {B : List Instr} (hc : c.code = B ++ [.mainCheck 0, .catchExit, .quitCb])
    (hB : ∀ i ∈ B, isTop i = false) : AfterStart c := by
  rw [AfterStart, hc, List.all_eq_true]
  intro i hi
  rcases List.mem_append.mp hi with hi | hi
  · have := hB i hi
    unfold isApprun
    split <;> first | cases this | rfl
  · simp at hi; rcases hi with rfl | rfl | rfl <;> rfl

section table
variable {P : Prog} {c : Cfg} {ins : Instr} {pushed : List Instr} {new : List Tr} {L' : LoopSt} {lg : List Ev} {e : End}

theorem CoreStep.body {m : Cfg} {rest : List Instr} (h : CoreStep P c ins pushed new L' lg e) (hins : isTop ins = false)
    (hcode : m.code = pushed ++ rest) (htr : m.tr = new ++ c.tr) : CodeC rest m.code ∧ NoExit c.tr m.tr := by
  have key : (∀ i ∈ pushed, isTop i = false) → Tr.exit ∉ new → CodeC rest m.code ∧ NoExit c.tr m.tr :=
    fun h1 h2 => ⟨⟨pushed, hcode, h1⟩, ⟨new, htr, h2⟩⟩
  have body : ∀ {tr : List Tr} {hd : HRef} {s : Sig}, ∀ i ∈ bodyOf P tr hd s, isTop i = false :=
    bodyOf_all (fun _ => softI_clean) fun _ => rfl
  cases h with
  | refuse | apprun | catchExit | quitCbSome | quitCbNone => cases hins
  | getDispatch ht _ => exact key (all_false rfl) (by simpa using soft_no_exit ht)
  | getBlocked ht _ => exact key (all_false rfl) (soft_no_exit ht)
  | callUser ht _ => exact key body (by simpa using soft_no_exit ht)
  | callSys _ ht _ => exact key body (by simpa using soft_no_exit ht)
  | hret ht _ => exact key (all_false rfl) (soft_no_exit ht)
  | waitTake _ ht _ => exact key (all_false rfl) (by simpa using soft_no_exit ht)
  | waitBlocked _ ht _ => exact key (all_false rfl) (soft_no_exit ht)
  | newLoop _ ht => exact key (all_false rfl) (by simpa using fun h => by rw [← h] at ht; cases ht)
  | _ => exact key (all_false rfl) (by simp)

end table

theorem drop_body {B T D X : List Instr} (hT : OpenTail T) (h : B ++ T = D ++ X)
    (hD : ∀ i ∈ D, i.isLC = false ∨ i = .catchHandler) : ∃ B', B' <:+ B ∧ X = B' ++ T := by
  rcases List.append_eq_append_iff.mp h with ⟨a, rfl, h2⟩ | ⟨b, rfl, h2⟩
  · cases a with
    | nil => exact ⟨[], List.nil_suffix, by simpa using h2.symm⟩
    | cons x a =>
      -- the first instruction of the tail is a loop instruction: it is not dropped
      exfalso
      have hx := hD x (by simp)
      rw [List.cons_append] at h2
      rcases hT with rfl | rfl <;> obtain ⟨rfl, -⟩ := List.cons.inj h2 <;> rcases hx with hx | hx <;> cases hx
  · exact ⟨b, List.suffix_append _ _, h2⟩

/-- the loop-core instructions other than the `except Exception` scope of a handler call -/
def isKeep : Instr → Bool
  | .apprun | .catchExit | .quitCb | .mainCheck _ | .restoreRun | .loopCheck | .getDispatch
  | .processSignal _ | .dispatch _ _ | .kill _ => true
  | _ => false

theorem keep_of_drop {D : List Instr} (h : ∀ i ∈ D, i.isLC = false ∨ i = .catchHandler) : D.filter isKeep = [] := by
  rw [List.filter_eq_nil_iff]
  intro i hi
  rcases h i hi with h | rfl
  · have : isKeep i = false := by unfold isKeep; split <;> first | cases h | rfl
    simp [this]
  · simp [isKeep]

theorem shape_fin {P : Prog} {c m c' : Cfg} {e : End} {ins : Instr} {B B' T : List Instr} {d : List Tr} (hT : OpenTail T)
    (hc : c.code = ins :: (B ++ T)) (hins : isTop ins = false) (hB : ∀ i ∈ B, isTop i = false)
    (hmcode : m.code = B' ++ T) (hB' : ∀ i ∈ B', isTop i = false) (htr : m.tr = d ++ c.tr) (hd : Tr.exit ∉ d)
    (hfin : (∃ D T', (∀ i ∈ D, i.isLC = false ∨ i = .catchHandler) ∧ m.code = D ++ c'.code ∧ c'.tr = T' ++ m.tr ∧
        ∀ t ∈ T', softT t = true) ∨ m.raise .exit = .ok c' ∨ ∃ k o, e = .raise k ∧ m.raise k = .error (o, c'))
    (hs : step P c = e.run m) : CodeShapeStep P c c' := by
  have hc' : c.code = (ins :: B) ++ T := hc
  have hB0 : ∀ i ∈ ins :: B, isTop i = false := by
    intro i hi; rcases List.mem_cons.mp hi with rfl | hi; exact hins; exact hB i hi
  rcases hfin with ⟨D, T', hD, heq, htr', hT'⟩ | hx | ⟨k, o, rfl, hk⟩
  · obtain ⟨B'', hsuf, hcode⟩ := drop_body hT (hmcode ▸ heq) hD
    refine .body hT hc' hB0 hcode (fun i hi => hB' i (hsuf.subset hi)) ?_
    rw [mem_newTr (d := T' ++ d) (by rw [htr', htr, List.append_assoc])]
    intro hm
    rcases List.mem_append.mp hm with hm | hm
    · exact soft_no_exit hT' hm
    · exact hd hm
  · -- the exit request, computed forwards
    rcases hT with rfl | rfl
    · rw [raise_eq, hmcode, unwind_exit_none] at hx
      · cases hx
      · intro i hi
        rcases List.mem_append.mp hi with hi | hi
        · exact clean_not_catchExit (hB' i hi)
        · rw [List.mem_singleton.mp hi]; rfl
    · have hpre : ∀ i ∈ B' ++ [Instr.mainCheck 0], isCatchExit i = false := by
        intro i hi
        rcases List.mem_append.mp hi with hi | hi
        · exact clean_not_catchExit (hB' i hi)
        · rw [List.mem_singleton.mp hi]; rfl
      have hcode : m.code = (B' ++ [.mainCheck 0]) ++ .catchExit :: [.quitCb] := by rw [hmcode]; simp
      rw [raise_eq, hcode, unwind_exit_catch hpre] at hx
      cases hx
      exact .exit hc' hB0 rfl (by rw [mem_newTr (d := .exit :: d) (by simp [preRaise, htr])]; simp)
  · obtain ⟨rfl, -⟩ := raise_error hk
    refine .dead ⟨o, hs.trans hk⟩ rfl fun hx => ?_
    cases k
    · have hn := raise_exit_error_no_catch hk
      rw [hmcode] at hn
      have := shape_exit_none hT hn
      subst this
      exact not_afterStart_of_mem (by rw [hc]; simp)
    · rw [mem_newTr (d := d) (by simp [preRaise, htr])] at hx; exact absurd hx hd
    · rw [mem_newTr (d := d) (by simp [preRaise, htr])] at hx; exact absurd hx hd

/-- the instruction at the bottom of the code of `run()`, with what is below it -/
inductive Bottom : Instr → List Instr → Prop
  | quit : Bottom .quitCb []
  | leave : Bottom .catchExit [.quitCb]
  | restore : Bottom .restoreRun [.catchExit, .quitCb]
  | start : Bottom .apprun []
  | loop : Bottom (.mainCheck 0) [.catchExit, .quitCb]

theorem shape_cases {c : Cfg} {ins : Instr} {rest : List Instr} (hS : CodeShape c) (hc : c.code = ins :: rest) :
    Bottom ins rest ∨ (isTop ins = false ∧ ∃ B T, rest = B ++ T ∧ (∀ i ∈ B, isTop i = false) ∧ OpenTail T) := by
  rcases hS with h | h | h | h | ⟨body, T, h, hB, hT⟩
  · rw [hc] at h; cases h
  · rw [hc] at h; cases h; exact .inl .quit
  · rw [hc] at h; cases h; exact .inl .leave
  · rw [hc] at h; cases h; exact .inl .restore
  · rw [hc] at h
    cases body with
    | nil =>
      rcases hT with rfl | rfl
      · cases h; exact .inl .start
      · cases h; exact .inl .loop
    | cons b B =>
      cases h
      exact .inr ⟨hB _ (by simp), B, T, rfl, fun i hi => hB i (by simp [hi]), hT⟩

section table
variable {P : Prog} {c : Cfg} {ins : Instr} {pushed : List Instr} {new : List Tr} {L' : LoopSt} {lg : List Ev} {e : End}

theorem shape_core_top {rest : List Instr} {m c' : Cfg} (hc : c.code = ins :: rest) (hb : Bottom ins rest) (h : CoreStep P c ins pushed new L' lg e)
    (hcode : m.code = pushed ++ rest) (htr : m.tr = new ++ c.tr) (hlog : m.log = lg ++ c.log) (hf : Fin m e c')
    (hs : step P c = e.run m) : CodeShapeStep P c c' := by
  cases hb <;> cases h <;> cases hf
  case quit.quitCbSome =>
    rename_i hd hl ht
    exact .quit hc hcode (by rw [mem_newTr htr]; exact soft_no_exit ht) ⟨_, hl, by simp [hlog, hd]⟩
  case quit.quitCbNone hd => exact .quit hc hcode (by rw [mem_newTr htr]; simp) ⟨[], by simp, by simp [hlog, hd]⟩
  case leave.catchExit => exact .leave hc hcode htr
  case restore.restoreFQ => exact .restored hc hcode htr
  case restore.restore => exact .restored hc hcode htr
  case start.refuse => exact .dead ⟨_, hs⟩ hcode (fun hx => by rw [mem_newTr htr] at hx; cases hx)
  case start.apprun => exact .start hc hcode htr
  case loop.mainGo hr =>
    exact .body (B := []) (B' := [.loopCheck]) (.inr rfl) hc (by simp) hcode (by simp [isTop]) (by rw [mem_newTr htr]; simp)
  case loop.mainExit hr => exact .loopOff hc hr hcode htr

end table

theorem shape_trans {P : Prog} {c c' : Cfg} (hS : CodeShape c) (hch : Chained c.code) (ht : Trans P c c') : CodeShapeStep P c c' := by
  cases trans_cases ht with
  | idle hcode h =>
    obtain ⟨d, hd, hds⟩ := h.tr
    exact .same hcode (by rw [mem_newTr hd]; exact soft_no_exit hds)
  | soft hc ho hm hf hs =>
    rcases shape_cases hS hc with hb | ⟨hins, B, T, hrest, hB, hT⟩
    · cases hb <;> cases ho
    · obtain ⟨d, hd, hds⟩ := hm.tr
      obtain ⟨pushed, hmcode, hp, hpc⟩ := soft_code_eq hc hch hm
      subst hrest
      exact shape_fin (B' := pushed ++ B) hT hc hins hB (by rw [hmcode, List.append_assoc])
        (List.forall_mem_append.2 ⟨fun i hi => softI_clean (hp i hi), hB⟩) hd (soft_no_exit hds)
        (fin_cases (hc ▸ hch) (otherI_nonLC ho) hmcode hp hpc hf) hs
  | core hc ho h hcode hL htr hlog hf hs =>
    rcases shape_cases hS hc with hb | ⟨hins, B, T, hrest, hB, hT⟩
    · exact shape_core_top hc hb h hcode htr hlog hf hs
    · obtain ⟨⟨pushed, hcode', hp⟩, ⟨d, htr', hd⟩⟩ := h.body hins hcode htr
      subst hrest
      refine shape_fin (B' := pushed ++ B) hT hc hins hB (by rw [hcode', List.append_assoc])
        (List.forall_mem_append.2 ⟨hp, hB⟩) htr' hd ?_ hs
      cases hf with
      | done => exact .inl ⟨[], [], by simp, rfl, rfl, by simp⟩
      | halt => exact .inl ⟨[], [], by simp, rfl, rfl, by simp⟩
      | died hk => exact .inr (.inr ⟨_, _, rfl, hk⟩)
      | caught hk =>
        obtain ⟨rfl, hlc | rfl⟩ := h.raises
        · exact fin_cases (hc ▸ hch) hlc hcode (by simp) rfl (.caught hk)
        · rw [raise_eq, unwind_sysexit] at hk; cases hk

theorem CodeShape.init {c0 : Cfg} (h0 : Started c0) : CodeShape c0 := by
  obtain ⟨init, hc⟩ := h0.code
  exact .inr (.inr (.inr (.inr ⟨init.map .act, [.apprun], hc, by simp [isTop], .inl rfl⟩)))

theorem shape_reach {P : Prog} {c0 c : Cfg} (h0 : Started c0) (hr : Reach P c0 c) : CodeShape c := by
  refine reach_induction ?_ ?_ hr
  · exact .init h0
  · intro c c' hr hI ht
    exact (shape_trans hI (Shape.reach_chained h0 hr) ht).shape hI

theorem shapeStep_reach {P : Prog} {c0 c c' : Cfg} (h0 : Started c0) (hr : Reach P c0 c) (ht : Trans P c c') : CodeShapeStep P c c' :=
  shape_trans (shape_reach h0 hr) (Shape.reach_chained h0 hr) ht

end Simpleline.Dispatch
