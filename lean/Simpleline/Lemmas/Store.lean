/-
  A store of objects addressed by index (the queue objects of the machine and of the thread model, the screens and
  input handlers of the application state): `List.modify` (the machine's `listSet`) read with `getD`, and growing the
  store by default objects.  Also the handler table (`handlersOf` of both machines, `Flat.hsOf`): what is listed for a
  class is a registration for that class.
-/
import Simpleline.Model.Machine

namespace Simpleline

theorem getD_modify {α} (l : List α) (i j : Nat) (f : α → α) (d : α) :
    (l.modify i f).getD j d = if i = j ∧ j < l.length then f (l.getD j d) else l.getD j d := by
  simp only [List.getD_eq_getElem?_getD, List.getElem?_modify]
  by_cases hj : j < l.length
  · by_cases hi : i = j
    · simp [hi, hj]
    · simp [hi]
  · simp [hj]

theorem listSet_getD {α} (l : List α) (i j : Nat) (f : α → α) (d : α) :
    (listSet l i f).getD j d = if i = j ∧ j < l.length then f (l.getD j d) else l.getD j d :=
  getD_modify l i j f d

theorem listSet_length {α} (l : List α) (i : Nat) (f : α → α) : (listSet l i f).length = l.length := by
  simp [listSet]

theorem getD_append_replicate {α} (l : List α) (n j : Nat) (d : α) :
    (l ++ List.replicate n d).getD j d = l.getD j d := by
  simp only [List.getD_eq_getElem?_getD, List.getElem?_append, List.getElem?_replicate]
  grind

/-- `setScr` grows the store as far as `i` first, so `j` needs no bound -/
theorem setScr_getD (A : AppSt) (i j : Nat) (f : ScreenObj → ScreenObj) :
    (A.setScr i f).screens.getD j {} = if i = j then f (A.screens.getD j {}) else A.screens.getD j {} := by
  unfold AppSt.setScr
  rw [listSet_getD, getD_append_replicate]
  by_cases hij : i = j
  · subst hij
    rw [if_pos ⟨rfl, by simp; omega⟩, if_pos rfl]
  · rw [if_neg fun h => hij h.1, if_neg hij]

theorem mem_of_mem_handlers {α β : Type} [DecidableEq α] {l : List (α × β)} {a : α} {b : β}
    (h : b ∈ (l.filter (·.1 = a)).map (·.2)) : (a, b) ∈ l := by
  obtain ⟨x, hx, rfl⟩ := List.mem_map.1 h
  obtain ⟨hx1, hx2⟩ := List.mem_filter.1 hx
  rw [← of_decide_eq_true hx2]
  exact hx1

theorem handlers_prefix {α β : Type} [DecidableEq α] {l l' : List (α × β)} (h : l <+: l') (a : α) :
    (l.filter (·.1 = a)).map (·.2) <+: (l'.filter (·.1 = a)).map (·.2) :=
  (h.filter _).map _

theorem handlersOf_mem {L : LoopSt} {cls : Cls} {j : Nat} {h : HRef} {d : Option Nat}
    (hj : (handlersOf L cls)[j]? = some (h, d)) : (cls, h, d) ∈ L.handlers :=
  mem_of_mem_handlers (List.mem_of_getElem? hj)

end Simpleline
