/-
  C17: the effect of one machine step on the console, on the marker events of the trace and on the
  pending `printLines` instructions (`step_eff`), by cases on the instruction executed.
-/
import Simpleline.Lemmas.OutputFrame
import Simpleline.Lemmas.Screen

namespace Simpleline.Output

/-- what the step out of `c` into `c'` does: only five instructions write, and each writes chunks of a
known kind; only `drawScreen` adds a `show` event and only `kill` a `kill` event; only `printWidget`
creates `printLines` instructions, and they carry window lines -/
def StepEff (P : Prog) (c c' : Cfg) : Prop :=
  match c.code with
  | [] => c' = c
  | .drawScreen e :: rest =>
    c'.A.out = c.A.out ++ (if (P.spec e.screen).noSeparator then [] else [spacer P.width]) ∧
    c'.tr = .show e :: c.tr ∧ prints c'.code ⊆ prints rest
  | .printLines ls :: rest =>
    c'.A.out = c.A.out ++ [ls.flatMap fun l => l ++ ['\n']] ∧ QT c.tr c'.tr ∧ prints c'.code ⊆ prints rest
  | .getInput2 _ _ :: rest =>
    (c'.A.out = c.A.out ∨ c'.A.out = c.A.out ++ [promptText P defaultPrompt]) ∧
    QT c.tr c'.tr ∧ prints c'.code ⊆ prints rest
  | .blockingInput _ cont :: rest =>
    (c'.A.out = c.A.out ∨
      c'.A.out = c.A.out ++ [if cont then promptText P contPrompt else msgText P]) ∧
    QT c.tr c'.tr ∧ prints c'.code ⊆ prints rest
  | .kill _ :: _ =>
    c'.A.out = c.A.out ++ killChunks P c.A.stack ∧ c'.tr = .kill :: c.tr ∧ c'.code = []
  | .printWidget _ :: rest =>
    c'.A.out = c.A.out ∧ QT c.tr c'.tr ∧ ∀ ls ∈ prints c'.code, ls ∈ prints rest ∨ WindowLines P ls
  | _ :: rest => Quiet c rest c'

/-- the `printLines` instructions made of a paged window hold the lines of the window, each once and in order -/
theorem prints_paged (scr : Nat) (ls : List Str) (h : Nat) (evs : List OutEv) (he : printWidget ls h = some evs) :
    (prints (step.go scr evs [] [])).flatten = ls := by
  let f : OutEv → Option Str := fun e => match e with | .line l => some l | .ask => none
  rw [prints_go_flatten f (fun _ => rfl) rfl, printWidget_eq_some ls h evs he, pages_filterMap f (fun _ => rfl) rfl]
  rfl

/-- The master lemma of C17: the scheduler's own instructions and the five that write. `here` speaks of `c` with its
code replaced by `rest`, the configuration every instruction starts from; `here.same`, `here.traced`, `here.traced2`
of that configuration with other fields updated and no, one or two events traced; `hh` are the helpers. -/
theorem step_eff (P : Prog) (c : Cfg) : StepEff P c (fin (step P c)) := by
  rw [fin_eq_final]
  unfold StepEff
  rcases hc : c.code with _ | ⟨ins, rest⟩
  · simp [step, hc, final]
  have here : Quiet c rest { c with code := rest } := .base rfl (qt_refl _) rfl
  have hh := (Quiet.closed c rest).helper
  cases hb : ins.bookkeeping
  · cases ins
    case act a =>
      cases a <;> first | (cases hb; done) | simp only [step, hc, doAct]
      case schedule =>
        refine ite_final here.traced (Quiet.same (hh.redraw ?_))
        exact here.traced
      case push => exact hh.redraw here.traced
      case replace =>
        split
        · exact hh.raise .err here
        · exact hh.redraw here.traced
    all_goals first | (cases hb; done) | simp only [step, hc]
    case classify => exact here.same
    case getInput | processInput => exact .push rfl here
    case afterSetup2 => exact .push rfl here.traced
    case pushModal => exact .push rfl here.traced2
    case maybeInput => exact ite_final (.push rfl here) here
    case kill =>
      simp only [Cfg.raise, Machine.unwind_sysexit]
      exact ⟨List.append_assoc _ _ _, rfl, rfl⟩
    case closeScreen =>
      split
      · exact hh.raise .err here
      · exact ite_final (hh.raise .err here) (.push rfl here.traced)
    case closeScreen2 => exact ite_final (hh.raise .err here) (ite_final (.push rfl here) (.push rfl here))
    case processScreen =>
      split
      · exact hh.raise .exit here
      · exact ite_final (.push rfl here) (.push rfl here)
    case afterSetup =>
      refine ite_final (.push rfl here) ?_
      split
      · exact hh.raise .err here
      · exact ite_final (.push rfl here.traced) (hh.redraw here.traced)
    case identCheck =>
      split
      · exact hh.raise .exit here
      · -- on a changed top entry the rest of `_process_screen` is skipped
        exact ite_final ⟨rfl, qt_refl _, (prints_sublist (List.dropWhile_sublist _)).subset⟩ (.push rfl here)
    case drawScreen =>
      split
      · exact ⟨(List.append_nil _).symm, rfl, fun _ h => h⟩
      · exact ⟨rfl, rfl, fun _ h => h⟩
    case callScr =>
      refine .push ?_ (hh.emit P _ here.same)
      rw [List.append_assoc, prints_append, prints_acts]
      split <;> rfl
    case scrRet =>
      split
      · exact ite_final here.same here.same
      all_goals exact here.same
    case printWidget scr =>
      split
      · have h := hh.raise .err here
        exact ⟨h.out, h.tr, fun ls hls => .inl (h.code hls)⟩
      · next lines hl =>
        split
        · exact ⟨rfl, qt_refl _, fun ls hls => .inl hls⟩
        · next evs he =>
          refine ⟨rfl, qt_refl _, fun ls hls => ?_⟩
          rcases List.mem_append.mp (prints_append _ _ ▸ hls) with hls | hls
          · exact .inr ⟨scr, lines, hl, fun l hm =>
              prints_paged scr lines _ evs he ▸ List.mem_flatten.mpr ⟨ls, hls, hm⟩⟩
          · exact .inl hls
    case printLines => exact ⟨rfl, qt_refl _, fun _ h => h⟩
    case getInput2 =>
      split
      · exact ⟨.inl rfl, qt_refl _, fun _ h => h⟩
      · exact startRequest_frame _ _ _ _
    case blockingInput => exact startRequest_frame _ _ _ _
    case countAndAct =>
      split
      · exact hh.raise .exit here.same
      · generalize c.retAction = a
        cases a with
        | error => exact ite_final (hh.redraw here.same) (.push rfl here.same)
        | noop => exact here.same
        | redraw => exact hh.redraw here.same
        | close => exact .push rfl here.same
        | quit =>
          show Quiet c rest (final (match P.quitScreen with | some q => _ | none => _))
          split
          · exact .push rfl here.same
          · exact hh.raise .exit here.same
    case afterQuit =>
      split
      · exact hh.raise .exit here
      · exact hh.raise .exit here
      · exact hh.redraw here
  · -- to the console a bookkeeping instruction is quiet
    have hq := step_bookkeeping (Quiet.closed c rest) P c ins rest hc hb here
    cases ins <;> first | (cases hb; done) | exact hq

end Simpleline.Output
