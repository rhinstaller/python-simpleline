/-
  String literals in statements that are proved by evaluation.

  A literal `"abc"` is by definition `String.ofList ['a', 'b', 'c']`, and `String.toList_ofList` turns
  `"abc".toList` into `['a', 'b', 'c']` at the cost of that unfolding. Evaluating `String.toList` on the literal
  instead decodes its UTF-8 bytes one by one, which is by far the dearer way for the kernel.
-/

macro "lits" : tactic => `(tactic| repeat rw [String.toList_ofList])
