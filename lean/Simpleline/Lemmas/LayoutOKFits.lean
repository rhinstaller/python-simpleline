/-
  The syntactic predicate `Wd.Fits` implies `RespectsWidth` at every width, by induction over the widget
  tree (C13b).
-/
import Simpleline.Lemmas.LayoutOKKinds

namespace Simpleline

mutual
theorem fits_respects (cc : CharClass) : ∀ (t : Wd), t.Fits = true → ∀ w, RespectsWidth cc t w
  | .text st t, _, w => respects_text cc st t w
  | .sep st n, _, w => respects_sep cc st n w
  | .center st c, _, w => respects_center cc st c w
  | .checkbox st k title text c, hf, w => by
    simp only [Wd.Fits, Bool.or_eq_true] at hf
    exact respects_checkbox cc st k title text c w (Or.inr hf)
  | .window st title items, hf, w => by
    simp only [Wd.Fits] at hf
    exact respects_window cc st title items w (fun it hit => fitsList_respects cc items hf it hit w)
  | .list st cm cols cw sp kp u nw items, hf, w => by
    simp only [Wd.Fits, Bool.and_eq_true, Option.isNone_iff_eq_none] at hf
    obtain ⟨hcw, hf⟩ := hf
    subst hcw
    exact respects_list cc st cm cols sp kp u nw items w
      (fun _ hi => fitsList_respects cc items hf _ (List.getElem_mem hi) _)
theorem fitsList_respects (cc : CharClass) : ∀ (items : List Wd), fitsList items = true →
    ∀ it ∈ items, ∀ w, RespectsWidth cc it w
  | [], _, it, hit, _ => by cases hit
  | x :: xs, hf, it, hit, w => by
    simp only [fitsList, Bool.and_eq_true] at hf
    rcases List.mem_cons.mp hit with e | hit
    · exact e ▸ fits_respects cc x hf.1 w
    · exact fitsList_respects cc xs hf.2 it hit w
end

theorem fitsList_eq_all : ∀ items : List Wd, fitsList items = items.all Wd.Fits
  | [] => rfl
  | x :: xs => by rw [fitsList, fitsList_eq_all xs, List.all_cons]

theorem fitsList_mem : ∀ (items : List Wd), fitsList items = true → ∀ it ∈ items, it.Fits = true :=
  fun items hf => List.all_eq_true.1 (fitsList_eq_all items ▸ hf)

theorem fitsList_of_mem : ∀ (items : List Wd), (∀ it ∈ items, it.Fits = true) → fitsList items = true :=
  fun items h => fitsList_eq_all items ▸ List.all_eq_true.2 h

end Simpleline
