/-
  The `closed` callback has been invoked (or is about to be) exactly as often as the `close` stack
  operation was performed (`ClosedCount`).
-/
import Simpleline.Lemmas.SchedInv

namespace Simpleline

def closedCbs (l : List Ev) : Nat := (l.filter Ev.isClosed).length
def closeOps (l : List Tr) : Nat := (l.filter (Tr.isOp "close")).length

theorem closedCbs_cbLog (l : List Ev) : closedCbs (cbLog l) = closedCbs l := by
  unfold closedCbs cbLog
  rw [List.filter_filter]
  congr 2
  funext e
  cases e <;> simp [Ev.isClosed]

theorem closeOps_schedTr (l : List Tr) : closeOps (schedTr l) = closeOps l := by
  unfold closeOps schedTr
  rw [List.filter_filter]
  congr 2
  funext e
  cases e <;> simp [Tr.isOp]

theorem closedCbs_append (a b : List Ev) : closedCbs (a ++ b) = closedCbs a + closedCbs b := by
  simp [closedCbs]
theorem closeOps_append (a b : List Tr) : closeOps (a ++ b) = closeOps a + closeOps b := by
  simp [closeOps]

def ClosedCount (c : Cfg) : Prop := closedCbs c.log + pendClosed c.code = closeOps c.tr

theorem ClosedCount_init {c0 : Cfg} (h : Started c0) : ClosedCount c0 := by
  obtain ⟨init, handlers, quitCb, stdin, rfl⟩ := h
  cases init <;> simp [ClosedCount, initCfg, closedCbs, closeOps, pendClosed]

theorem ClosedCount_dlv {c : Cfg} (h : ClosedCount c) : ClosedCount c.dlv := by
  unfold ClosedCount at h ⊢
  rw [← closedCbs_cbLog, ← closeOps_schedTr, (SFrame.dlv c).cbs, (SFrame.dlv c).sched, dlv_code, closedCbs_cbLog, closeOps_schedTr]
  exact h

theorem pendClosed_le (code : List Instr) : pendClosed code ≤ 1 := by
  unfold pendClosed; split <;> omega

theorem pendClosed_eq_one {code : List Instr} (h : pendClosed code = 1) :
    ∃ s a k, code.head? = some (.callScr s .closed a k) := by
  unfold pendClosed at h
  split at h
  · exact ⟨_, _, _, rfl⟩
  · omega

theorem stackOp_eq_close {c : Cfg} {frm : Option Src} (h : c.stackOp = some (.close frm)) :
    ∃ rest, c.code = .closeScreen frm :: rest := by
  unfold Cfg.stackOp at h
  split at h
  all_goals try (simp at h; done)
  · simp only [Option.some.injEq, Spec.Op.close.injEq] at h
    subst h
    exact ⟨_, ‹_›⟩

/-- a close operation is traced only by a `closeScreen` whose request is accepted -/
theorem closeOps_schedEvs_pos {c : Cfg} (h : closeOps c.schedEvs ≠ 0) :
    ∃ frm e rest, c.code = .closeScreen frm :: rest ∧ c.A.stack.getLast? = some e ∧
      (frm = none ∨ frm = some (.scr e.screen)) := by
  rcases c.schedEvs_eq with ⟨_, _, -, h', -⟩ | ⟨_, _, -, h', -⟩ | h' <;> rw [h'] at h
  · exact absurd rfl h
  · exact absurd rfl h
  · rcases c.opStep with ⟨-, h2⟩ | ⟨op, s', hop, ha, -, h2⟩ <;> rw [h2] at h
    · exact absurd rfl h
    · cases op <;> first | exact absurd rfl h | skip
      obtain ⟨rest, hc⟩ := stackOp_eq_close hop
      rcases he : c.A.stack.getLast? with _ | e
      · rw [Spec.Op.apply, Spec.Stack.close_none _ he] at ha; cases ha
      · refine ⟨_, e, rest, hc, rfl, Decidable.or_iff_not_not_and_not.2 fun hrf => ?_⟩
        rw [Spec.Op.apply, Spec.Stack.close_refused he hrf] at ha; cases ha

theorem closedCbs_cbEvs (c : Cfg) : closedCbs c.cbEvs = pendClosed c.code := by
  unfold Cfg.cbEvs
  rcases c.code with _ | ⟨ins, rest⟩
  · rfl
  · cases ins
    case callScr scr cb a k => cases cb <;> rfl
    all_goals rfl

theorem pendClosed_step {P : Prog} {c : Cfg} (hi : Imm c) :
    pendClosed (sOutCfg (step P c)).code = closeOps c.schedEvs := by
  by_cases hcl : ∃ frm e rest, c.code = .closeScreen frm :: rest ∧ c.A.stack.getLast? = some e ∧
      (frm = none ∨ frm = some (.scr e.screen))
  · obtain ⟨frm, e, rest, hc, he, hacc⟩ := hcl
    have hacc' : ¬ (frm ≠ none ∧ frm ≠ some (.scr e.screen)) := fun h => hacc.elim h.1 h.2
    have h1 : pendClosed (sOutCfg (step P c)).code = 1 := by simp only [step, hc, he, if_neg hacc']; rfl
    have h2 := (Cfg.stackAfter_apply (c := c) (op := .close frm) (by simp only [Cfg.stackOp, hc])
      (Spec.Stack.close_top he hacc')).2
    rw [h1, Cfg.schedEvs, hc, h2]
    rfl
  · have h1 : pendClosed (sOutCfg (step P c)).code = 0 := by
      rcases Nat.eq_zero_or_pos (pendClosed (sOutCfg (step P c)).code) with h | h
      · exact h
      · obtain ⟨s, a, k, hh⟩ := pendClosed_eq_one (Nat.le_antisymm (pendClosed_le _) h)
        rcases hc : c.code with _ | ⟨ins, rest⟩
        · rw [Machine.step_nil hc, sOutCfg_error, hc] at hh; cases hh
        · cases head_imm_after hi hc hh rfl with
          | closed he hacc => exact absurd ⟨_, _, _, hc, he, hacc⟩ hcl
    rw [h1]
    exact (Decidable.not_not.1 fun h => hcl (closeOps_schedEvs_pos h)).symm

theorem ClosedCount_step {P : Prog} {c : Cfg} (hi : Imm c) (h : ClosedCount c) : ClosedCount (sOutCfg (step P c)) := by
  unfold ClosedCount at h ⊢
  rw [← closedCbs_cbLog, ← closeOps_schedTr] at h ⊢
  rw [(step_state P c).cbs, (step_state P c).sched, closedCbs_append, closeOps_append, closedCbs_cbEvs,
    pendClosed_step hi]
  omega

theorem Reach.closedCount {P : Prog} {c0 c : Cfg} (h0 : Started c0) (h : Reach P c0 c) : ClosedCount c :=
  h.induct (ClosedCount_init h0) (fun _ hr hI => ClosedCount_step (hr.imm h0) hI) (fun _ _ => ClosedCount_dlv)

end Simpleline
