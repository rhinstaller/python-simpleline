/-
  The exact correspondence `LevelsInv` between activations and levels, under `WFOpen`, `WFDrain`
  and as long as `force_quit` has not been called.
-/
import Simpleline.Lemmas.ShapeSub

namespace Simpleline

/-- the second disjunct of `LevelsInv`, on the shape view -/
def Exact' (v : SV) : Prop :=
  v.forceQuit = false ∧
   ((v.runLoop = true ∧ markersA v.code = v.levels.reverse) ∨
    (v.runLoop = false ∧ headIsRestore v.code = true ∧ markersA v.code = v.levels.reverse) ∨
    (v.runLoop = false ∧ headIsRestore v.code = false ∧ closePending v.ev = true ∧ v.levels ≠ [] ∧
       ∃ q, lastClosed v.ev = some q ∧ markersA v.code = q :: v.levels.reverse))

/-- `LevelsInv` on the shape view -/
def ExactInv (v : SV) : Prop := overCode v.code = true ∨ Exact' v

def exactEv : Tr → Bool
  | .openLevel _ false => false
  | .forceQuit => false
  | _ => true

namespace Shape

theorem closePending_append {evs : List Tr} (ev : List Tr) (h : ∀ t ∈ evs, t.isLevelEv = false) :
    closePending (evs ++ ev) = closePending ev := by
  induction evs with
  | nil => rfl
  | cons t evs ih =>
    have ht := h t (by simp)
    have := ih fun t ht => h t (by simp [ht])
    cases t <;> first | contradiction | exact this

theorem lastClosed_append {evs : List Tr} (ev : List Tr) (h : ∀ t ∈ evs, t.isLevelEv = false) :
    lastClosed (evs ++ ev) = lastClosed ev := by
  induction evs with
  | nil => rfl
  | cons t evs ih =>
    have ht := h t (by simp)
    have := ih fun t ht => h t (by simp [ht])
    cases t <;> first | contradiction | exact this

theorem noDoubleClose_append {a b : List Tr} (h : noDoubleClose (a ++ b) = true) : noDoubleClose b = true := by
  induction a with
  | nil => exact h
  | cons t a ih =>
    apply ih
    cases t <;> first | exact h | skip
    simp only [List.cons_append, noDoubleClose, Bool.and_eq_true] at h
    exact h.2

theorem exact_step {P : Prog} {v v' : SV} {evs : List Tr} (hb : Basic v) (hi : ExactInv v) (hs : SStepE P v evs v')
    (hev : evs.all exactEv = true) (hnd : noDoubleClose v'.ev = true) : ExactInv v' := by
  rcases hi with ho | hi
  · exact .inl (over_step ho hs)
  have hev' := SStepE.ev_eq hs
  obtain ⟨h0, hi⟩ := hi
  have mk : ∀ {h : Instr} {rest : List Instr} {L : List Nat}, v.code = h :: rest → markersA v.code = L →
      markersA (h :: rest) = L := fun hc h => hc ▸ h
  cases sstepE_level hb.chained hs with
  | over ho _ => exact .inl ho
  | keep hm hh hl hr hf _ _ hlev =>
    right
    unfold Exact'
    rw [hm, hh, hl, hr, hf, hev', closePending_append _ hlev, lastClosed_append _ hlev]
    exact ⟨h0, hi⟩
  | @mainExit q rest hc hr _ hv =>
    -- a `close_loop` is pending: the returning activation is that of the level it popped
    subst hv
    rcases hi with hA | hB' | hB
    · rw [hr] at hA; cases hA.1
    · rw [hc] at hB'; cases hB'.2.1
    · obtain ⟨_, _, _, _, q', _, h6⟩ := hB
      rw [hc] at h6
      exact .inr ⟨h0, .inr (.inl ⟨hr, rfl, (List.cons.inj h6).2⟩)⟩
  | restoreFQ _ hf _ _ => rw [h0] at hf; cases hf
  | restore hc hf _ hv =>
    subst hv
    refine .inr ⟨hf, .inl ⟨rfl, ?_⟩⟩
    rcases hi with hA | hB' | hB
    · exact mk hc hA.2
    · exact mk hc hB'.2.2
    · rw [hc] at hB; cases hB.2.1
  | apprun hc _ hv =>
    subst hv
    refine .inr ⟨rfl, .inl ⟨rfl, ?_⟩⟩
    rcases hi with hA | hB' | hB
    · have := mk hc hA.2; exact this
    · rw [hc] at hB'; cases hB'.2.1
    · obtain ⟨_, _, _, h4, q, _, h6⟩ := hB
      rw [hc] at h6
      exact absurd (List.reverse_eq_nil_iff.1 (List.cons.inj h6).2.symm) h4
  | «open» hc _ he hv =>
    subst hv he
    have hrl : v.runLoop = true := by
      cases hr : v.runLoop with
      | true => rfl
      | false => rw [hr] at hev; cases hev
    rcases hi with hA | hB' | hB
    · refine .inr ⟨h0, .inl ⟨hrl, ?_⟩⟩
      show v.nq :: markersA _ = (v.levels ++ [v.nq]).reverse
      rw [List.reverse_append, ← hA.2, hc]; rfl
    · rw [hrl] at hB'; cases hB'.1
    · rw [hrl] at hB; cases hB.1
  | @pop q a rest hc hq ha _ hv =>
    subst hv
    have hcp : closePending v.ev = false := by
      have : noDoubleClose (.closeLevel q :: v.ev) = true := hnd
      simp only [noDoubleClose, Bool.and_eq_true, Bool.not_eq_true'] at this
      exact this.1
    rcases hi with hA | hB' | hB
    · obtain ⟨l', hl⟩ := List.getLast?_eq_some_iff.1 hq
      refine .inr ⟨h0, .inr (.inr ⟨rfl, headIsRestore_of_chained (hc ▸ hb.chained), rfl, ?_, q, rfl, ?_⟩)⟩
      · exact fun h => by rw [show v.levels.dropLast = [] from h] at ha; cases ha
      · show markersA rest = q :: v.levels.dropLast.reverse
        rw [show markersA rest = v.levels.reverse from mk hc hA.2, hl, List.dropLast_concat, List.reverse_append]
        rfl
    · rw [hc] at hB'; cases hB'.2.1
    · rw [hcp] at hB; cases hB.2.2.1
  | forceQuit _ he _ => subst he; cases hev

theorem exact_init {c0 : Cfg} (h0 : Started c0) : ExactInv c0.sv := by
  obtain ⟨init, handlers, quitCb, stdin, rfl⟩ := h0
  right
  refine ⟨rfl, .inl ⟨rfl, ?_⟩⟩
  show markersA (init.map Instr.act ++ [.apprun]) = [0].reverse
  rw [markersA_init]; rfl

theorem closePending_shapeTr (l : List Tr) : closePending (shapeTr l) = closePending l := by
  induction l with
  | nil => rfl
  | cons t l ih =>
    rw [shapeTr_cons]
    cases t <;> first | rfl | exact ih

theorem lastClosed_shapeTr (l : List Tr) : lastClosed (shapeTr l) = lastClosed l := by
  induction l with
  | nil => rfl
  | cons t l ih =>
    rw [shapeTr_cons]
    cases t <;> first | rfl | exact ih

theorem noDoubleClose_shapeTr (l : List Tr) : noDoubleClose (shapeTr l) = noDoubleClose l := by
  induction l with
  | nil => rfl
  | cons t l ih =>
    rw [shapeTr_cons]
    cases t <;> first | exact ih | skip
    simp only [Tr.shape, if_true, noDoubleClose, ih, closePending_shapeTr]

theorem exactEv_shape (t : Tr) (h : exactEv t = false) : t.shape = true := by
  cases t <;> first | rfl | contradiction

theorem exactEv_all {l : List Tr} (h1 : l.all wfOpenEv = true) (h2 : Tr.forceQuit ∉ l) : l.all exactEv = true := by
  rw [List.all_eq_true] at h1 ⊢
  intro t ht
  have := h1 t ht
  cases t <;> first | rfl | skip
  case openLevel q b => cases b <;> first | rfl | (cases this; done)
  case forceQuit => exact absurd ht h2

theorem reach_exact {P : Prog} {c0 c : Cfg} (h0 : Started c0) (h : Reach P c0 c) (hw : WFOpen c) (hd : WFDrain c)
    (hf : NoForceQuit c) : ExactInv c.sv :=
  reach_sv_inv (H := fun v => v.ev.all exactEv = true ∧ noDoubleClose v.ev = true) h0 h
    (fun hs hv => ⟨(ev_all_step hs hv.1).2, noDoubleClose_append (SStepE.ev_eq hs ▸ hv.2)⟩) (exact_init h0)
    (fun hb hi hs hv => exact_step hb hi hs (ev_all_step hs hv.1).1 hv.2)
    ⟨(all_shapeTr _ exactEv_shape c.tr).trans (exactEv_all hw hf), (noDoubleClose_shapeTr c.tr).trans hd⟩

theorem levelsInv_of_exact {c : Cfg} (h : ExactInv c.sv) : LevelsInv c := by
  rcases h with h | ⟨h0, hA | hB' | hB⟩
  · exact .inl h
  · exact .inr ⟨h0, .inl hA⟩
  · exact .inr ⟨h0, .inr (.inl hB')⟩
  · obtain ⟨h1, h2, h3, h4, q, h5, h6⟩ := hB
    refine .inr ⟨h0, .inr (.inr ⟨h1, h2, ?_, h4, q, ?_, h6⟩)⟩
    · rw [← closePending_shapeTr]; exact h3
    · rw [← lastClosed_shapeTr]; exact h5

end Shape

end Simpleline
