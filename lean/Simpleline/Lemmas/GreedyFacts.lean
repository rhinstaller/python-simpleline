/-
  The characteristic facts of a greedy wrap (C11b): `fitCount` is the longest prefix that fits, a
  line of the specification (`greedyLine`) ends only before a chunk that does not fit, and - through
  `stepCur_eq_greedyLine` and `wrapStep_snd_eq_greedyLine` - an iteration of the model's loop cuts a
  long word at `cutPoint`.
-/
import Simpleline.Lemmas.TextWrap

namespace Simpleline

theorem chunksWidth_cons (c : List Char) (cs : List (List Char)) :
    chunksWidth (c :: cs) = c.length + chunksWidth cs := by
  simp [chunksWidth]

theorem fitCount_le_length : ∀ (room : Nat) (cs : List (List Char)), fitCount room cs ≤ cs.length
  | _, [] => Nat.le_refl _
  | room, c :: cs => by
    unfold fitCount
    split
    · have := fitCount_le_length (room - c.length) cs
      simp only [List.length_cons]
      omega
    · exact Nat.zero_le _

theorem fitCount_max : ∀ (room : Nat) (cs : List (List Char)) (n : Nat), n ≤ cs.length →
    chunksWidth (cs.take n) ≤ room → n ≤ fitCount room cs
  | _, [], n, hn, _ => by
    have : n = 0 := by simpa using hn
    omega
  | _, _ :: _, 0, _, _ => Nat.zero_le _
  | room, c :: cs, n + 1, hn, hfit => by
    rw [List.take_succ_cons, chunksWidth_cons] at hfit
    have hc : c.length ≤ room := by omega
    rw [fitCount, if_pos hc]
    have := fitCount_max (room - c.length) cs n (by simpa using hn) (by omega)
    omega

theorem fitCount_append : ∀ (room : Nat) (pre : List (List Char)) (c : List Char)
    (post : List (List Char)), chunksWidth pre ≤ room → room < chunksWidth pre + c.length →
    fitCount room (pre ++ c :: post) = pre.length
  | room, [], c, post, _, hc => by
    simp only [chunksWidth, List.flatten_nil, List.length_nil, Nat.zero_add] at hc
    rw [List.nil_append, fitCount, if_neg (by omega)]
    rfl
  | room, d :: ds, c, post, hpre, hc => by
    rw [chunksWidth_cons] at hpre hc
    rw [List.cons_append, fitCount, if_pos (by omega),
      fitCount_append (room - d.length) ds c post (by omega) (by omega)]
    rfl

theorem greedyLine_maximal (w : Nat) (chunks : List (List Char)) (c : List Char)
    (rest : List (List Char)) (h : (greedyLine w chunks).2 = c :: rest) :
    w < chunksWidth (greedyLine w chunks).1 + c.length := by
  unfold greedyLine at h ⊢
  simp only [] at h ⊢
  cases hd : chunks.drop (fitCount w chunks) with
  | nil => rw [hd] at h; cases h
  | cons d ds =>
    rw [hd] at h
    -- the chunk after the longest prefix that fits does not fit
    have hnext : w < chunksWidth (chunks.take (fitCount w chunks)) + d.length := by
      have := takeFit_snd w 0 chunks d ds
      rw [takeFit_eq_fitCount w 0 chunks (Nat.zero_le _), ← chunksWidth_eq_totalLen] at this
      simpa using this hd
    simp only [] at h ⊢
    by_cases hfit : d.length ≤ w
    · rw [if_pos hfit] at h ⊢
      simp only [List.cons.injEq] at h
      obtain ⟨rfl, _⟩ := h
      exact hnext
    · rw [if_neg hfit] at h ⊢
      simp only [List.cons.injEq] at h
      obtain ⟨rfl, _⟩ := h
      simp only [chunksWidth, List.flatten_append, List.flatten_cons, List.flatten_nil,
        List.append_nil, List.length_append, List.length_take, List.length_drop]
      omega

theorem wrapStep_long (cc : CharClass) (w : Nat) (haveLines : Bool) (chunks : List (List Char))
    (pre : List (List Char)) (c : List Char) (post : List (List Char))
    (hs : dropLead cc haveLines chunks = pre ++ c :: post) (hpre : totalLen pre ≤ w)
    (hc : w < c.length) :
    stepCur cc w haveLines chunks = pre ++ [c.take (cutPoint c (w - totalLen pre))] ∧
    (wrapStep cc w haveLines chunks).2 = c.drop (cutPoint c (w - totalLen pre)) :: post := by
  have hn := fitCount_append w pre c post (chunksWidth_eq_totalLen pre ▸ hpre)
    (by rw [chunksWidth_eq_totalLen]; omega)
  rw [stepCur_eq_greedyLine, wrapStep_snd_eq_greedyLine, hs]
  unfold greedyLine
  simp only [hn, List.take_left', List.drop_left']
  rw [if_neg (by omega), chunksWidth_eq_totalLen]
  exact ⟨rfl, rfl⟩

end Simpleline
