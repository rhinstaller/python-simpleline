/-
  The heap-based `EventQueue` (`HQueue`) refines the sorted-list `EQueue` of the machine model.
-/
import Simpleline.Lemmas.HeapPushPop
import Simpleline.Lemmas.HeapSort

namespace Simpleline.Heapq

/-- `Inv` on the list alone, with the counter value `n` -/
def InvH (n : Nat) (a : Array Entry) : Prop :=
  IsHeap entryLt a ∧ (∀ e ∈ a.toList, e.2.1 < n) ∧ DistinctSeq a.toList ∧ (∀ e ∈ a.toList, e.1 = e.2.2.prio)

theorem invH_empty (n : Nat) : InvH n #[] :=
  ⟨isHeap_empty _, by simp, by simp [DistinctSeq], by simp⟩

theorem InvH.mono {n m : Nat} {a : Array Entry} (h : InvH n a) (hnm : n ≤ m) : InvH m a :=
  ⟨h.1, fun e he => Nat.lt_of_lt_of_le (h.2.1 e he) hnm, h.2.2.1, h.2.2.2⟩

theorem invH_push {n : Nat} {a : Array Entry} (h : InvH n a) (e : Entry) (hn : e.2.1 < n)
    (hfresh : ∀ y ∈ a.toList, e.2.1 ≠ y.2.1) (hp : e.1 = e.2.2.prio) :
    InvH n (heappush entryLt a e) ∧ sortL (heappush entryLt a e).toList = insertEntry e (sortL a.toList) := by
  have p := heappush_perm entryLt a e
  have d : DistinctSeq (e :: a.toList) := List.pairwise_cons.2 ⟨hfresh, h.2.2.1⟩
  refine ⟨⟨heappush_isHeap entryLt_strictOrd a e h.1, fun y hy => ?_, d.perm p.symm, fun y hy => ?_⟩, ?_⟩
  · rcases List.mem_cons.1 (p.subset hy) with rfl | hy
    · exact hn
    · exact h.2.1 y hy
  · rcases List.mem_cons.1 (p.subset hy) with rfl | hy
    · exact hp
    · exact h.2.2.2 y hy
  · exact sortL_congr p (d.perm p.symm)

theorem invH_pop {n : Nat} {a a' : Array Entry} {e : Entry} (h : InvH n a)
    (hpop : heappop entryLt a = some (e, a')) :
    InvH n a' ∧ sortL a.toList = e :: sortL a'.toList ∧ e.2.1 < n ∧ (∀ y ∈ a'.toList, e.2.1 ≠ y.2.1) ∧
      e.1 = e.2.2.prio := by
  have p := heappop_perm hpop
  have d : DistinctSeq (e :: a'.toList) := h.2.2.1.perm p
  have d' := List.pairwise_cons.1 d
  have hmem : ∀ y ∈ a'.toList, y ∈ a.toList := fun y hy => p.symm.subset (List.mem_cons_of_mem _ hy)
  have he : e ∈ a.toList := p.symm.subset List.mem_cons_self
  exact ⟨⟨heappop_isHeap entryLt_strictOrd hpop h.1, fun y hy => h.2.1 y (hmem y hy), d'.2,
      fun y hy => h.2.2.2 y (hmem y hy)⟩,
    sortL_of_min p h.2.2.1 (heappop_min entryLt_strictOrd hpop h.1), h.2.1 e he, d'.1, h.2.2.2 e he⟩

theorem sortL_eq_nil {l : List Entry} : sortL l = [] ↔ l = [] :=
  ⟨fun h => (h ▸ sortL_perm l).nil_eq.symm, fun h => congrArg sortL h⟩

theorem heappop_none_iff_abs (q : HQueue) : heappop entryLt q.heap = none ↔ (abs q).entries = [] := by
  rw [heappop_none]
  show _ ↔ sortL q.heap.toList = []
  rw [sortL_eq_nil]
  simp

theorem inv_empty : Inv HQueue.empty := invH_empty 0

theorem inv_put {q : HQueue} (h : Inv q) (s : Sig) : Inv (q.put s) ∧ abs (q.put s) = (abs q).put s := by
  have := invH_push (InvH.mono h (Nat.le_succ _)) (s.prio, q.seq, s) (Nat.lt_succ_self _)
    (fun y hy => Nat.ne_of_gt (h.2.1 y hy)) rfl
  refine ⟨this.1, ?_⟩
  simp only [abs, HQueue.put, EQueue.put, this.2]

theorem get_eq_none {q : HQueue} : q.get = none ↔ (abs q).entries = [] := by
  rw [← heappop_none_iff_abs]
  unfold HQueue.get
  split <;> simp_all

theorem inv_get {q q' : HQueue} {s : Sig} (h : Inv q) (hg : q.get = some (s, q')) :
    Inv q' ∧ ∃ p n rest, (abs q).entries = (p, n, s) :: rest ∧ abs q' = { abs q with entries := rest } := by
  unfold HQueue.get at hg
  split at hg
  · cases hg
  · next e a' hp =>
    cases hg
    have := invH_pop h hp
    exact ⟨this.1, e.1, e.2.1, sortL a'.toList, this.2.1, rfl⟩

theorem getTop_eq_none {q : HQueue} {p : Int} : q.getTopIfPriority p = none ↔ (abs q).entries = [] := by
  rw [← heappop_none_iff_abs]
  unfold HQueue.getTopIfPriority
  split
  · simp_all
  · split <;> simp_all

theorem inv_getTop {q q' : HQueue} {p : Int} {r : Option Sig} (h : Inv q)
    (hg : q.getTopIfPriority p = some (r, q')) :
    Inv q' ∧ ∃ e rest, (abs q).entries = e :: rest ∧
      ((e.2.2.prio = p ∧ r = some e.2.2 ∧ abs q' = { abs q with entries := rest }) ∨
       (e.2.2.prio ≠ p ∧ r = none ∧ abs q' = abs q)) := by
  unfold HQueue.getTopIfPriority at hg
  split at hg
  · cases hg
  · next e a' hp =>
    obtain ⟨hinv, hhead, hbelow, hfresh, hprio⟩ := invH_pop h hp
    split at hg
    · next hpr =>
      cases hg
      exact ⟨hinv, e, sortL a'.toList, hhead, .inl ⟨hpr, rfl, rfl⟩⟩
    · next hpr =>
      cases hg
      have Q := invH_push hinv e hbelow hfresh hprio
      refine ⟨Q.1, e, sortL a'.toList, hhead, .inr ⟨hpr, rfl, ?_⟩⟩
      -- pushed back, the popped item sorts to where it was
      have e1 : sortL (heappush entryLt a' e).toList = sortL q.heap.toList := by
        rw [Q.2]
        exact (sortL_congr (heappop_perm hp) h.2.2.1).symm
      simp only [abs, e1]

theorem step_refines {q : HQueue} (h : Inv q) (o : Op) :
    Inv (q.step o).2 ∧ (q.step o).1 = (stepE (abs q) o).1 ∧ abs (q.step o).2 = (stepE (abs q) o).2 := by
  cases o with
  | put s => exact ⟨(inv_put h s).1, rfl, (inv_put h s).2⟩
  | get =>
    simp only [HQueue.step, stepE]
    cases hg : q.get with
    | none =>
      simp only [get_eq_none.1 hg, and_true]
      exact h
    | some r =>
      obtain ⟨s, q'⟩ := r
      obtain ⟨hi, p, n, rest, he, ha⟩ := inv_get h hg
      simp only [he, true_and]
      exact ⟨hi, ha⟩
  | getTop p =>
    simp only [HQueue.step, stepE]
    cases hg : q.getTopIfPriority p with
    | none =>
      simp only [getTop_eq_none.1 hg, and_true]
      exact h
    | some r =>
      obtain ⟨r, q'⟩ := r
      obtain ⟨hi, e, rest, he, hcase⟩ := inv_getTop h hg
      simp only [he]
      rcases hcase with ⟨hpr, rfl, ha⟩ | ⟨hpr, rfl, ha⟩
      · simp only [if_pos hpr, true_and]
        exact ⟨hi, ha⟩
      · simp only [if_neg hpr, true_and]
        exact ⟨hi, ha⟩

theorem run_refines (ops : List Op) : ∀ {q : HQueue}, Inv q →
    Inv (q.run ops).2 ∧ (q.run ops).1 = (runE (abs q) ops).1 ∧ abs (q.run ops).2 = (runE (abs q) ops).2 := by
  induction ops with
  | nil => intro q h; exact ⟨h, rfl, rfl⟩
  | cons o os ih =>
    intro q h
    obtain ⟨h1, h2, h3⟩ := step_refines h o
    obtain ⟨i1, i2, i3⟩ := ih h1
    simp only [HQueue.run, runE]
    rw [← h3, ← h2]
    exact ⟨i1, by rw [i2], i3⟩

theorem abs_empty : abs HQueue.empty = {} := rfl

end Simpleline.Heapq
