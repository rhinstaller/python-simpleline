/-
  Routing in the thread model.  The history invariant `RouteInv`: for a thread inside the level search of
  `enqueue_signal` the schedule so far ends with its critical section — the `lvIter` event carrying the current level
  list, no level write since, its own accesses since being the questions asked so far with their answers, up to and
  including the `put`.  That the snapshot it iterates over is still the level list (`PC.snapOK`) is read off this
  (`snapOK_of_route`).  And the level that answered "mine" has the source registered.
-/
import Simpleline.Lemmas.ThreadInv

namespace Simpleline.Threads
variable {s s' : TState} {t : Nat} {e : Ev}

/-- Thread `t` has settled on queue `q` for `sg` and its accesses since are `tail`: on the found path (`f`) inside the
critical section in which level `q` answered "mine", on the fallback path after reading `_active_queue = q`. -/
def Placed (t : Nat) (sched : List (Nat × Ev)) (lv : List Nat) (sg : TSig) (q : Nat) (f : Bool) (tail : List Ev) : Prop :=
  (f = true → ∃ above below, lv.reverse = above ++ q :: below ∧
    CritSec t sched lv (above.flatMap (askNo sg.src) ++ askYes sg.src q ++ tail)) ∧
  (f = false → Fallback t sched sg.src (.activeRead q :: tail))

def PC.route (t : Nat) (sched : List (Nat × Ev)) (lv : List Nat) : PC → Prop
  | .iter sg todo => ∃ above, lv.reverse = above ++ todo ∧ CritSec t sched lv (above.flatMap (askNo sg.src))
  | .asking sg q todo => ∃ above, lv.reverse = above ++ q :: todo ∧
      CritSec t sched lv (above.flatMap (askNo sg.src) ++ [.acqQ q])
  | .asked sg q todo res => ∃ above, lv.reverse = above ++ q :: todo ∧
      CritSec t sched lv (above.flatMap (askNo sg.src) ++ [.acqQ q, .contains q sg.src res])
  | .putAcq sg q f => Placed t sched lv sg q f []
  | .putDo sg q f => Placed t sched lv sg q f [.acqO q]
  | .putRel sg q f => ∃ o, Placed t sched lv sg q f [.acqO q, .put q sg.sid sg.prio o]
  | .fallback sg => Fallback t sched sg.src []
  | _ => True

theorem evsOf_snoc (t t' : Nat) (l : List (Nat × Ev)) (e : Ev) :
    evsOf t (l ++ [(t', e)]) = if t' = t then evsOf t l ++ [e] else evsOf t l := by
  unfold evsOf
  by_cases h : t' = t <;> simp [List.filter_append, h]

theorem noLevelWrite_snoc {l : List (Nat × Ev)} {x : Nat × Ev} (h : NoLevelWrite l) (hx : x.2.isLevelWrite = false) :
    NoLevelWrite (l ++ [x]) := by
  intro y hy
  rcases List.mem_append.1 hy with hy | hy
  · exact h y hy
  · simp at hy; subst hy; exact hx

theorem critSec_frame {t t' : Nat} {sched lv evs} (h : CritSec t' sched lv evs) (hne : t ≠ t')
    (he : e.isLevelWrite = false) : CritSec t' (sched ++ [(t, e)]) lv evs := by
  obtain ⟨pre0, mid, rfl, hn, hev⟩ := h
  exact ⟨pre0, mid ++ [(t, e)], by simp, noLevelWrite_snoc hn he, by simp [evsOf_snoc, hne, hev]⟩

theorem critSec_own {t : Nat} {sched lv evs} (h : CritSec t sched lv evs)
    (he : e.isLevelWrite = false) : CritSec t (sched ++ [(t, e)]) lv (evs ++ [e]) := by
  obtain ⟨pre0, mid, rfl, hn, hev⟩ := h
  exact ⟨pre0, mid ++ [(t, e)], by simp, noLevelWrite_snoc hn he, by simp [evsOf_snoc, hev]⟩

theorem critSec_start (t : Nat) (sched : List (Nat × Ev)) (lv : List Nat) :
    CritSec t (sched ++ [(t, .lvIter lv)]) lv [] :=
  ⟨sched, [], by simp, by simp [NoLevelWrite], by simp [evsOf]⟩

theorem fallback_frame {t t' : Nat} {sched src evs} (h : Fallback t' sched src evs) (hne : t ≠ t') :
    Fallback t' (sched ++ [(t, e)]) src evs := by
  obtain ⟨pre0, lv, mid1, mid2, rfl, hn, hev1, hev2⟩ := h
  exact ⟨pre0, lv, mid1, mid2 ++ [(t, e)], by simp, hn, hev1, by simp [evsOf_snoc, hne, hev2]⟩

theorem fallback_own {t : Nat} {sched src evs} (h : Fallback t sched src evs) :
    Fallback t (sched ++ [(t, e)]) src (evs ++ [e]) := by
  obtain ⟨pre0, lv, mid1, mid2, rfl, hn, hev1, hev2⟩ := h
  exact ⟨pre0, lv, mid1, mid2 ++ [(t, e)], by simp, hn, hev1, by simp [evsOf_snoc, hev2]⟩

theorem fallback_start {t : Nat} {sched lv src} (h : CritSec t sched lv (lv.reverse.flatMap (askNo src))) :
    Fallback t (sched ++ [(t, .relMain)]) src [] := by
  obtain ⟨pre0, mid, rfl, hn, hev⟩ := h
  exact ⟨pre0, lv, mid, [], by simp, hn, hev, by simp [evsOf]⟩

theorem Placed.frame {t t' : Nat} {sched lv sg q f tail} (h : Placed t' sched lv sg q f tail) (hne : t ≠ t')
    (he : e.isLevelWrite = false) : Placed t' (sched ++ [(t, e)]) lv sg q f tail :=
  ⟨fun hf => let ⟨a, b, h1, h2⟩ := h.1 hf; ⟨a, b, h1, critSec_frame h2 hne he⟩, fun hf => fallback_frame (h.2 hf) hne⟩

theorem Placed.frame_nolock {t t' : Nat} {sched lv lv' sg q tail} (h : Placed t' sched lv sg q false tail)
    (hne : t ≠ t') : Placed t' (sched ++ [(t, e)]) lv' sg q false tail :=
  ⟨nofun, fun hf => fallback_frame (h.2 hf) hne⟩

theorem Placed.own {t : Nat} {sched lv sg q f tail} (h : Placed t sched lv sg q f tail)
    (he : e.isLevelWrite = false) : Placed t (sched ++ [(t, e)]) lv sg q f (tail ++ [e]) :=
  ⟨fun hf => let ⟨a, b, h1, h2⟩ := h.1 hf; ⟨a, b, h1, by simpa using critSec_own h2 he⟩,
    fun hf => by simpa using fallback_own (h.2 hf)⟩

theorem route_frame {t t' : Nat} {sched lv} {p : PC} (h : p.route t' sched lv) (hne : t ≠ t')
    (he : e.isLevelWrite = false) : p.route t' (sched ++ [(t, e)]) lv := by
  cases p <;> simp only [PC.route] at h ⊢
  case iter | asking | asked => obtain ⟨a, h1, h2⟩ := h; exact ⟨a, h1, critSec_frame h2 hne he⟩
  case putAcq | putDo => exact h.frame hne he
  case putRel => exact let ⟨o, h⟩ := h; ⟨o, h.frame hne he⟩
  case fallback => exact fallback_frame h hne

/-- off the main lock the route facts do not mention the level list -/
theorem route_frame_nolock {t t' : Nat} {sched lv lv'} {p : PC} (h : p.route t' sched lv) (hne : t ≠ t')
    (hm : p.holdsMain = false) : p.route t' (sched ++ [(t, e)]) lv' := by
  cases p <;> simp only [PC.route, PC.holdsMain, reduceCtorEq] at h hm ⊢
  case putAcq | putDo => subst hm; exact h.frame_nolock hne
  case putRel => subst hm; exact let ⟨o, h⟩ := h; ⟨o, h.frame_nolock hne⟩
  case fallback => exact fallback_frame h hne

def RouteInv (sched : List (Nat × Ev)) (s : TState) : Prop := ∀ t, (s.pc t).route t sched s.levels

theorem route_step_own {sched} (hr : RouteInv sched s) (hs : TStep s t e s') :
    (s'.pc t).route t (sched ++ [(t, e)]) s'.levels := by
  have h1 := hr t
  cases hs <;> subst_vars <;> simp only [*, tstate, PC.route] at h1 ⊢
  case lvIter => exact ⟨[], by simp, critSec_start t sched s.levels⟩
  case askAcq => obtain ⟨above, ha, hc⟩ := h1; exact ⟨above, ha, critSec_own hc rfl⟩
  case contains => obtain ⟨above, ha, hc⟩ := h1; exact ⟨above, ha, by simpa using critSec_own hc rfl⟩
  case askRelYes sg q todo _ =>
    obtain ⟨above, ha, hc⟩ := h1
    exact ⟨fun _ => ⟨above, todo, ha, by simpa [askYes] using critSec_own hc rfl⟩, nofun⟩
  case askRelNo sg q todo _ =>
    obtain ⟨above, ha, hc⟩ := h1
    exact ⟨above ++ [q], by simp [ha], by simpa [askNo] using critSec_own hc rfl⟩
  case relMainNotFound =>
    obtain ⟨above, ha, hc⟩ := h1
    rw [List.append_nil] at ha
    exact fallback_start (ha ▸ hc)
  case acqO => exact h1.own rfl
  case put sg q f _ => exact ⟨(s.q q).seq, h1.own rfl⟩
  case fallbackRead => exact ⟨nofun, fun _ => by simpa using fallback_own h1⟩

theorem route_run {src0 : List Nat} {sched : List (Nat × Ev)} {s : TState}
    (hr : run (initState src0) sched = some s) : RouteInv sched s := by
  refine run_induction (P := RouteInv) ?_ ?_ sched s hr
  · intro t; simp [PC.route]
  · intro pre s t e s' hpre ih hs _ t'
    by_cases hne : t' = t
    · subst hne; exact route_step_own ih hs
    · rw [pc_other hs hne]
      rcases levels_cases hs with ⟨he, hl⟩ | ⟨_, hm, _⟩
      · rw [hl]; exact route_frame (ih t') (Ne.symm hne) he
      · exact route_frame_nolock (ih t') (Ne.symm hne) ((tinv_reach ⟨pre, hpre⟩).not_holdsMain hm hne)

theorem Placed.mem {t : Nat} {sched lv sg q tail} (h : Placed t sched lv sg q true tail) : q ∈ lv :=
  let ⟨_, _, ha, _⟩ := h.1 rfl
  List.mem_reverse.1 (ha ▸ List.mem_append_right _ List.mem_cons_self)

theorem snapOK_of_route {p : PC} {t : Nat} {sched : List (Nat × Ev)} {lv : List Nat} (h : p.route t sched lv) :
    p.snapOK lv := by
  cases p <;> simp only [PC.route, PC.snapOK] at h ⊢
  case iter | asking | asked => exact let ⟨a, ha, _⟩ := h; ⟨a, ha⟩
  case putAcq | putDo => rintro rfl; exact h.mem
  case putRel => rintro rfl; exact let ⟨_, h⟩ := h; h.mem

def PC.foundOK (srcs : Nat → List Nat) : PC → Prop
  | .asked sg q _ res => res = true → ∃ n, sg.src = some n ∧ n ∈ srcs q
  | .putAcq sg q f | .putDo sg q f => f = true → ∃ n, sg.src = some n ∧ n ∈ srcs q
  | _ => True

theorem foundOK_mono {p : PC} {f g : Nat → List Nat} (h : p.foundOK f) (hfg : ∀ q n, n ∈ f q → n ∈ g q) :
    p.foundOK g := by
  cases p <;> simp only [PC.foundOK] at h ⊢
  all_goals exact fun hf => let ⟨n, h1, h2⟩ := h hf; ⟨n, h1, hfg _ _ h2⟩

theorem found_step (hf : ∀ t, (s.pc t).foundOK fun q => (s.q q).sources) (hs : TStep s t e s') :
    ∀ t', (s'.pc t').foundOK fun q => (s'.q q).sources := by
  intro t'
  have hm := fun q n => sources_step hs q n
  by_cases hne : t' = t
  · subst hne
    have h1 := hf t'
    cases hs <;> subst_vars <;> simp only [*, tstate, PC.foundOK, Bool.false_eq_true, false_imp_iff] at h1 ⊢
    case contains sg q todo _ => cases sg.src <;> simp
    case askRelYes => exact fun _ => let ⟨n, h2, h3⟩ := h1 trivial; ⟨n, h2, hm _ _ h3⟩
    case acqO => exact fun hf' => let ⟨n, h2, h3⟩ := h1 hf'; ⟨n, h2, hm _ _ h3⟩
  · rw [pc_other hs hne]
    exact foundOK_mono (hf t') hm

theorem found_reach {src0 : List Nat} {s : TState} (hr : TReach src0 s) :
    ∀ t, (s.pc t).foundOK fun q => (s.q q).sources :=
  treach_induction (P := fun s => ∀ t, (s.pc t).foundOK fun q => (s.q q).sources)
    (by intro t; simp [PC.foundOK]) (fun _ _ _ _ _ h hs => found_step h hs) s hr

end Simpleline.Threads
