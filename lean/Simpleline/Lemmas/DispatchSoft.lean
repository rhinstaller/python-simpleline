import Simpleline.Lemmas.DispatchFrame
import Simpleline.Lemmas.MachineClosed

/-
  Soft changes (`Soft`, with its closure properties): scheduler, input pipeline and user actions push instructions of their
  own kind (`softI`, blocks closed: both defined in `MachineClosed`), trace and log events of their own kind (`softT`,
  `softE`) and leave levels, flags, tickets and the quit callback alone; everything the step of such an instruction is made
  of is a soft change (`Soft.closed`, the instance of `AppClosed`).
-/

namespace Simpleline.Dispatch
open Simpleline Simpleline.Machine

def softT : Tr → Bool
  | .enq _ _ | .dropped _ | .stackOp _ _ | .show _ | .refresh _ | .modalBegin _ | .modalEnd _ | .procBegin => true
  | _ => false

def softE : Ev → Bool
  | .cb _ _ _ _ | .read _ | .note _ => true
  | _ => false

def ExtP {α} (p : α → Prop) (old new : List α) : Prop := ∃ d, new = d ++ old ∧ ∀ t ∈ d, p t

theorem ExtP.refl {α} (p : α → Prop) (old : List α) : ExtP p old old := ⟨[], rfl, by simp⟩

theorem ExtP.cons {α} {p : α → Prop} {old l : List α} {t : α} (ht : p t) (h : ExtP p old l) : ExtP p old (t :: l) := by
  obtain ⟨d, rfl, hd⟩ := h
  exact ⟨t :: d, rfl, by simpa [ht] using hd⟩

theorem ExtP.append {α} {p : α → Prop} {old l d : List α} (hd : ∀ t ∈ d, p t) (h : ExtP p old l) : ExtP p old (d ++ l) := by
  obtain ⟨d', rfl, hd'⟩ := h
  refine ⟨d ++ d', by simp, ?_⟩
  intro t ht; simp at ht; rcases ht with ht | ht; exact hd t ht; exact hd' t ht

theorem ExtP.trans {α} {p : α → Prop} {a b c : List α} (h1 : ExtP p a b) (h2 : ExtP p b c) : ExtP p a c := by
  obtain ⟨d, rfl, hd⟩ := h1
  obtain ⟨d', rfl, hd'⟩ := h2
  exact ExtP.append hd' ⟨d, rfl, hd⟩

theorem ExtP.mono {α} {p q : α → Prop} {old new : List α} (hpq : ∀ t, p t → q t) (h : ExtP p old new) : ExtP q old new := by
  obtain ⟨d, rfl, hd⟩ := h
  exact ⟨d, rfl, fun t ht => hpq t (hd t ht)⟩

theorem ExtP.of_eq {α} {p : α → Prop} {old new d : List α} (h : new = d ++ old) (hd : ∀ t ∈ d, p t) : ExtP p old new :=
  ⟨d, h, hd⟩

def Ext {α} (p : α → Bool) (old new : List α) : Prop := ∃ d, new = d ++ old ∧ ∀ t ∈ d, p t = true

@[simp] theorem Ext.refl {α} (p : α → Bool) (old : List α) : Ext p old old := ExtP.refl _ old

theorem Ext.cons {α} {p : α → Bool} {old l : List α} {t : α} (ht : p t = true) (h : Ext p old l) : Ext p old (t :: l) :=
  ExtP.cons ht h

theorem Ext.append {α} {p : α → Bool} {old l d : List α} (hd : ∀ t ∈ d, p t = true) (h : Ext p old l) : Ext p old (d ++ l) :=
  ExtP.append hd h

theorem Ext.trans {α} {p : α → Bool} {a b c : List α} (h1 : Ext p a b) (h2 : Ext p b c) : Ext p a c :=
  ExtP.trans h1 h2

@[simp] theorem softT_enqT (L : LoopSt) (s : Sig) : softT (enqT L s) = true := by
  unfold enqT; split <;> rfl

theorem forall_mem_snoc {α} {p : α → Prop} {l : List α} {a : α} (hl : ∀ x ∈ l, p x) (ha : p a) : ∀ x ∈ l ++ [a], p x := by
  intro x hx
  rcases List.mem_append.mp hx with hx | hx
  · exact hl x hx
  · rw [List.mem_singleton.mp hx]; exact ha

theorem deliver_nf (c : Cfg) :
    ∃ Q A' n tr' lg, (∀ t ∈ tr', softT t = true) ∧ (∀ x ∈ lg, softE x = true) ∧
      c.deliver.getD c = { c with L := { c.L with queues := Q }, A := A', log := lg ++ c.log, tr := tr' ++ c.tr,
                                  nextSid := n } := by
  cases h : c.deliver with
  | none => exact ⟨c.L.queues, c.A, c.nextSid, [], [], by simp, by simp, rfl⟩
  | some c1 =>
    obtain ⟨r, rs, -, rfl⟩ := deliver_eq h
    exact ⟨_, _, _, [enqT c.L (lineSig c r)], [.read (c.A.stdin.headD [])], by simp, by simp [softE], rfl⟩

theorem emit_nf (P : Prog) (c : Cfg) (e : Ev) :
    ∃ Q A' n tr' lg', (∀ t ∈ tr', softT t = true) ∧ (∀ x ∈ lg', softE x = true) ∧
      c.emit P e = { c with L := { c.L with queues := Q }, A := A', log := (lg' ++ [e]) ++ c.log, tr := tr' ++ c.tr,
                            nextSid := n } := by
  rcases emit_cases P c e with h | h
  · exact ⟨c.L.queues, c.A, c.nextSid, [], [], by simp, by simp, h⟩
  · obtain ⟨Q, A', n, tr', lg, ht, hl, h'⟩ := deliver_nf { c with log := e :: c.log }
    rw [h, Option.getD_some] at h'
    exact ⟨Q, A', n, tr', lg, ht, hl, by rw [h']; simp⟩

theorem closedB_tail {i : Instr} {l : List Instr} (h : closedB (i :: l) = true) : closedB l = true := by
  cases hb : blockI i
  · rwa [closedB_cons_plain hb] at h
  · cases i <;> first | cases hb | skip
    all_goals exact ((Bool.and_eq_true _ _).mp h).2

theorem closedB_suffix {l l' : List Instr} (hs : l' <:+ l) (h : closedB l = true) : closedB l' = true := by
  induction l with
  | nil => simp_all
  | cons a l ih =>
    rcases List.suffix_cons_iff.mp hs with rfl | hs
    · exact h
    · exact ih hs (closedB_tail h)

theorem closedB_append {a b : List Instr} (ha : closedB a = true) (hb : closedB b = true) : closedB (a ++ b) = true := by
  induction a with
  | nil => exact hb
  | cons i a ih =>
    have := ih (closedB_tail ha)
    cases hbi : blockI i
    · rw [List.cons_append, closedB_cons_plain hbi]; exact this
    · cases i <;> first | cases hbi | skip
      all_goals
        simp only [List.cons_append, closedB, Bool.and_eq_true, List.any_append, Bool.or_eq_true] at ha ⊢
        exact ⟨.inl ha.1, this⟩

/-- `code` is what remains of `rest` (all of it, or — `identCheck` giving up — from its first `catchPS` on) with
soft, closed blocks of instructions pushed in front; `full` is the code before the step -/
def CodeExt (full rest code : List Instr) : Prop :=
  ∃ pushed suf, code = pushed ++ suf ∧
    (suf = rest ∨ ∃ top, full = .identCheck top :: rest ∧ suf = rest.dropWhile notCatchPS) ∧
    (∀ i ∈ pushed, softI i = true) ∧ closedB pushed = true

@[simp] theorem CodeExt.refl (full rest : List Instr) : CodeExt full rest rest := ⟨[], rest, rfl, .inl rfl, by simp, rfl⟩

theorem CodeExt.append {full rest l d : List Instr} (hd : ∀ i ∈ d, softI i = true ∧ blockI i = false) (h : CodeExt full rest l) :
    CodeExt full rest (d ++ l) := by
  obtain ⟨p, s, rfl, hs, hp, hc⟩ := h
  refine ⟨d ++ p, s, by simp, hs, ?_, ?_⟩
  · intro t ht; simp at ht; rcases ht with ht | ht; exact (hd t ht).1; exact hp t ht
  · rw [closedB_append_plain (fun i hi => (hd i hi).2)]; exact hc

theorem CodeExt.suffix_rest {full rest l : List Instr} (h : CodeExt full rest l) : ∃ pushed suf, l = pushed ++ suf ∧ suf <:+ rest ∧
    (∀ i ∈ pushed, softI i = true) ∧ closedB pushed = true := by
  obtain ⟨p, s, rfl, hs, hp, hc⟩ := h
  refine ⟨p, s, rfl, ?_, hp, hc⟩
  rcases hs with rfl | ⟨_, _, rfl⟩
  · exact List.suffix_refl _
  · exact List.dropWhile_suffix _

/-- handler registrations are only appended, and only by new input handlers -/
def HExt (old new : List (Cls × HRef × Option Nat)) : Prop :=
  ∃ more, new = old ++ more ∧ ∀ x ∈ more, ∃ n, x = (Cls.inputReady, HRef.ih n, none)

@[simp] theorem HExt.refl (old : List (Cls × HRef × Option Nat)) : HExt old old := ⟨[], by simp, by simp⟩

theorem HExt.snoc {old new : List (Cls × HRef × Option Nat)} (n : Nat) (h : HExt old new) :
    HExt old (new ++ [(Cls.inputReady, HRef.ih n, none)]) := by
  obtain ⟨m, rfl, hm⟩ := h
  refine ⟨m ++ [(Cls.inputReady, HRef.ih n, none)], by simp, ?_⟩
  intro x hx; simp at hx; rcases hx with hx | hx; exact hm x hx; exact ⟨n, hx⟩

/-- `m` differs from `c` (whose head instruction has been removed, leaving `rest`) only "softly" -/
structure Soft (rest : List Instr) (c m : Cfg) : Prop where
  code : CodeExt c.code rest m.code
  levels : m.L.levels = c.L.levels
  active : m.L.active = c.L.active
  runLoop : m.L.runLoop = c.L.runLoop
  forceQuit : m.L.forceQuit = c.L.forceQuit
  tickets : m.L.tickets = c.L.tickets
  tcounter : m.L.tcounter = c.L.tcounter
  quitCb : m.L.quitCb = c.L.quitCb
  handlers : HExt c.L.handlers m.L.handlers
  tr : Ext softT c.tr m.tr
  log : Ext softE c.log m.log

theorem Soft.base (rest : List Instr) (c : Cfg) : Soft rest c { c with code := rest } := by
  constructor <;> simp

/-- besides the queue store, trace and log, anything the loop does not look at may change -/
theorem Soft.mono {rest : List Instr} {c m m' : Cfg} (h : Soft rest c m) (hcode : m'.code = m.code)
    (hL : ∃ Q, m'.L = { m.L with queues := Q }) (htr : Ext softT m.tr m'.tr) (hlog : Ext softE m.log m'.log) :
    Soft rest c m' := by
  obtain ⟨a, b, c, d, e, f, g, h, i, j, k⟩ := h
  obtain ⟨Q, hL⟩ := hL
  rw [← hcode] at a
  exact ⟨a, hL ▸ b, hL ▸ c, hL ▸ d, hL ▸ e, hL ▸ f, hL ▸ g, hL ▸ h, hL ▸ i, j.trans htr, k.trans hlog⟩

theorem Soft.congr {rest : List Instr} {c m m' : Cfg} (h : Soft rest c m) (hcode : m'.code = m.code) (hL : m'.L = m.L)
    (htr : m'.tr = m.tr) (hlog : m'.log = m.log) : Soft rest c m' :=
  h.mono hcode ⟨m.L.queues, hL⟩ (htr ▸ .refl _ _) (hlog ▸ .refl _ _)

theorem Soft.setQ {rest : List Instr} {c m : Cfg} (h : Soft rest c m) (Q : List EQueue) :
    Soft rest c { m with L := { m.L with queues := Q } } :=
  h.mono rfl ⟨Q, rfl⟩ (.refl _ _) (.refl _ _)

theorem Soft.trace {rest : List Instr} {c m : Cfg} (h : Soft rest c m) {t : Tr} (ht : softT t = true) :
    Soft rest c (m.trace t) :=
  h.mono rfl ⟨m.L.queues, rfl⟩ (.cons ht (.refl _ _)) (.refl _ _)

theorem Soft.enqueue {rest : List Instr} {c m : Cfg} (h : Soft rest c m) (s : Sig) : Soft rest c (m.enqueue s) := by
  rw [enqueue_eq]
  exact h.mono rfl ⟨_, rfl⟩ (.cons (softT_enqT _ _) (.refl _ _)) (.refl _ _)

theorem Soft.nextSid {rest : List Instr} {c m : Cfg} (h : Soft rest c m) (n : Nat) : Soft rest c { m with nextSid := n } :=
  h.congr rfl rfl rfl rfl

theorem Soft.redraw {rest : List Instr} {c m : Cfg} (h : Soft rest c m) : Soft rest c m.redraw :=
  (h.nextSid _).enqueue _

theorem Soft.push {rest : List Instr} {c m : Cfg} (h : Soft rest c m) {is : List Instr} (hs : is.all softI = true)
    (hcl : closedB is = true) : Soft rest c (push m is) := by
  obtain ⟨⟨p, sf, hcode, hsf, hp, hc⟩, b, c, d, e, f, g, h, i, j, k⟩ := h
  refine ⟨⟨is ++ p, sf, ?_, hsf, ?_, closedB_append hcl hc⟩, b, c, d, e, f, g, h, i, j, k⟩
  · simp only [Simpleline.push, hcode, List.append_assoc]
  · intro t ht
    rcases List.mem_append.mp ht with ht | ht
    · exact List.all_eq_true.mp hs t ht
    · exact hp t ht

theorem Soft.dropPS {rest : List Instr} {c : Cfg} {top : Entry} (hc : c.code = .identCheck top :: rest) :
    Soft rest c { c with code := rest.dropWhile notCatchPS } :=
  ⟨⟨[], _, rfl, .inr ⟨top, hc, rfl⟩, by simp, rfl⟩, rfl, rfl, rfl, rfl, rfl, rfl, rfl, HExt.refl _, Ext.refl _ _, Ext.refl _ _⟩

theorem Soft.emit {rest : List Instr} {c m : Cfg} (h : Soft rest c m) (P : Prog) {e : Ev} (he : softE e = true) :
    Soft rest c (m.emit P e) := by
  obtain ⟨Q, A', n, tr', lg', ht, hl, hm⟩ := emit_nf P m e
  rw [hm]
  exact h.mono rfl ⟨Q, rfl⟩ ⟨tr', rfl, ht⟩ ⟨lg' ++ [e], rfl, forall_mem_snoc hl he⟩

theorem Soft.addIH {rest : List Instr} {c m : Cfg} (h : Soft rest c m) (src : Src) (skip : Bool) (cb : Option Nat) :
    Soft rest c (newIH m src skip cb).2 := by
  obtain ⟨a, b, c, d, e, f, g, h, i, j, k⟩ := h
  exact ⟨a, b, c, d, e, f, g, h, i.snoc _, j, k⟩

theorem softT_of_isApp {t : Tr} (h : t.isApp = true) : softT t = true := by
  cases t <;> first | rfl | cases h

theorem softE_of_isApp {e : Ev} (h : e.isApp = true) : softE e = true := by
  cases e <;> first | rfl | cases h

theorem Soft.closed (c : Cfg) (rest : List Instr) : AppClosed c rest (Soft rest c) where
  enqueue s h := h.enqueue s
  sid n h := h.nextSid n
  read _ _ _ _ h := h.mono rfl ⟨_, rfl⟩ (.refl _ _) (.cons rfl (.refl _ _))
  base := Soft.base rest c
  source _ := (Soft.base rest c).setQ _
  skipPS _ hc := Soft.dropPS hc
  free hcode hL htr hlog h := h.congr hcode hL htr hlog
  event _ ht h := h.trace (softT_of_isApp ht)
  logged _ he h := h.mono rfl ⟨_, rfl⟩ (.refl _ _) (.cons (softE_of_isApp he) (.refl _ _))
  pushed _ hs hcl h := h.push hs hcl
  handler src skip cb h := h.addIH src skip cb

end Simpleline.Dispatch
