/-
  For C12. The page loop `pages` of `_print_widget`: every line is printed once and in order, a request for a key
  follows every full page and only those. The prompt: `sortOpts` is a permutation sorted by the string order `strLt`,
  and `str(prompt)` consists of the message, the options and literal punctuation. The window: `render` followed by
  `get_lines` gives the title part and then the lines of the rendered items in order (`window_render_spec`).
-/
import Simpleline.Model.Paging
import Simpleline.Model.Widgets

namespace Simpleline

theorem pages_of_short (real : Nat) (ls : List Str) (h : ls.length ≤ real ∨ real = 0) :
    pages real ls = ls.map .line := by
  rw [pages, if_pos h]

theorem pages_of_long (real : Nat) (ls : List Str) (h : ¬(ls.length ≤ real ∨ real = 0)) :
    pages real ls = (ls.take real).map .line ++ .ask :: pages real (ls.drop real) := by
  rw [pages, if_neg h]

theorem pages_eq_nil_iff (real : Nat) (ls : List Str) : pages real ls = [] ↔ ls = [] := by
  rw [pages]; split <;> simp
  rename_i h
  intro hl; subst hl; simp at h

/-- every content line is printed exactly once and in order (`f` is the projection of an event to
the line it prints) -/
theorem pages_filterMap (f : OutEv → Option Str) (hl : ∀ l, f (.line l) = some l) (ha : f .ask = none)
    (real : Nat) (ls : List Str) : (pages real ls).filterMap f = ls := by
  have hmap : ∀ xs : List Str, (xs.map OutEv.line).filterMap f = xs := by
    intro xs
    induction xs with
    | nil => rfl
    | cons x xs ih => simp [hl, ih]
  induction ls using pages.induct (real := real) with
  | case1 ls h => rw [pages_of_short real ls h, hmap]
  | case2 ls h ih =>
    rw [pages_of_long real ls h, List.filterMap_append, hmap, List.filterMap_cons, ha]
    simp only [ih, List.take_append_drop]

/-- the requests sit exactly after every full page -/
theorem pages_ask_iff (real : Nat) (hr : 1 ≤ real) (ls : List Str) :
    ∀ (i : Nat) (hi : i < (pages real ls).length),
      (pages real ls)[i] = .ask ↔ i % (real + 1) = real := by
  induction ls using pages.induct (real := real) with
  | case1 ls h =>
    intro i hi
    have hlen : ls.length ≤ real := by omega
    simp only [pages_of_short real ls h, List.length_map] at hi ⊢
    have : i % (real + 1) = i := Nat.mod_eq_of_lt (by omega)
    simp only [List.getElem_map, reduceCtorEq, false_iff]
    omega
  | case2 ls h ih =>
    intro i hi
    have hlen : real < ls.length := by omega
    have hA : ((ls.take real).map OutEv.line).length = real := by
      simp only [List.length_map, List.length_take]; omega
    simp only [pages_of_long real ls h] at hi ⊢
    rw [List.getElem_append]
    split
    · rename_i hlt
      rw [hA] at hlt
      have : i % (real + 1) = i := Nat.mod_eq_of_lt (by omega)
      simp only [List.getElem_map, reduceCtorEq, false_iff]
      omega
    · rename_i hge
      rw [hA] at hge
      simp only [hA]
      rcases Nat.lt_or_ge real i with hgt | hle
      · obtain ⟨j, rfl⟩ : ∃ j, i = j + (real + 1) := ⟨i - (real + 1), by omega⟩
        have hj : j + (real + 1) - real = j + 1 := by omega
        simp only [hj, List.getElem_cons_succ]
        rw [ih, Nat.add_mod_right]
      · have : i = real := by omega
        subst this
        simp

theorem getLast?_map_line_ne_ask (xs : List Str) : (xs.map OutEv.line).getLast? ≠ some .ask := by
  rw [List.getLast?_map]
  cases xs.getLast? <;> simp

theorem pages_getLast?_ne_ask (real : Nat) (ls : List Str) : (pages real ls).getLast? ≠ some .ask := by
  induction ls using pages.induct (real := real) with
  | case1 ls h => rw [pages_of_short real ls h]; exact getLast?_map_line_ne_ask ls
  | case2 ls h ih =>
    rw [pages_of_long real ls h]
    have hne : pages real (ls.drop real) ≠ [] := by
      rw [Ne, pages_eq_nil_iff]
      intro hd
      have := congrArg List.length hd
      simp only [List.length_drop, List.length_nil] at this
      omega
    obtain ⟨a, t, hat⟩ := List.exists_cons_of_ne_nil hne
    rw [hat] at ih
    rw [hat, List.getLast?_append, List.getLast?_cons_cons]
    rw [List.getLast?_cons] at ih ⊢
    simpa using ih

theorem filter_ask_map_line (xs : List Str) :
    ((xs.map OutEv.line).filter fun e => e == .ask) = [] := by
  induction xs with
  | nil => rfl
  | cons x xs ih => simp [ih]

theorem pages_count_ask (real : Nat) (hr : 1 ≤ real) (ls : List Str) :
    ((pages real ls).filter fun e => e == .ask).length = (ls.length - 1) / real := by
  induction ls using pages.induct (real := real) with
  | case1 ls h =>
    rw [pages_of_short real ls h, filter_ask_map_line, List.length_nil]
    exact (Nat.div_eq_of_lt (by omega)).symm
  | case2 ls h ih =>
    rw [pages_of_long real ls h, List.filter_append, filter_ask_map_line, List.nil_append,
      List.filter_cons_of_pos (by decide), List.length_cons, ih, List.length_drop]
    have : ls.length - 1 = (ls.length - real - 1) + real := by omega
    rw [this, Nat.add_div_right _ (by omega)]

/-- `_print_widget` is the page loop at `real = h - 2` whenever it is defined -/
theorem printWidget_eq_some (ls : List Str) (h : Nat) (evs : List OutEv)
    (he : printWidget ls h = some evs) : evs = pages (h - 2) ls := by
  unfold printWidget at he
  split at he
  · rename_i hl; subst hl
    rw [pages_of_short _ _ (by simp)]
    simpa using he.symm
  · split at he
    · simp at he
    · simpa using he.symm

theorem printWidget_of_le (ls : List Str) (h : Nat) (hh : 3 ≤ h) :
    printWidget ls h = some (pages (h - 2) ls) := by
  unfold printWidget
  split
  · rename_i hl; subst hl
    rw [pages_of_short _ _ (by simp)]; rfl
  · rw [if_neg (by omega)]

theorem find?_setOpt (opts : List (Str × Str)) (k d k' : Str) :
    ((setOpt opts k d).find? fun kd => kd.1 = k').map (·.2) =
      if k' = k then some d else (opts.find? fun kd => kd.1 = k').map (·.2) := by
  induction opts with
  | nil => simp only [setOpt, List.find?_cons, List.find?_nil]; grind
  | cons x rest ih => simp only [setOpt, List.find?_cons]; grind

theorem find?_filter_ne (opts : List (Str × Str)) (k k' : Str) :
    ((opts.filter fun kd => kd.1 ≠ k).find? fun kd => kd.1 = k').map (·.2) =
      if k' = k then none else (opts.find? fun kd => kd.1 = k').map (·.2) := by
  induction opts with
  | nil => simp
  | cons x rest ih => simp only [List.filter_cons, List.find?_cons]; grind

theorem mem_keys_setOpt (opts : List (Str × Str)) (k d x : Str)
    (hx : x ∈ (setOpt opts k d).map (·.1)) : x = k ∨ x ∈ opts.map (·.1) := by
  induction opts with
  | nil => simpa [setOpt] using hx
  | cons y rest ih => simp only [setOpt] at hx; grind

theorem strLt_irrefl (a : Str) : strLt a a = false := by
  induction a with
  | nil => rfl
  | cons x xs ih => simp [strLt, ih]

theorem strLt_false_trans : ∀ (a b c : Str), strLt a b = false → strLt b c = false → strLt a c = false
  | [], [], _, _, h2 => h2
  | [], _ :: _, _, h1, _ => by simp [strLt] at h1
  | _ :: _, [], [], _, _ => by simp [strLt]
  | _ :: _, [], _ :: _, _, h2 => by simp [strLt] at h2
  | _ :: _, _ :: _, [], _, _ => by simp [strLt]
  | x :: xs, y :: ys, z :: zs, h1, h2 => by
    have ih := strLt_false_trans xs ys zs
    simp only [strLt] at h1 h2 ⊢
    grind

theorem strLt_asymm : ∀ (a b : Str), strLt a b = true → strLt b a = false
  | [], [], h => by simp [strLt] at h
  | [], _ :: _, _ => by simp [strLt]
  | _ :: _, [], h => by simp [strLt] at h
  | x :: xs, y :: ys, h => by
    have ih := strLt_asymm xs ys
    simp only [strLt] at h ⊢
    grind

theorem insertSorted_perm (kd : Str × Str) (l : List (Str × Str)) : (insertSorted kd l).Perm (kd :: l) := by
  induction l with
  | nil => exact List.Perm.refl _
  | cons x xs ih =>
    unfold insertSorted
    split
    · exact List.Perm.refl _
    · exact (List.Perm.cons x ih).trans (List.Perm.swap kd x xs)

theorem insertSorted_sorted (kd : Str × Str) (l : List (Str × Str))
    (h : l.Pairwise fun a b => strLt b.1 a.1 = false) :
    (insertSorted kd l).Pairwise fun a b => strLt b.1 a.1 = false := by
  induction l with
  | nil => simp [insertSorted]
  | cons x xs ih =>
    rw [List.pairwise_cons] at h
    unfold insertSorted
    split
    · rename_i hlt
      refine List.Pairwise.cons ?_ (List.Pairwise.cons h.1 h.2)
      intro y hy
      rcases List.mem_cons.1 hy with rfl | hy
      · exact strLt_asymm _ _ hlt
      · exact strLt_false_trans _ _ _ (h.1 y hy) (strLt_asymm _ _ hlt)
    · rename_i hlt
      refine List.Pairwise.cons ?_ (ih h.2)
      intro y hy
      rcases List.mem_cons.1 ((insertSorted_perm kd xs).mem_iff.1 hy) with rfl | hy
      · simpa using hlt
      · exact h.1 y hy

theorem sortOpts_perm (opts : List (Str × Str)) : (sortOpts opts).Perm opts := by
  induction opts with
  | nil => exact List.Perm.refl _
  | cons x xs ih =>
    show (insertSorted x (sortOpts xs)).Perm (x :: xs)
    exact (insertSorted_perm x _).trans (List.Perm.cons x ih)

theorem sortOpts_sorted (opts : List (Str × Str)) :
    (sortOpts opts).Pairwise fun a b => strLt b.1 a.1 = false := by
  induction opts with
  | nil => exact List.Pairwise.nil
  | cons x xs ih => exact insertSorted_sorted x _ ih

theorem prompt_str_message (m : Str) (hm : m ≠ []) : ({ message := some m } : Prompt).str = m ++ [':', ' '] := by
  cases m with
  | nil => exact absurd rfl hm
  | cons c cs => simp [Prompt.str, joinStr]

theorem joinStr_chars (sep : Str) : ∀ (ls : List Str), ∀ ch ∈ joinStr sep ls, ch ∈ sep ∨ ∃ l ∈ ls, ch ∈ l
  | [], _, h => by cases h
  | [l], _, h => .inr ⟨l, List.mem_cons_self, h⟩
  | l :: l' :: ls, ch, h => by
    have h : ch ∈ l ++ sep ++ joinStr sep (l' :: ls) := h
    rcases List.mem_append.mp h with h | h
    · rcases List.mem_append.mp h with h | h
      · exact .inr ⟨l, List.mem_cons_self, h⟩
      · exact .inl h
    · exact (joinStr_chars sep (l' :: ls) ch h).imp id fun ⟨x, hx, hc⟩ => ⟨x, List.mem_cons_of_mem _ hx, hc⟩

theorem Prompt.str_parts (p : Prompt) : p.str = [] ∨ ∃ parts, p.str = joinStr [' '] parts ++ [':', ' '] ∧
    ∀ part ∈ parts, p.message = some part ∨
      part = ['['] ++ joinStr [',', ' '] ((sortOpts p.options).map optStr) ++ [']'] := by
  unfold Prompt.str
  extract_lets msg parts
  have hmsg : ∀ m, msg = some m → p.message = some m := by
    intro m hm
    simp only [msg] at hm
    split at hm
    · cases hm
    · exact hm
  clear_value msg
  by_cases hc : msg = none ∧ p.options = []
  · exact .inl (if_pos hc)
  · refine .inr ⟨parts, if_neg hc, fun part h => ?_⟩
    rcases List.mem_append.mp h with h | h
    · split at h
      · exact .inl (List.mem_singleton.mp h ▸ hmsg _ rfl)
      · cases h
    · split at h
      · cases h
      · exact .inr (List.mem_singleton.mp h)

theorem Prompt.str_chars (p : Prompt) : ∀ ch ∈ p.str,
    ch ∈ p.message.getD [] ∨ (∃ kd ∈ p.options, ch ∈ kd.1 ∨ ch ∈ kd.2) ∨ ch ∈ [' ', '[', ']', '\'', ',', ':'] := by
  intro ch h
  rcases p.str_parts with h0 | ⟨parts, hs, hparts⟩
  · rw [h0] at h; cases h
  · rw [hs] at h
    rcases List.mem_append.mp h with h | h
    · rcases joinStr_chars _ _ ch h with h | ⟨part, hpart, h⟩
      · grind
      · rcases hparts part hpart with hm | rfl
        · exact .inl (by rwa [hm])
        · have hj := joinStr_chars [',', ' '] ((sortOpts p.options).map optStr) ch
          have hp := fun kd => (sortOpts_perm p.options).mem_iff (a := kd)
          grind [optStr]
    · grind

def indent (n : Nat) (row : List Char) : List Char := List.replicate n ' ' ++ row

theorem overlay_nil (src : List Char) (col : Nat) : overlay [] src col = indent col src := by
  simp [overlay, padTo, indent, List.take_replicate, List.drop_replicate]

theorem drawInto_at_end (buf g : Grid) (col : Nat) : drawInto buf g buf.length col = buf ++ g.map (indent col) := by
  unfold drawInto extendRows
  apply List.ext_getElem
  · simp
  · intro i h1 h2
    simp only [List.getElem_mapIdx, List.getElem_append]
    have hsub : buf.length + g.length - buf.length = g.length := by omega
    by_cases hi : i < buf.length
    · have : ¬ buf.length ≤ i := by omega
      simp [hi, this]
    · have hle : buf.length ≤ i := by omega
      have hlt : i < buf.length + g.length := by simpa using h2
      have hg : i - buf.length < g.length := by omega
      simp [hi, hle, hlt, overlay_nil, hg]

/-- the invariant of a window being filled: the cursor is at the start of the row below the buffer -/
def WSt.AtEnd (s : WSt) : Prop := s.cur = (s.buf.length, 0)

theorem WSt.draw_atEnd (s : WSt) (g : Grid) (h : s.AtEnd) :
    (s.draw g false).buf = s.buf ++ g ∧ (s.draw g false).AtEnd := by
  unfold WSt.AtEnd at h ⊢
  have h0 : g.map (indent 0) = g := List.map_id'' (fun _ => rfl) g
  simp [WSt.draw, WSt.drawAt, h, drawInto_at_end, h0]

theorem WSt.clear_atEnd (s : WSt) : s.clear.AtEnd := rfl

theorem WSt.foldl_draw_buf : ∀ (its : List Wd) (st : WSt), st.AtEnd →
    (its.foldl (fun s it => s.draw it.lines false) st).buf = st.buf ++ its.flatMap Wd.lines
  | [], _, _ => (List.append_nil _).symm
  | it :: its, st, h => by
    obtain ⟨hb, ha⟩ := st.draw_atEnd it.lines h
    rw [List.foldl_cons, foldl_draw_buf its _ ha, hb, List.flatMap_cons, List.append_assoc]

/-- the `for item in self._items` loop renders every item and draws it, in order -/
theorem renderWindowItems_eq (cc : CharClass) (w : Int) : ∀ (items : List Wd) (st : WSt),
    renderWindowItems cc w st items =
      (items.mapM (Wd.render cc · w)).map fun its => (its.foldl (fun s it => s.draw it.lines false) st, its)
  | [], _ => by rw [renderWindowItems]; rfl
  | it :: its, st => by
    rw [renderWindowItems, List.mapM_cons]
    cases it.render cc w with
    | error e => rfl
    | ok it' =>
      simp only [bind, Except.bind, renderWindowItems_eq cc w its]
      cases its.mapM (Wd.render cc · w) <;> rfl

def titleLines (cc : CharClass) (title : Option Str) (w : Int) : Except RErr Grid :=
  match truthy title with
  | some t => (renderTextSt cc {} t w).map fun s => s.buf ++ [[]]
  | none => .ok []

/-- `window.render(w); window.get_lines()`: the title part, then the lines of every item in the order they
were added -/
theorem window_render_lines (cc : CharClass) (st : WSt) (title : Option Str) (items : List Wd) (w : Int) :
    ((Wd.window st title items).render cc w).map Wd.lines =
      (do let tl ← titleLines cc title w
          let its ← items.mapM (Wd.render cc · w)
          pure (tl ++ its.flatMap Wd.lines)) := by
  rw [Wd.render, titleLines]
  simp only [renderWindowItems_eq]
  cases truthy title with
  | none =>
    cases items.mapM (Wd.render cc · w) with
    | error e => rfl
    | ok its => exact congrArg Except.ok (WSt.foldl_draw_buf its _ st.clear_atEnd)
  | some t =>
    dsimp only
    cases renderTextSt cc {} t w with
    | error e => rfl
    | ok tw =>
      cases items.mapM (Wd.render cc · w) with
      | error e => rfl
      | ok its =>
        obtain ⟨hb1, ha1⟩ := st.clear.draw_atEnd tw.buf st.clear_atEnd
        obtain ⟨hb2, ha2⟩ := WSt.draw_atEnd _ (renderSepSt 1).buf ha1
        exact congrArg Except.ok ((WSt.foldl_draw_buf its _ ha2).trans (by rw [hb2, hb1]; rfl))

theorem mapM_ok_getElem {ε α β} (f : α → Except ε β) : ∀ (l : List α) (l' : List β), l.mapM f = .ok l' →
    l'.length = l.length ∧ ∀ i, (hi : i < l.length) → (hi' : i < l'.length) → f l[i] = .ok l'[i]
  | [], l', h => by cases h; exact ⟨rfl, nofun⟩
  | a :: as, l', h => by
    rw [List.mapM_cons] at h
    cases hf : f a with
    | error e => rw [hf] at h; cases h
    | ok b =>
      cases hm : as.mapM f with
      | error e => rw [hf, hm] at h; cases h
      | ok bs =>
        rw [hf, hm] at h
        cases h
        obtain ⟨hl, hi⟩ := mapM_ok_getElem f as bs hm
        refine ⟨congrArg (· + 1) hl, fun i hi1 hi2 => ?_⟩
        cases i with
        | zero => exact hf
        | succ j => exact hi j (Nat.lt_of_succ_lt_succ hi1) (Nat.lt_of_succ_lt_succ hi2)

theorem mapM_ok_of_forall {ε α β} (f : α → Except ε β) :
    ∀ l : List α, (∀ a ∈ l, ∃ b, f a = .ok b) → ∃ l', l.mapM f = .ok l'
  | [], _ => ⟨[], rfl⟩
  | a :: as, h => by
    obtain ⟨b, hb⟩ := h a List.mem_cons_self
    obtain ⟨bs, hbs⟩ := mapM_ok_of_forall f as fun x hx => h x (List.mem_cons_of_mem _ hx)
    exact ⟨b :: bs, by rw [List.mapM_cons, hb, hbs]; rfl⟩

theorem window_render_spec (cc : CharClass) (st : WSt) (title : Option Str) (items : List Wd) (w : Int)
    (r : Wd) (h : (Wd.window st title items).render cc w = .ok r) :
    ∃ (tl : Grid) (items' : List Wd), titleLines cc title w = .ok tl ∧
      items'.length = items.length ∧
      (∀ i, (hi : i < items.length) → (hi' : i < items'.length) →
        items[i].render cc w = .ok items'[i]) ∧
      r.lines = tl ++ items'.flatMap Wd.lines := by
  have he := window_render_lines cc st title items w
  rw [h] at he
  cases htl : titleLines cc title w with
  | error e => rw [htl] at he; cases he
  | ok tl =>
    cases hm : items.mapM (Wd.render cc · w) with
    | error e => rw [htl, hm] at he; cases he
    | ok items' =>
      rw [htl, hm] at he
      obtain ⟨hl, hi⟩ := mapM_ok_getElem _ items items' hm
      exact ⟨tl, items', rfl, hl, hi, Except.ok.inj he⟩

end Simpleline
