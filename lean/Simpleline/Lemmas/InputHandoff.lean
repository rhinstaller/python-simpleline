/-
  Lemmas for the C18 hand-off theorems: the trace of a batch of enqueues, the signals of a hand-off
  (`failSigs`), and the requests on the stack belong to pairwise different handlers.
-/
import Simpleline.Lemmas.InputInv

namespace Simpleline.Input

theorem sources_listSet_put (qs : List EQueue) (q0 q : Nat) (s : Sig) :
    ((listSet qs q0 (·.put s)).getD q {}).sources = (qs.getD q {}).sources := by
  rw [listSet_getD]; split <;> rfl

theorem route_enqueue (c : Cfg) (s : Sig) (src : Src) : (c.enqueue s).L.route src = c.L.route src := by
  unfold LoopSt.route
  simp only [enqueue_levels, enqueue_active, enqueue_queues]
  by_cases hf : c.L.forceQuit = true
  · simp only [hf, if_true]
  · have hf' : c.L.forceQuit = false := by simpa using hf
    simp only [hf', Bool.false_eq_true, if_false, sources_listSet_put]

theorem enqEvent_enqueue (c : Cfg) (s s' : Sig) : enqEvent (c.enqueue s) s' = enqEvent c s' := by
  unfold enqEvent; rw [route_enqueue, enqueue_forceQuit]

theorem enqueueAll_tr (sigs : List Sig) (c : Cfg) :
    (enqueueAll c sigs).tr = (sigs.map (enqEvent c)).reverse ++ c.tr := by
  induction sigs generalizing c with
  | nil => rfl
  | cons s ss ih =>
    rw [enqueueAll_cons, ih, enqueue_tr]
    simp [enqEvent_enqueue]

theorem failSigs_length (reqs : List Request) (ts : List Nat) (sid : Nat) : (failSigs reqs ts sid).length = ts.length := by
  induction ts generalizing sid with
  | nil => rfl
  | cons t ts ih => simp [failSigs, ih]

theorem failSigs_getElem (reqs : List Request) (ts : List Nat) (sid i : Nat) (hi : i < ts.length) :
    (failSigs reqs ts sid)[i]'(by rw [failSigs_length]; exact hi) = failSig reqs ts[i] (sid + i) := by
  induction ts generalizing sid i with
  | nil => cases hi
  | cons t ts ih =>
    cases i with
    | zero => simp [failSigs]
    | succ i =>
      simp only [failSigs, List.getElem_cons_succ]
      rw [ih (sid + 1) i (by simpa using hi)]
      congr 1
      omega

theorem failSigs_map_ih (reqs : List Request) (ts : List Nat) (sid : Nat) :
    (failSigs reqs ts sid).map (·.ih) = ts.map fun t => (reqs.getD t default).ih := by
  induction ts generalizing sid with
  | nil => rfl
  | cons t ts ih => simp [failSigs, ih, failSig]

theorem stack_handlers_nodup {c0 c : Cfg} (hr : ObjInv c0 c) :
    (c.A.inputStack.map fun t => (c.A.reqs.getD t default).ih).Pairwise (· < ·) := by
  have hmono : ∀ a b, a < b → b < c.A.reqs.length →
      (c.A.reqs.getD a default).ih < (c.A.reqs.getD b default).ih := by
    intro a b hab hb
    have ha : a < c.A.reqs.length := Nat.lt_trans hab hb
    have := List.pairwise_iff_getElem.mp hr.reqs_sorted a b (by simpa using ha) (by simpa using hb) hab
    simpa [List.getD_eq_getElem?_getD, ha, hb] using this
  rw [List.pairwise_map]
  refine List.Pairwise.imp_of_mem ?_ hr.stack_sorted
  intro a b _ hb hab
  exact hmono a b hab (hr.stack_valid b hb)

theorem default_received : (default : IHandler).received = false := rfl

theorem count_ihReg_range (n len : Nat) : ((List.range len).map ihReg).count (ihReg n) = if n < len then 1 else 0 := by
  induction len with
  | zero => simp
  | succ k ih =>
    rw [List.range_succ, List.map_append, List.count_append, ih]
    simp only [List.map_cons, List.map_nil, List.count_cons, List.count_nil, ihReg, beq_iff_eq, Prod.mk.injEq,
      HRef.ih.injEq, true_and, and_true]
    by_cases h1 : n < k
    · have : ¬ k = n := by omega
      have : n < k + 1 := by omega
      simp [*]
    · by_cases h2 : k = n
      · subst h2; simp
      · have : ¬ n < k + 1 := by omega
        simp [*]

end Simpleline.Input
