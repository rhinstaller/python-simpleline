/-
  TicketMachine object: the user-level law, stated on a session and its own answers
  (ready iff taken, marked since, and not answered ready before).
-/
import Simpleline.Lemmas.ObjectsHist

namespace Simpleline.Objects

variable {κ : Type} [DecidableEq κ]

omit [DecidableEq κ] in
theorem ticketAt_lt_of_take (h : List (TMOp κ)) {j j' : Nat} (l : κ) (e : h[j]? = some (.take l)) (hj : j < j') :
    ticketAt h j < ticketAt h j' := by
  -- the take at `j` is counted from `j + 1` on
  have h1 : ticketAt h (j + 1) = ticketAt h j + 1 := by
    unfold ticketAt
    rw [List.take_add_one, List.countP_append, e]
    simp [TMOp.isTake]
  have h2 : ticketAt h (j + 1) ≤ ticketAt h j' := by
    unfold ticketAt
    rw [← Nat.min_eq_left (show j + 1 ≤ j' from hj), ← List.take_take]
    exact (List.take_sublist _ _).countP_le
  omega

omit [DecidableEq κ] in
theorem issued_unique {h : List (TMOp κ)} {j j' : Nat} {l l' : κ} {t : Nat}
    (h1 : Issued h j l t) (h2 : Issued h j' l' t) : j = j' := by
  rcases Nat.lt_trichotomy j j' with c | c | c
  · have := ticketAt_lt_of_take h l h1.1 c; have := h1.2; have := h2.2; omega
  · exact c
  · have := ticketAt_lt_of_take h l' h2.1 c; have := h1.2; have := h2.2; omega

omit [DecidableEq κ] in
theorem ticketAt_take (ops : List (TMOp κ)) {i j : Nat} (hj : j ≤ i) : ticketAt (ops.take i) j = ticketAt ops j := by
  unfold ticketAt; rw [List.take_take, Nat.min_eq_left hj]

omit [DecidableEq κ] in
theorem getElem?_take_eq_some {α : Type} (ops : List α) (i k : Nat) (x : α) :
    (ops.take i)[k]? = some x ↔ k < i ∧ ops[k]? = some x := by
  rw [List.getElem?_take]
  split
  · simp_all
  · simp only [reduceCtorEq, false_iff]; omega

omit [DecidableEq κ] in
theorem issued_take (ops : List (TMOp κ)) (i j : Nat) (l : κ) (t : Nat) :
    Issued (ops.take i) j l t ↔ j < i ∧ Issued ops j l t := by
  unfold Issued
  rw [getElem?_take_eq_some, and_assoc]
  exact and_congr_right fun h1 => by rw [ticketAt_take _ (Nat.le_of_lt h1)]

omit [DecidableEq κ] in
theorem released_take (ops : List (TMOp κ)) (i j : Nat) (l : κ) :
    Released (ops.take i) j l ↔ MarkedBetween ops j i l := by
  simp only [released_iff, getElem?_take_eq_some, MarkedBetween]

omit [DecidableEq κ] in
theorem consumed_take (ops : List (TMOp κ)) (i j : Nat) (l : κ) (t : Nat) :
    Consumed (ops.take i) j l t ↔
      ∃ k k', j < k ∧ k < k' ∧ k' < i ∧ ops[k]? = some (.mark l) ∧ ops[k']? = some (.check l t) := by
  simp only [consumed_iff, getElem?_take_eq_some]
  constructor
  · rintro ⟨k', k, h2, h1, ⟨_, h3⟩, h4, h5⟩; exact ⟨k, k', h1, h2, h4, h3, h5⟩
  · rintro ⟨k, k', h1, h2, h3, h4, h5⟩; exact ⟨k', k, h2, h1, ⟨by omega, h4⟩, h3, h5⟩

theorem ideal_getElem? (ops : List (TMOp κ)) (i : Nat) (op : TMOp κ) (h : ops[i]? = some op) :
    (ideal ops)[i]? = some (idealOut (ops.take i) op) := by
  simp [ideal, List.getElem?_mapIdx, h]

theorem ideal_ticket_iff (ops : List (TMOp κ)) (j : Nat) (l : κ) (t : Nat) (h : ops[j]? = some (.take l)) :
    (ideal ops)[j]? = some (.ticket t) ↔ ticketAt ops j = t := by
  rw [ideal_getElem? ops j _ h]
  simp only [idealOut, ticketAt_length, Option.some.injEq, TMOut.ticket.injEq]
  exact Iff.rfl

theorem ideal_check (ops : List (TMOp κ)) (i : Nat) (l : κ) (t : Nat) (r : CheckRes)
    (h : ops[i]? = some (.check l t)) :
    (ideal ops)[i]? = some (.checked r) ↔ idealCheck (ops.take i) l t = r := by
  rw [ideal_getElem? ops i _ h]
  simp [idealOut]

theorem exists_ready_of_consumed (ops : List (TMOp κ)) (j : Nat) (l : κ) (t : Nat) (hi : Issued ops j l t)
    (k' : Nat) : ∀ k, j < k → k < k' → ops[k]? = some (.mark l) → ops[k']? = some (.check l t) →
      ∃ k'', j < k'' ∧ k'' ≤ k' ∧ ops[k'']? = some (.check l t) ∧
        (ideal ops)[k'']? = some (.checked .ready) := by
  induction k' using Nat.strongRecOn with
  | ind k' ih =>
    intro k h1 h2 hm hc
    by_cases hr : idealCheck (ops.take k') l t = .ready
    · exact ⟨k', by omega, Nat.le_refl _, hc, (ideal_check ops k' l t _ hc).2 hr⟩
    · -- not ready although issued and released: consumed before `k'`
      have hcons : Consumed (ops.take k') j l t := by
        apply Classical.byContradiction
        intro hn
        apply hr
        unfold idealCheck
        rw [if_pos]
        have hi' := (issued_take ops k' j l t).2 ⟨by omega, hi⟩
        exact ⟨j, hi'.lt, hi', hn, (released_take ops k' j l).2 ⟨k, h1, h2, hm⟩⟩
      obtain ⟨k1, k2, g1, g2, g3, g4, g5⟩ := (consumed_take ops k' j l t).1 hcons
      obtain ⟨k'', a1, a2, a3, a4⟩ := ih k2 g3 k1 g1 g2 g4 g5
      exact ⟨k'', a1, by omega, a3, a4⟩

theorem not_consumed_iff (ops : List (TMOp κ)) (i j : Nat) (l : κ) (t : Nat) (hi : Issued ops j l t) :
    ¬ Consumed (ops.take i) j l t ↔
      ∀ k, j < k → k < i → ops[k]? = some (.check l t) → (ideal ops)[k]? ≠ some (.checked .ready) := by
  constructor
  · intro hn k h1 h2 hc hr
    apply hn
    rw [ideal_check ops k l t _ hc] at hr
    unfold idealCheck at hr
    split at hr
    · next c =>
      obtain ⟨j', _, c1, _, c3⟩ := c
      have hj' := (issued_take ops k j' l t).1 c1
      have : j = j' := issued_unique hi hj'.2
      subst this
      obtain ⟨k0, b1, b2, b3⟩ := (released_take ops k j l).1 c3
      exact (consumed_take ops i j l t).2 ⟨k0, k, b1, b2, h2, b3, hc⟩
    · split at hr <;> cases hr
  · intro hall hcons
    obtain ⟨k1, k2, g1, g2, g3, g4, g5⟩ := (consumed_take ops i j l t).1 hcons
    obtain ⟨k'', a1, a2, a3, a4⟩ := exists_ready_of_consumed ops j l t hi k2 k1 g1 g2 g4 g5
    exact hall k'' a1 (by omega) a3 a4

theorem out_take (ops : List (TMOp κ)) (i : Nat) (l : κ) (t : Nat) (b : Bool) :
    Out (ops.take i) l t b ↔ ∃ j, PendingSince ops (ideal ops) i j l t ∧ (b = true ↔ MarkedBetween ops j i l) := by
  simp only [out_iff, issued_take, released_take, PendingSince]
  constructor
  · rintro ⟨j, ⟨h1, hi⟩, hc, hb⟩
    exact ⟨j, ⟨h1, hi.1, (ideal_ticket_iff ops j l t hi.1).2 hi.2, (not_consumed_iff ops i j l t hi).1 hc⟩, hb⟩
  · rintro ⟨j, ⟨h1, h2, h3, h4⟩, hb⟩
    have hi : Issued ops j l t := ⟨h2, (ideal_ticket_iff ops j l t h2).1 h3⟩
    exact ⟨j, ⟨h1, hi⟩, (not_consumed_iff ops i j l t hi).2 h4, hb⟩

end Simpleline.Objects
