import Simpleline.Lemmas.DispatchOrder

/-
  Executions: single steps of `processSignal` and `procIter`, reachability along `Steps` and what `Steps` leaves alone
  (`steps_static`), live runs with fuel.
-/

namespace Simpleline.Dispatch
open Simpleline

theorem processSignal_step (P : Prog) (c : Cfg) (s : Sig) (rest : List Instr) (hc : c.code = .processSignal s :: rest) :
    step P c = .ok
      (if handlersOf c.L s.cls ≠ [] then
        { c with code := .dispatch s 0 :: rest, L := { c.L with tickets := mark c.L.tickets s.cls } }
      else if s.cls = .exception then
        { c with code := .kill s :: rest, L := { c.L with tickets := mark c.L.tickets s.cls } }
      else
        { c with code := rest, L := { c.L with tickets := mark c.L.tickets s.cls }, tr := .dispatched s 0 :: c.tr }) := by
  have e : ∀ T, handlersOf ({ c.L with tickets := T } : LoopSt) s.cls = handlersOf c.L s.cls := fun _ => rfl
  simp only [step, hc, e]
  split
  · simp [push]
  · split <;> simp [push, Cfg.trace]

theorem step_procIter_down (P : Prog) (c : Cfg) (p : Option Int) (rest : List Instr) (hc : c.code = .procIter p :: rest)
    (hr : c.L.runLoop = false) : step P c = .ok { c with code := rest, tr := .procEnd :: c.tr } := by
  simp only [step, hc]
  split
  · simp [Cfg.trace]
  · simp [hr, Cfg.trace]

theorem reach_steps {P : Prog} {c0 c c' : Cfg} (hr : Reach P c0 c) (hs : Steps P c c') : Reach P c0 c' := by
  induction hs with
  | refl => exact hr
  | tail _ ht ih => exact reach_trans ih ht

theorem Steps.of_reach {P : Prog} {c0 c : Cfg} (hr : Reach P c0 c) : Steps P c0 c := by
  refine reach_induction (motive := fun c => Steps P c0 c) (.refl _) ?_ hr
  intro c c' _ ih ht
  exact .tail ih ht

theorem runLive_live {P : Prog} {c0 : Cfg} (n : Nat) : ∀ {c : Cfg}, Live P c0 c → Live P c0 (runLive P n c) := by
  induction n with
  | zero => intro c h; exact h
  | succ n ih =>
    intro c h
    unfold runLive
    cases hs : step P c with
    | ok c' => exact ih (.step h hs)
    | error e => exact h

theorem steps_static {P : Prog} {c c' : Cfg} (h : Steps P c c') :
    c.L.handlers <+: c'.L.handlers ∧ c'.L.quitCb = c.L.quitCb ∧ c.L.tcounter ≤ c'.L.tcounter ∧
      (∃ new, c'.tr = new ++ c.tr) ∧ ∃ new, c'.log = new ++ c.log := by
  induction h with
  | refl => exact ⟨List.prefix_refl _, rfl, Nat.le_refl _, ⟨[], rfl⟩, ⟨[], rfl⟩⟩
  | tail _ ht ih =>
    obtain ⟨h1, h2, h3, ⟨n1, h4⟩, ⟨n2, h5⟩⟩ := ih
    obtain ⟨g1, g2, g3⟩ := trans_static ht
    obtain ⟨m1, g4, -⟩ := trans_origin ht
    obtain ⟨m2, g5, -⟩ := trans_logOrigin ht
    exact ⟨h1.trans g1.prefix, g2.trans h2, Nat.le_trans h3 g3, ⟨m1 ++ n1, by rw [g4, h4, List.append_assoc]⟩,
      ⟨m2 ++ n2, by rw [g5, h5, List.append_assoc]⟩⟩

theorem takeCount_append_le (s : Sig) (new tr : List Tr) : takeCount s tr ≤ takeCount s (new ++ tr) := by
  induction new with
  | nil => exact Nat.le_refl _
  | cons t new ih =>
    cases t <;> simp only [List.cons_append, takeCount] <;> first | exact ih | (split <;> omega)

end Simpleline.Dispatch
