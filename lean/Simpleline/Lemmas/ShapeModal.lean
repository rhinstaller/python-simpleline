/-
  Modal entries and levels: the counting invariant
  `modalCount stack + 1 + pendCloses code = levels.length + pendOpens code`
  for screen-level programs, as long as no exception escaped a callback.
-/
import Simpleline.Lemmas.ShapeResume

namespace Simpleline

def ScreenCode (code : List Instr) : Prop := ∀ a, Instr.act a ∈ code → a.screenLevel = true

/-- The counting invariant: unless the run is over, each modal entry of the stack has a level of its own above
that of `run()`, up to the `execute_new_loop` and `close_loop` calls still pending in the code. -/
def MatchInv (v : SV) : Prop :=
  overCode v.code = true ∨
  (v.forceQuit = false ∧ ScreenCode v.code ∧
    modalCount v.stack + 1 + pendCloses v.code = v.levels.length + pendOpens v.code)

def Instr.opens : Instr → Nat
  | .newLoop _ => 1
  | _ => 0

def Instr.closes : Instr → Nat
  | .closeLoop | .popLevel => 1
  | .closeScreen2 e _ => if e.modal then 1 else 0
  | _ => 0

def Instr.isAct : Instr → Bool
  | .act _ => true
  | _ => false

def Instr.pendFree : Instr → Bool
  | .newLoop _ | .closeLoop | .popLevel | .closeScreen2 .. => false
  | _ => true

namespace Shape

theorem pendOpens_cons (i : Instr) (l : List Instr) : pendOpens (i :: l) = pendOpens l + i.opens := by
  cases i <;> rfl

theorem pendCloses_cons (i : Instr) (l : List Instr) : pendCloses (i :: l) = pendCloses l + i.closes := by
  cases i <;> rfl

theorem pendOpens_append (l r : List Instr) : pendOpens (l ++ r) = pendOpens l + pendOpens r := by
  induction l with
  | nil => exact (Nat.zero_add _).symm
  | cons a l ih => rw [List.cons_append, pendOpens_cons, pendOpens_cons, ih]; omega

theorem pendCloses_append (l r : List Instr) : pendCloses (l ++ r) = pendCloses l + pendCloses r := by
  induction l with
  | nil => exact (Nat.zero_add _).symm
  | cons a l ih => rw [List.cons_append, pendCloses_cons, pendCloses_cons, ih]; omega

theorem pendOpens_cons_free {i : Instr} (l : List Instr) (h : Instr.pendFree i = true) :
    pendOpens (i :: l) = pendOpens l := by
  cases i <;> first | rfl | contradiction

theorem pendCloses_cons_free {i : Instr} (l : List Instr) (h : Instr.pendFree i = true) :
    pendCloses (i :: l) = pendCloses l := by
  cases i <;> first | rfl | contradiction

theorem pend_free_list {l : List Instr} (h : ∀ i ∈ l, Instr.pendFree i = true) : pendOpens l = 0 ∧ pendCloses l = 0 := by
  induction l with
  | nil => exact ⟨rfl, rfl⟩
  | cons a l ih =>
    have ha := h a (List.mem_cons_self ..)
    rw [pendOpens_cons_free _ ha, pendCloses_cons_free _ ha]
    exact ih fun i hi => h i (List.mem_cons_of_mem _ hi)

theorem pendOpens_sublist {l1 l2 : List Instr} (h : l1.Sublist l2) : pendOpens l1 ≤ pendOpens l2 := by
  induction h with
  | slnil => exact Nat.le_refl _
  | cons a _ ih => rw [pendOpens_cons]; omega
  | cons_cons a _ ih => rw [pendOpens_cons, pendOpens_cons]; omega

theorem pendCloses_sublist {l1 l2 : List Instr} (h : l1.Sublist l2) : pendCloses l1 ≤ pendCloses l2 := by
  induction h with
  | slnil => exact Nat.le_refl _
  | cons a _ ih => rw [pendCloses_cons]; omega
  | cons_cons a _ ih => rw [pendCloses_cons, pendCloses_cons]; omega

theorem modalCount_append (a b : List Entry) : modalCount (a ++ b) = modalCount a + modalCount b := by
  simp [modalCount, List.filter_append]

theorem modalCount_cons (e : Entry) (st : List Entry) :
    modalCount (e :: st) = modalCount st + (if e.modal then 1 else 0) := by
  unfold modalCount
  rw [List.filter_cons]
  split <;> simp_all

theorem modalCount_append_singleton (st : List Entry) (e : Entry) :
    modalCount (st ++ [e]) = modalCount st + (if e.modal then 1 else 0) := by
  rw [modalCount_append, modalCount_cons]; exact congrArg _ (Nat.zero_add _)

theorem modalCount_dropLast {st : List Entry} {e : Entry} (h : st.getLast? = some e) :
    modalCount st = modalCount st.dropLast + (if e.modal then 1 else 0) := by
  obtain ⟨l', rfl⟩ := List.getLast?_eq_some_iff.1 h
  rw [List.dropLast_concat, modalCount_append_singleton]

theorem _root_.Simpleline.ScreenCode.tail {h : Instr} {rest : List Instr} (hs : ScreenCode (h :: rest)) : ScreenCode rest :=
  fun a ha => hs a (List.mem_cons_of_mem _ ha)

theorem _root_.Simpleline.ScreenCode.append {B rest : List Instr} (hB : ScreenCode B) (hr : ScreenCode rest) : ScreenCode (B ++ rest) := by
  intro a ha
  rcases List.mem_append.1 ha with h | h
  · exact hB a h
  · exact hr a h

theorem _root_.Simpleline.ScreenCode.sublist {l1 l2 : List Instr} (h : l1.Sublist l2) (hs : ScreenCode l2) : ScreenCode l1 :=
  fun a ha => hs a (h.subset ha)

theorem screenCode_nil : ScreenCode [] := fun _ h => nomatch h

theorem screenCode_noAct {B : List Instr} (h : B.all (fun i => !i.isAct) = true) : ScreenCode B := by
  intro a ha
  cases List.all_eq_true.1 h _ ha

theorem screenCode_acts {acts : List Act} (h : ∀ a ∈ acts, a.screenLevel = true) : ScreenCode (acts.map Instr.act) := by
  intro a ha
  obtain ⟨b, hb, hab⟩ := List.mem_map.1 ha
  cases hab
  exact h a hb

theorem pendFree_acts (acts : List Act) : ∀ i ∈ acts.map Instr.act, Instr.pendFree i = true := by
  intro i hi
  obtain ⟨b, _, rfl⟩ := List.mem_map.1 hi
  rfl

theorem batch_weights {P : Prog} {v : SV} {h : Instr} {B : List Instr} {evs : List Tr} (hb : Batch P v h B evs)
    (hP : ScreenOnly P) (hh : ∀ a, h = .act a → a.screenLevel = true) (hf : v.forceQuit = false) :
    pendOpens B = h.opens ∧ pendCloses B = h.closes ∧ ScreenCode B := by
  -- scripts stand for nothing pending, and their actions are screen-level ones
  have hsc : h.runsScript = true → pendOpens B = 0 ∧ pendCloses B = 0 := fun hh =>
    pend_free_list fun i hi => by
      have := (batch_scripted hb hh).2 i hi
      clear hb; cases i <;> first | rfl | contradiction
  have acts : ∀ {pre : List Instr} {acts : List Act} {i : Instr}, pre.all (fun i => !i.isAct) = true →
      (∀ a ∈ acts, a.screenLevel = true) → i.isAct = false → ScreenCode (pre ++ acts.map .act ++ [i]) :=
    fun h1 h2 h3 => ((screenCode_noAct h1).append (screenCode_acts h2)).append
      (screenCode_noAct (by rw [List.all_cons, h3]; rfl))
  cases hb
  case actNewLoop cls prio sid => cases hh _ rfl
  case actCloseLoop => cases hh _ rfl
  case newLoopFQ s hfq => rw [hf] at hfq; cases hfq
  case close2Modal e frm hm => exact ⟨rfl, by simp [pendCloses, Instr.closes, hm], screenCode_noAct rfl⟩
  case close2Plain e frm hm => exact ⟨rfl, by simp [pendCloses, Instr.closes, hm], screenCode_noAct rfl⟩
  case passive hp => refine ⟨?_, ?_, screenCode_nil⟩ <;> cases h <;> first | rfl | contradiction
  case callUser hid d s n => exact ⟨(hsc rfl).1, (hsc rfl).2, acts (pre := []) rfl (hP.1 hid n) rfl⟩
  case callScr scr cb arg key n => exact ⟨(hsc rfl).1, (hsc rfl).2, acts (by split <;> rfl) (hP.2 scr cb n) rfl⟩
  case printWidget scr hB =>
    exact ⟨(hsc rfl).1, (hsc rfl).2, fun a ha => by rcases hB _ ha with ⟨ls, h⟩ | h <;> cases h⟩
  all_goals exact ⟨rfl, rfl, screenCode_noAct rfl⟩

theorem batch_pend {P : Prog} {v : SV} {h : Instr} {B : List Instr} {evs : List Tr} (hb : Batch P v h B evs)
    (hP : ScreenOnly P) (hh : ∀ a, h = .act a → a.screenLevel = true) (hf : v.forceQuit = false) :
    pendOpens B = pendOpens [h] ∧ pendCloses B = pendCloses [h] ∧ ScreenCode B := by
  rw [pendOpens_cons, pendCloses_cons]
  simpa [pendOpens, pendCloses] using batch_weights hb hP hh hf

theorem raised_clean {k : Kind} {v : SV} (hc : (raisedSV k v).clean = true) :
    k ≠ .err ∨ (raisedSV k v).code = [] := by
  cases k with
  | exit => exact .inl (by simp)
  | sysexit => exact .inl (by simp)
  | err =>
    right
    cases hu : unwindTo .err v.code with
    | none => simp [raisedSV, hu]
    | some post => simp [raisedSV, hu] at hc

theorem raise_clean_over {v : SV} {h : Instr} {rest : List Instr} {k : Kind} (hch : Chained v.code)
    (hc : v.code = h :: rest) (hr : h.canRaise k = true)
    (hcl : (raisedSV k { v with code := rest }).clean = true) :
    overCode (raisedSV k { v with code := rest }).code = true := by
  rcases raised_clean hcl with hk | h0
  · rcases raise_cases hch hc hr with ho | ⟨rfl, _⟩
    · exact ho
    · exact absurd rfl hk
  · rw [h0]; rfl

theorem match_push {v v' : SV} {h : Instr} {rest B : List Instr} (hc : v.code = h :: rest) (hc' : v'.code = B ++ rest)
    (hf : v'.forceQuit = false) (hsc : ScreenCode v.code) (hB : ScreenCode B)
    (heq : modalCount v.stack + 1 + pendCloses v.code = v.levels.length + pendOpens v.code)
    (hbal : modalCount v'.stack + pendCloses B + (v.levels.length + h.opens) =
      modalCount v.stack + h.closes + (v'.levels.length + pendOpens B)) : MatchInv v' := by
  refine .inr ⟨hf, hc' ▸ hB.append (hc ▸ hsc).tail, ?_⟩
  rw [hc', pendCloses_append, pendOpens_append]
  rw [hc, pendCloses_cons, pendOpens_cons] at heq
  omega

/-- the step lemma of the counting invariant, with the treatment of a raised exception left to the
caller (`hraise`) -/
theorem match_step_core {P : Prog} {v v' : SV} {evs : List Tr} (hP : ScreenOnly P) (hb : Basic v) (hi : MatchInv v)
    (hs : SStepE P v evs v')
    (hraise : ∀ {h : Instr} {rest : List Instr} {k : Kind}, v.code = h :: rest → h.canRaise k = true →
      v' = raisedSV k { v with code := rest } → MatchInv v') : MatchInv v' := by
  rcases hi with ho | ⟨hf, hsc, heq⟩
  · exact .inl (over_step ho hs)
  have hch := hb.chained
  cases hs with
  | stutter => exact .inr ⟨hf, hsc, heq⟩
  | batch hc hbt =>
    obtain ⟨h1, h2, h3⟩ := batch_weights hbt hP (fun a ha => hsc a (by rw [hc, ha]; exact List.mem_cons_self ..)) hf
    exact match_push hc rfl hf hsc h3 heq (by rw [h1, h2])
  | raise hc hr => exact hraise hc hr rfl
  | kill _ => exact .inl rfl
  | popExit hc _ _ => exact .inl (unwind_exit_chained (hc ▸ hch).2)
  | forceQuit hc => cases hsc _ (by rw [hc]; exact List.mem_cons_self ..)
  | @halt h _ hc hh =>
    have : h.opens = 0 ∧ h.closes = 0 := by cases h <;> first | exact ⟨rfl, rfl⟩ | contradiction
    exact match_push (B := []) hc rfl hf hsc screenCode_nil heq (by rw [this.1, this.2]; rfl)
  | enqAct hc | restore hc _ | schedule hc => exact match_push (B := []) hc rfl hf hsc screenCode_nil heq rfl
  | pushScr hc =>
    refine match_push (B := []) hc rfl hf hsc screenCode_nil heq ?_
    show modalCount (_ ++ [_]) + _ + _ = _
    rw [modalCount_append_singleton]; rfl
  | replace hc hold =>
    refine match_push (B := []) hc rfl hf hsc screenCode_nil heq ?_
    show modalCount (_ ++ [_]) + _ + _ = _
    rw [modalCount_append_singleton, modalCount_dropLast hold]; rfl
  | apprun hc => exact match_push (B := [_, _, _]) hc rfl rfl hsc (screenCode_noAct rfl) heq rfl
  | «open» hc _ =>
    refine match_push (B := [_]) hc rfl hf hsc (screenCode_noAct rfl) heq ?_
    show _ + _ + _ = _ + _ + ((v.levels ++ [v.nq]).length + _)
    rw [List.length_append]; rfl
  | pop hc hq _ =>
    refine match_push (B := []) hc rfl hf hsc screenCode_nil heq ?_
    obtain ⟨l', hl⟩ := List.getLast?_eq_some_iff.1 hq
    show _ + _ + (v.levels.length + _) = _ + _ + (v.levels.dropLast.length + _)
    rw [hl, List.dropLast_concat, List.length_append]
    simp only [pendOpens, pendCloses, Instr.opens, Instr.closes, List.length_singleton]; omega
  | pushModal hc =>
    refine match_push (B := [_, _]) hc rfl hf hsc (screenCode_noAct rfl) heq ?_
    show modalCount (_ ++ [_]) + _ + _ = _
    rw [modalCount_append_singleton]; simp only [pendOpens, pendCloses, Instr.opens, Instr.closes, if_true]; omega
  | closeScreen hc he =>
    refine match_push (B := [_, _]) hc rfl hf hsc (screenCode_noAct rfl) heq ?_
    rw [modalCount_dropLast he]; simp only [pendOpens, pendCloses, Instr.opens, Instr.closes]; omega
  | @discard _ _ e hc he =>
    refine match_push (B := if e.modal then _ else _) hc rfl hf hsc (screenCode_noAct ?_) heq ?_
    · split <;> rfl
    · rw [modalCount_dropLast he]; split <;> simp only [pendOpens, pendCloses, Instr.opens, Instr.closes] <;> omega
  | identSkip hc _ _ =>
    refine match_push (B := []) hc ?_ hf hsc screenCode_nil heq rfl
    show List.dropWhile _ _ = _
    rw [identSkip_chained (hc ▸ hch)]; rfl

theorem match_step {P : Prog} {v v' : SV} {evs : List Tr} (hP : ScreenOnly P) (hb : Basic v) (hi : MatchInv v)
    (hs : SStepE P v evs v') (hcl : v'.clean = true) : MatchInv v' :=
  match_step_core hP hb hi hs fun hc hr hv => by
    subst hv
    exact .inl (raise_clean_over hb.chained hc hr hcl)

theorem match_init {c0 : Cfg} (init : List Act) (handlers : List (Cls × HRef × Option Nat)) (quitCb : Option Nat)
    (stdin : List Str) (hc0 : c0 = initCfg init handlers quitCb stdin) (hi : InitScreenOnly c0) : MatchInv c0.sv := by
  subst hc0
  right
  refine ⟨rfl, hi, ?_⟩
  show modalCount [] + 1 + pendCloses (init.map Instr.act ++ [.apprun]) = [0].length + pendOpens (init.map Instr.act ++ [.apprun])
  have h1 := pend_free_list (pendFree_acts init)
  rw [pendCloses_append, pendOpens_append, h1.1, h1.2]
  rfl

theorem clean_mono {P : Prog} {v v' : SV} {evs : List Tr} (hs : SStepE P v evs v') (h : v'.clean = true) :
    v.clean = true := by
  cases hs with
  | raise _ _ | popExit _ _ _ =>
    simp only [raisedSV, Bool.and_eq_true] at h
    exact h.2
  | enqAct _ | «open» _ _ =>
    simp only [SV.noteExc, Bool.and_eq_true] at h
    exact h.2
  | stutter | batch _ _ | halt _ _ | kill _ | forceQuit _ | schedule _ | pushScr _ | replace _ _ | apprun _
  | restore _ _ | pop _ _ _ | pushModal _ | closeScreen _ _ | discard _ _ | identSkip _ _ _ => exact h

theorem reach_match {P : Prog} {c0 c : Cfg} (h0 : Started c0) (hi : InitScreenOnly c0) (hP : ScreenOnly P)
    (hr : Reach P c0 c) (hn : NoErr c) : MatchInv c.sv :=
  have ⟨init, handlers, quitCb, stdin, hc0⟩ := h0
  reach_sv_inv (H := fun v => v.clean = true) h0 hr clean_mono (match_init init handlers quitCb stdin hc0 hi)
    (match_step hP) hn

end Shape

end Simpleline
