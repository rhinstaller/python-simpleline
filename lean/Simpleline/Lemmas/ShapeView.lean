/-
  The *shape view* of a configuration (proof device for C03 blocks/resumes and C05): the pending
  code, the loop levels and flags, the screen stack and the shape-relevant part of the trace; and
  what the helper functions of `Model/Machine.lean` do to it (frame lemmas).
-/
import Simpleline.Spec.ShapeSpec
import Simpleline.Lemmas.MachineOps

namespace Simpleline

/-- the trace events the shape properties talk about -/
def Tr.shape : Tr → Bool
  | .openLevel .. | .closeLevel _ | .loopReturn _ | .closeReq .. | .forceQuit | .exit | .kill
  | .stackOp .. | .show _ | .refresh _ | .modalBegin _ | .modalEnd _ | .take .. | .procBegin | .procEnd => true
  | _ => false

def shapeTr (l : List Tr) : List Tr := l.filter Tr.shape


structure SV where
  code : List Instr
  levels : List Nat
  runLoop : Bool
  forceQuit : Bool
  active : Nat
  nq : Nat
  stack : List Entry
  nextEid : Nat
  ev : List Tr
  clean : Bool

def Cfg.sv (c : Cfg) : SV :=
  ⟨c.code, c.L.levels, c.L.runLoop, c.L.forceQuit, c.L.active, c.L.queues.length, c.A.stack, c.A.nextEid, shapeTr c.tr,
   cleanTr c.tr⟩

/-- record that a signal of class `exception` (`b = true`) or of another class was enqueued -/
def SV.noteExc (v : SV) (b : Bool) : SV := { v with clean := !b && v.clean }

def outCfg : Except (Outcome × Cfg) Cfg → Cfg
  | .ok c => c
  | .error (_, c) => c

namespace Shape

@[simp] theorem outCfg_ok (c : Cfg) : outCfg (.ok c) = c := rfl
@[simp] theorem outCfg_error (o : Outcome) (c : Cfg) : outCfg (.error (o, c)) = c := rfl

theorem outCfg_of_ok {r : Except (Outcome × Cfg) Cfg} {c : Cfg} (h : r = .ok c) : outCfg r = c := by
  subst h; rfl
theorem outCfg_of_error {r : Except (Outcome × Cfg) Cfg} {o : Outcome} {c : Cfg} (h : r = .error (o, c)) :
    outCfg r = c := by
  subst h; rfl

@[simp] theorem shapeTr_nil : shapeTr [] = [] := rfl
theorem shapeTr_cons (t : Tr) (l : List Tr) : shapeTr (t :: l) = if t.shape then t :: shapeTr l else shapeTr l := by
  simp [shapeTr, List.filter_cons]
theorem shapeTr_append (a b : List Tr) : shapeTr (a ++ b) = shapeTr a ++ shapeTr b := by simp [shapeTr]
theorem mem_shapeTr {t : Tr} {l : List Tr} : t ∈ shapeTr l ↔ t ∈ l ∧ t.shape = true := by simp [shapeTr]

def Grow (c c' : Cfg) : Prop := ∃ new, c'.tr = new ++ c.tr

theorem Grow.refl (c : Cfg) : Grow c c := ⟨[], rfl⟩
theorem Grow.trans {a b c : Cfg} : Grow a b → Grow b c → Grow a c
  | ⟨n1, h1⟩, ⟨n2, h2⟩ => ⟨n2 ++ n1, by rw [h2, h1, List.append_assoc]⟩
theorem Grow.of_tr_eq {a b c : Cfg} (h : b.tr = c.tr) : Grow a b → Grow a c
  | ⟨n, h1⟩ => ⟨n, by rw [← h, h1]⟩

theorem cleanTr_cons (t : Tr) (l : List Tr) : cleanTr (t :: l) = (!t.isExc && cleanTr l) := rfl

theorem noteExc_false (v : SV) : v.noteExc false = v := rfl

theorem shape_not_exc {t : Tr} (h : t.shape = true) : t.isExc = false := by
  cases t <;> first | rfl | (cases h; done)

theorem enqueue_tr (c : Cfg) (s : Sig) :
    ∃ t, t.shape = false ∧ t.isExc = (s.cls == .exception) ∧ (c.enqueue s).tr = t :: c.tr := by
  unfold Cfg.enqueue; split
  · exact ⟨_, rfl, rfl, rfl⟩
  · exact ⟨_, rfl, rfl, rfl⟩

theorem sv_enqueue (c : Cfg) (s : Sig) : (c.enqueue s).sv = c.sv.noteExc (s.cls == .exception) := by
  unfold Cfg.enqueue; split
  · simp [Cfg.sv, Cfg.trace, shapeTr_cons, Tr.shape, SV.noteExc, cleanTr_cons, Tr.isExc]
  · simp [Cfg.sv, shapeTr_cons, Tr.shape, listSet, SV.noteExc, cleanTr_cons, Tr.isExc]

theorem sv_enqueue_ne (c : Cfg) (s : Sig) (h : (s.cls == .exception) = false) : (c.enqueue s).sv = c.sv := by
  rw [sv_enqueue, h]; rfl

theorem grow_enqueue {a c : Cfg} (s : Sig) (h : Grow a c) : Grow a (c.enqueue s) := by
  obtain ⟨t, _, _, ht⟩ := enqueue_tr c s
  exact h.trans ⟨[t], ht⟩

theorem sv_trace_shape (c : Cfg) (t : Tr) (h : t.shape = true) : (c.trace t).sv = { c.sv with ev := t :: c.sv.ev } := by
  simp [Cfg.sv, Cfg.trace, shapeTr_cons, h, cleanTr_cons, shape_not_exc h]

theorem grow_trace {a c : Cfg} (t : Tr) (h : Grow a c) : Grow a (c.trace t) := h.trans ⟨[t], rfl⟩

@[simp] theorem sv_push (c : Cfg) (is : List Instr) : (push c is).sv = { c.sv with code := is ++ c.sv.code } := rfl

theorem grow_push {a c : Cfg} (is : List Instr) (h : Grow a c) : Grow a (push c is) := h

@[simp] theorem sv_write (c : Cfg) (t : Str) : (c.write t).sv = c.sv := rfl

theorem grow_write {a c : Cfg} (t : Str) (h : Grow a c) : Grow a (c.write t) := h

@[simp] theorem sv_redraw (c : Cfg) : c.redraw.sv = c.sv := by
  rw [Machine.redraw_eq, sv_enqueue_ne _ _ rfl]; rfl

theorem grow_redraw {a c : Cfg} (h : Grow a c) : Grow a c.redraw :=
  Machine.redraw_eq c ▸ grow_enqueue _ h

theorem sv_deliver {c d : Cfg} (h : c.deliver = some d) : d.sv = c.sv := by
  rcases Machine.deliver_cases c with ⟨-, h'⟩ | ⟨r, rs, -, h'⟩ <;> rw [h'] at h <;> cases h
  rw [sv_enqueue_ne _ _ rfl]; rfl

theorem code_deliver {c d : Cfg} (h : c.deliver = some d) : d.code = c.code := congrArg SV.code (sv_deliver h)

theorem grow_deliver {a c d : Cfg} (hd : c.deliver = some d) (h : Grow a c) : Grow a d := by
  rcases Machine.deliver_cases c with ⟨-, h'⟩ | ⟨r, rs, -, h'⟩ <;> rw [h'] at hd <;> cases hd
  exact grow_enqueue _ h

@[simp] theorem sv_emit (P : Prog) (c : Cfg) (e : Ev) : (c.emit P e).sv = c.sv := by
  rcases Machine.emit_cases P c e with h | h
  · rw [h]; rfl
  · rw [sv_deliver h]; rfl

theorem grow_emit {a c : Cfg} (P : Prog) (e : Ev) (h : Grow a c) : Grow a (c.emit P e) := by
  rcases Machine.emit_cases P c e with he | he
  · rw [he]; exact h
  · exact grow_deliver he h

/-- what `unwind` leaves of the code (`none`: no catcher, the run ends) -/
def unwindTo (kind : Kind) : List Instr → Option (List Instr)
  | [] => none
  | ins :: rest =>
    match kind, ins with
    | .err, .catchHandler => some rest
    | .err, .catchPS => some rest
    | .err, .catchDraw => some rest
    | .err, .catchPI _ => some ((rest.dropWhile fun i => match i with | .endPI => false | _ => true).drop 1)
    | .exit, .catchExit => some rest
    | _, _ => unwindTo kind rest

def catches : Kind → Instr → Bool
  | .err, i => i.catchesErr
  | .exit, .catchExit => true
  | _, _ => false

/-- where the run goes on when a catcher in front of `rest` has caught an exception: `catchPI` also skips the tail
of `process_input`, up to and including `endPI` -/
def resumeAt : Instr → List Instr → List Instr
  | .catchPI _, rest => (rest.dropWhile fun i => match i with | .endPI => false | _ => true).drop 1
  | _, rest => rest

theorem unwindTo_cons (k : Kind) (i : Instr) (rest : List Instr) :
    unwindTo k (i :: rest) = if catches k i = true then some (resumeAt i rest) else unwindTo k rest := by
  cases k <;> cases i <;> rfl

theorem unwindTo_skip {k : Kind} {i : Instr} (rest : List Instr) (h : catches k i = false) :
    unwindTo k (i :: rest) = unwindTo k rest := by
  rw [unwindTo_cons, if_neg (by rw [h]; exact Bool.false_ne_true)]

theorem resumeAt_sublist (i : Instr) (rest : List Instr) : (resumeAt i rest).Sublist rest := by
  unfold resumeAt
  split
  · exact (List.drop_sublist _ _).trans (List.dropWhile_sublist _)
  · exact List.Sublist.refl _

theorem catches_eq (k : Kind) (i : Instr) : catches k i = i.catches k := by cases k <;> cases i <;> rfl

theorem resumeAt_eq (i : Instr) (rest : List Instr) : resumeAt i rest = Dispatch.afterCatch i rest := by
  cases i <;> rfl

theorem unwindTo_append {k : Kind} {pre : List Instr} (h : ∀ i ∈ pre, i.catches k = false) (rest : List Instr) :
    unwindTo k (pre ++ rest) = unwindTo k rest := by
  induction pre with
  | nil => rfl
  | cons i pre ih =>
    rw [List.cons_append, unwindTo_skip _ ((catches_eq k i).trans (h i List.mem_cons_self)),
      ih fun j hj => h j (List.mem_cons_of_mem _ hj)]

theorem unwindTo_none {k : Kind} {code : List Instr} (h : ∀ i ∈ code, i.catches k = false) : unwindTo k code = none := by
  rw [← List.append_nil code, unwindTo_append h]; rfl

theorem unwindTo_catch {k : Kind} {pre : List Instr} {ins : Instr} (hp : ∀ i ∈ pre, i.catches k = false)
    (hi : ins.catches k = true) (rest : List Instr) :
    unwindTo k (pre ++ ins :: rest) = some (Dispatch.afterCatch ins rest) := by
  rw [unwindTo_append hp, unwindTo_cons, catches_eq, if_pos hi, resumeAt_eq]

theorem unwindTo_sysexit (l : List Instr) : unwindTo .sysexit l = none :=
  unwindTo_none fun i _ => Machine.catches_sysexit i

/-- the view after an unwinding: a caught ordinary exception enqueues an `ExceptionSignal` -/
def unwoundSV (kind : Kind) (code : List Instr) (v : SV) : SV :=
  { v with code := (unwindTo kind code).getD [], clean := !(kind == .err && (unwindTo kind code).isSome) && v.clean }

theorem sv_setCode (c : Cfg) (r : List Instr) : Cfg.sv { c with code := r } = { c.sv with code := r } := rfl

theorem unwind_view {a : Cfg} (kind : Kind) (code : List Instr) (c : Cfg) (h : Grow a c) :
    (outCfg (unwind kind code c)).sv = unwoundSV kind code c.sv ∧ Grow a (outCfg (unwind kind code c)) := by
  rcases Machine.unwind_cases kind code c with ⟨hn, he⟩ | ⟨pre, ins, rest, rfl, hp, hi, he⟩ <;> rw [he, unwoundSV]
  · rw [unwindTo_none hn]
    exact ⟨by cases kind <;> rfl, h⟩
  · rw [unwindTo_catch hp hi]
    cases kind with
    | exit => cases ins <;> cases hi; exact ⟨rfl, h⟩
    | sysexit => rw [Machine.catches_sysexit] at hi; cases hi
    | err =>
      obtain ⟨src, hs⟩ := Option.isSome_iff_exists.mp (Machine.catches_err ins ▸ hi)
      rw [Machine.caughtBy_err hs, Machine.excEnq_eq]
      exact ⟨by rw [outCfg_ok, sv_setCode, sv_enqueue]; rfl, grow_enqueue _ h⟩

theorem sv_unwind (kind : Kind) (code : List Instr) (c : Cfg) :
    (outCfg (unwind kind code c)).sv = unwoundSV kind code c.sv := (unwind_view kind code c (Grow.refl c)).1

theorem grow_unwind {a : Cfg} (kind : Kind) (code : List Instr) (c : Cfg) (h : Grow a c) :
    Grow a (outCfg (unwind kind code c)) := (unwind_view kind code c h).2

def exitEv : Kind → List Tr
  | .exit => [.exit]
  | _ => []

def raisedSV (k : Kind) (v : SV) : SV :=
  { v with code := (unwindTo k v.code).getD [], ev := exitEv k ++ v.ev,
           clean := !(k == .err && (unwindTo k v.code).isSome) && v.clean }

theorem sv_raise (c : Cfg) (k : Kind) : (outCfg (c.raise k)).sv = raisedSV k c.sv := by
  unfold Cfg.raise
  cases k
  · show (outCfg (unwind .exit c.code (c.trace .exit))).sv = _
    rw [sv_unwind, sv_trace_shape _ _ rfl]; rfl
  · exact sv_unwind _ _ _
  · exact sv_unwind _ _ _

theorem grow_raise {a c : Cfg} (k : Kind) (h : Grow a c) : Grow a (outCfg (c.raise k)) := by
  unfold Cfg.raise
  cases k
  · exact grow_unwind _ _ _ (grow_trace _ h)
  · exact grow_unwind _ _ _ h
  · exact grow_unwind _ _ _ h

theorem sv_taken (d : Cfg) (es : List (Int × Nat × Sig)) (s : Sig) :
    Cfg.sv { d with L := { d.L with queues := listSet d.L.queues d.L.active fun q => { q with entries := es } },
                    tr := .take d.L.active s :: d.tr } = { d.sv with ev := .take d.sv.active s :: d.sv.ev } := by
  simp [Cfg.sv, listSet, shapeTr_cons, Tr.shape, cleanTr_cons, Tr.isExc]

theorem take_view {a c : Cfg} (g : Grow a c) :
    (∃ c1, c.take = .error (.blocked, c1) ∧ c1.sv = c.sv ∧ Grow a c1) ∨
    ∃ s c1, c.take = .ok (s, c1) ∧ c1.sv = { c.sv with ev := .take c.sv.active s :: c.sv.ev } ∧ Grow a c1 := by
  obtain ⟨d, h1, h2⟩ := Machine.take_cases c
  have hd : d.sv = c.sv ∧ Grow a d := by
    rcases h1 with rfl | ⟨-, h⟩
    · exact ⟨rfl, g⟩
    · exact ⟨sv_deliver h, grow_deliver h g⟩
  rcases h2 with ⟨-, h⟩ | ⟨e, es, -, h⟩
  · exact .inl ⟨d, h, hd⟩
  · exact .inr ⟨_, _, h, hd.1 ▸ sv_taken d es e.2.2, hd.2.trans ⟨[_], rfl⟩⟩

theorem sv_take_ok {c c1 : Cfg} {s : Sig} (h : c.take = .ok (s, c1)) :
    c1.sv = { c.sv with ev := .take c.sv.active s :: c.sv.ev } := by
  rcases take_view (Grow.refl c) with ⟨_, h', -⟩ | ⟨_, _, h', hs, -⟩ <;> rw [h'] at h <;> cases h
  exact hs

theorem sv_take_err {c c1 : Cfg} {o : Outcome} (h : c.take = .error (o, c1)) : c1.sv = c.sv := by
  rcases take_view (Grow.refl c) with ⟨_, h', hs, -⟩ | ⟨_, _, h', -⟩ <;> rw [h'] at h <;> cases h
  exact hs

theorem grow_take_ok {a c c1 : Cfg} {s : Sig} (h : c.take = .ok (s, c1)) (g : Grow a c) : Grow a c1 := by
  rcases take_view g with ⟨_, h', -⟩ | ⟨_, _, h', -, hg⟩ <;> rw [h'] at h <;> cases h
  exact hg

theorem grow_take_err {a c c1 : Cfg} {o : Outcome} (h : c.take = .error (o, c1)) (g : Grow a c) : Grow a c1 := by
  rcases take_view g with ⟨_, h', -, hg⟩ | ⟨_, _, h', -⟩ <;> rw [h'] at h <;> cases h
  exact hg

@[simp] theorem sv_newIH (c : Cfg) (src : Src) (skip : Bool) (cb : Option Nat) : (newIH c src skip cb).2.sv = c.sv := rfl

theorem grow_newIH {a c : Cfg} (src : Src) (skip : Bool) (cb : Option Nat) (h : Grow a c) :
    Grow a (newIH c src skip cb).2 := h

theorem sv_startRequest (c : Cfg) (ih : Nat) (r : Src) (t : Str) :
    (outCfg (startRequest c ih r t)).sv = c.sv ∨
    ((outCfg (startRequest c ih r t)).sv = raisedSV .err c.sv ∧
      ∃ c1 : Cfg, startRequest c ih r t = c1.raise .err ∧ c1.sv = c.sv) := by
  rw [Input.startRequest_eq]
  split
  · right
    refine ⟨?_, _, rfl, rfl⟩
    rw [sv_raise]; rfl
  · left
    split <;> rfl

theorem grow_startRequest {a c : Cfg} (ih : Nat) (r : Src) (t : Str) (h : Grow a c) :
    Grow a (outCfg (startRequest c ih r t)) := by
  rw [Input.startRequest_eq]
  split
  · exact grow_raise _ h
  · split <;> exact h

end Shape

end Simpleline
