/-
  C20d: pure lemmas — signals, scripts, counters, the abstract program unfolded, queue insertion.
-/
import Simpleline.Spec.FlatSpec
import Simpleline.Lemmas.Store

namespace Simpleline.Flat
open Simpleline Simpleline.GLoop

@[simp] theorem gsigOf_sigOf (g : GSig) : gsigOf (sigOf g) = g := rfl

@[simp] theorem sigOf_prio (g : GSig) : (sigOf g).prio = g.prio := rfl
@[simp] theorem sigOf_cls (g : GSig) : (sigOf g).cls = .user g.cls := rfl
@[simp] theorem sigOf_id (g : GSig) : (sigOf g).id = g.id := rfl
@[simp] theorem sigOf_src (g : GSig) : (sigOf g).src = .none := rfl
@[simp] theorem gsigOf_prio (s : Sig) : (gsigOf s).prio = s.prio := rfl

theorem actSig_eq {a : Act} {g : GSig} (h : actSig a = some g) : a = actOf g := by
  cases a <;> simp [actSig] at h
  rename_i cls prio src sid
  cases cls <;> cases src <;> simp at h
  subst h; rfl

theorem acts_eq_of_flat : ∀ (l : List Act), l.all (fun a => (actSig a).isSome) = true → l = (l.filterMap actSig).map actOf
  | [], _ => rfl
  | a :: l, h => by
    simp only [List.all_cons, Bool.and_eq_true] at h
    obtain ⟨g, hg⟩ := Option.isSome_iff_exists.1 h.1
    rw [List.filterMap_cons_some hg, List.map_cons, ← actSig_eq hg, ← acts_eq_of_flat l h.2]

theorem script_eq {P : Prog} (hP : Flat P) (hid n : Nat) : P.handlerScript hid n = (script P hid n).map actOf :=
  acts_eq_of_flat _ (hP.2 hid n)

theorem cntOf_cons (p : Nat × Nat) (st : List (Nat × Nat)) (h : Nat) :
    cntOf (p :: st) h = if p.1 = h then p.2 else cntOf st h := by
  simp only [cntOf, List.find?_cons]
  by_cases hp : p.1 = h <;> simp [hp]

theorem cntOf_map_ne (st : List (Nat × Nat)) {hid h : Nat} (hh : h ≠ hid) :
    cntOf (st.map (fun p => if p.1 = hid then (p.1, p.2 + 1) else p)) h = cntOf st h := by
  induction st with
  | nil => rfl
  | cons p st ih =>
    rw [List.map_cons, cntOf_cons, cntOf_cons, ih]
    by_cases hp : p.1 = hid
    · have : ¬ hid = h := fun e => hh e.symm
      simp [hp, this]
    · simp [hp]

theorem bumpSt_cons (p : Nat × Nat) (st : List (Nat × Nat)) (hid : Nat) :
    bumpSt (p :: st) hid = if p.1 = hid then (p.1, p.2 + 1) :: st.map (fun p => if p.1 = hid then (p.1, p.2 + 1) else p)
      else p :: bumpSt st hid := by
  unfold bumpSt
  by_cases hp : p.1 = hid
  · simp [hp]
  · simp only [List.any_cons, hp, decide_false, Bool.false_or, List.map_cons, if_false]
    split <;> rfl

theorem cntOf_bumpSt (st : List (Nat × Nat)) (hid h : Nat) :
    cntOf (bumpSt st hid) h = if h = hid then cntOf st hid + 1 else cntOf st h := by
  induction st with
  | nil => by_cases hh : hid = h <;> simp [bumpSt, hh, eq_comm, cntOf]
  | cons p st ih =>
    rw [bumpSt_cons]
    by_cases hp : p.1 = hid <;> by_cases hh : h = hid
    · simp [cntOf_cons, hp, hh]
    · have hne : ¬ hid = h := fun e => hh e.symm
      simp [cntOf_cons, hp, hh, hne, cntOf_map_ne st hh]
    · subst hh
      simp [cntOf_cons, hp, ih]
    · simp [cntOf_cons, hp, hh, ih]

/-- run the callbacks `l` from counters `st`: final counters and everything enqueued, in order -/
def runHs (P : Prog) : List (HRef × Option Nat) → List (Nat × Nat) → List (Nat × Nat) × List GSig
  | [], st => (st, [])
  | h :: l, st =>
    match h.1 with
    | .user hid => ((runHs P l (bumpSt st hid)).1, script P hid (cntOf st hid) ++ (runHs P l (bumpSt st hid)).2)
    | _ => runHs P l st

theorem foldl_hStep (P : Prog) : ∀ (l : List (HRef × Option Nat)) (st : List (Nat × Nat)) (acc : List GSig),
    l.foldl (hStep P) (st, acc) = ((runHs P l st).1, acc ++ (runHs P l st).2)
  | [], st, acc => by simp [runHs]
  | h :: l, st, acc => by
    rw [List.foldl_cons]
    cases hh : h.1 <;> simp only [hStep, runHs, hh] <;> rw [foldl_hStep P l] <;> simp

theorem absProg_eq (P : Prog) (hs : List (Cls × HRef × Option Nat)) (st : List (Nat × Nat)) (s : GSig) :
    absProg P hs st s = runHs P (hsOf hs (.user s.cls)) st := by
  simp [absProg, foldl_hStep]

theorem hsOf_base (hs : List (Cls × HRef × Option Nat)) (k : Nat) : hsOf (baseH ++ hs) (.user k) = hsOf hs (.user k) := by
  simp [hsOf, baseH]

theorem hsOf_flat {hs : List (Cls × HRef × Option Nat)} (hhs : FlatHandlers hs) (c : Cls) :
    ∀ h ∈ hsOf hs c, ∃ hid, h.1 = .user hid := by
  intro ⟨r, d⟩ hm
  have := List.all_eq_true.1 hhs _ (mem_of_mem_handlers hm)
  cases c <;> cases r <;> simp [flatHandler] at this ⊢

theorem map_insertEntry (s : Sig) (n : Nat) : ∀ (es : List (Int × Nat × Sig)),
    (∀ x ∈ es, x.2.1 < n ∧ x.1 = x.2.2.prio) →
    (insertEntry (s.prio, n, s) es).map (fun x => gsigOf x.2.2) = insertStable (gsigOf s) (es.map fun x => gsigOf x.2.2)
  | [], _ => rfl
  | x :: es, h => by
    have hx := h x (by simp)
    have ih := map_insertEntry s n es (fun y hy => h y (List.mem_cons_of_mem _ hy))
    simp only [insertEntry, List.map_cons, insertStable, gsigOf_prio]
    by_cases hlt : s.prio < x.2.2.prio
    · have : s.prio < x.1 ∨ s.prio = x.1 ∧ n < x.2.1 := Or.inl (by rw [hx.2]; exact hlt)
      simp [this, hlt]
    · have : ¬ (s.prio < x.1 ∨ s.prio = x.1 ∧ n < x.2.1) := by
        rw [hx.2]; intro h; rcases h with h | h
        · exact hlt h
        · omega
      simp [this, hlt, ih]

theorem runLog_snoc (hs : List (Cls × HRef × Option Nat)) (done : List GSig) (g : GSig) :
    runLog hs (done ++ [g]) = runLog hs done ++ hLog (hsOf hs (.user g.cls)) g.id := by
  simp [runLog]

theorem hLog_cons_user (hid : Nat) (d : Option Nat) (l : List (HRef × Option Nat)) (sid : Nat) :
    hLog ((.user hid, d) :: l) sid = .h hid sid d 1 :: .hret hid :: hLog l sid := by
  simp [hLog]

theorem actSig_actOf (g : GSig) : actSig (actOf g) = some g := rfl

theorem flat_tableProg (cc : CharClass) (tbl : List (Nat × List (List GSig))) : Flat (tableProg cc tbl) := by
  refine ⟨rfl, fun hid n => ?_⟩
  rw [List.all_eq_true]
  intro a ha
  simp only [tableProg, List.mem_map] at ha
  obtain ⟨g, _, rfl⟩ := ha
  rfl

theorem drop_cons_facts {α : Type} {l0 : List α} {i : Nat} {h : α} {l : List α} (e : l0.drop i = h :: l) :
    l0[i]? = some h ∧ l0.drop (i + 1) = l :=
  ⟨by rw [← List.head?_drop, e]; rfl, by rw [← List.tail_drop, e]; rfl⟩

end Simpleline.Flat
