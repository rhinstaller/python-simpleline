/-
  C06b: what the order proof reads off the event queues, and what `put`, `take`, opening a level and registering a
  source do to it. `readyQ`: the lines of the successful `InputReadySignal`s in a queue, in queue order; one enqueued
  with priority 0 goes behind the others when these have priority 0 (C01: FIFO within a priority). `queuesL last`:
  every `InputReceivedSignal` in a queue carries the line read last, every `InputReadySignal` has priority 0.
-/
import Simpleline.Lemmas.InputPending
import Simpleline.Lemmas.LoopQueue
import Simpleline.Spec.InputOrderSpec

namespace Simpleline.InputOrder
open Input

theorem okReady_cls {s : Sig} (h : s.okReady = true) : s.cls = .inputReady := by
  simp [Sig.okReady] at h; exact h.1

theorem okReady_of_cls {s : Sig} (h : s.cls ≠ .inputReady) : s.okReady = false := by
  simp [Sig.okReady, h]

def readyL (es : List (Int × Nat × Sig)) : List Str := (es.filter fun e => e.2.2.okReady).map (·.2.2.line)

def readyQ (qs : List EQueue) (a : Nat) : List Str := readyL (qs.getD a {}).entries

@[simp] theorem readyL_nil : readyL [] = [] := rfl

theorem readyL_cons (e : QEntry) (es : List QEntry) :
    readyL (e :: es) = (if e.2.2.okReady = true then [e.2.2.line] else []) ++ readyL es := by
  unfold readyL
  by_cases h : e.2.2.okReady = true <;> simp [h]

theorem readyL_append (l1 l2 : List QEntry) : readyL (l1 ++ l2) = readyL l1 ++ readyL l2 := by
  simp [readyL]

theorem readyL_eq_nil {es : List QEntry} (h : ∀ e ∈ es, e.2.2.okReady = false) : readyL es = [] := by
  unfold readyL
  rw [List.filter_eq_nil_iff.mpr (by intro e he; simp [h e he])]; rfl

theorem readyL_insert_other (e : QEntry) (l : List QEntry) (h : e.2.2.okReady = false) :
    readyL (insertEntry e l) = readyL l := by
  induction l with
  | nil => simp [insertEntry, readyL_cons, h]
  | cons x xs ih =>
    unfold insertEntry
    split
    · rw [readyL_cons, h]; simp
    · rw [readyL_cons, readyL_cons, ih]

theorem readyL_filter_of {p : QEntry → Bool} {l : List QEntry}
    (h : ∀ e ∈ l, e.2.2.okReady = true → p e = true) : readyL (l.filter p) = readyL l := by
  unfold readyL
  rw [List.filter_filter]
  congr 1
  apply List.filter_congr
  intro e he
  cases ho : e.2.2.okReady
  · simp
  · simp [h e he ho]

theorem readyL_filter_none {p : QEntry → Bool} {l : List QEntry}
    (h : ∀ e ∈ l, e.2.2.okReady = true → p e = false) : readyL (l.filter p) = [] := by
  apply readyL_eq_nil
  intro e he
  obtain ⟨h1, h2⟩ := List.mem_filter.mp he
  cases ho : e.2.2.okReady
  · rfl
  · rw [h e h1 ho] at h2; cases h2

theorem readyL_put {q : EQueue} {s : Sig} (hS : q.Sorted) (hs : s.okReady = true) (hp : s.prio = 0)
    (hq : ∀ e ∈ q.entries, e.2.2.okReady = true → e.2.2.prio = 0) :
    readyL (q.put s).entries = readyL q.entries ++ [s.line] := by
  rw [put_place s hS, readyL_append, readyL_append]
  have h1 : readyL (q.entries.filter fun x => decide (x.1 ≤ s.prio)) = readyL q.entries := by
    apply readyL_filter_of
    intro e he ho
    have := hq e he ho
    rw [← hS.prio e he] at this
    simp [this, hp]
  have h2 : readyL (q.entries.filter fun x => decide (s.prio < x.1)) = [] := by
    apply readyL_filter_none
    intro e he ho
    have := hq e he ho
    rw [← hS.prio e he] at this
    simp [this, hp]
  rw [h1, h2, readyL_cons]
  simp [hs]

theorem readyQ_listSet (qs : List EQueue) (i a : Nat) (f : EQueue → EQueue) :
    readyQ (listSet qs i f) a =
      if i = a ∧ a < qs.length then readyL (f (qs.getD a {})).entries else readyQ qs a := by
  unfold readyQ
  rw [listSet_getD]
  split <;> rfl

theorem readyQ_listSet_same (qs : List EQueue) (i a : Nat) (f : EQueue → EQueue)
    (hf : ∀ q, readyL (f q).entries = readyL q.entries) : readyQ (listSet qs i f) a = readyQ qs a := by
  rw [readyQ_listSet]
  split
  · rw [hf]; rfl
  · rfl

theorem readyQ_enqueue (c : Cfg) (s : Sig) (a : Nat) (h : s.okReady = false) :
    readyQ (c.enqueue s).L.queues a = readyQ c.L.queues a := by
  rw [enqueue_queues]
  split
  · rfl
  · exact readyQ_listSet_same _ _ _ _ (fun q => readyL_insert_other _ _ h)

@[simp] theorem readyQ_addSource (qs : List EQueue) (i a : Nat) (s : Src) :
    readyQ (listSet qs i (addSource · s)) a = readyQ qs a :=
  readyQ_listSet_same _ _ _ _ (fun q => by rw [addSource_entries])

theorem readyQ_append_empty_lt (qs : List EQueue) (a : Nat) (h : a < qs.length) :
    readyQ (qs ++ [({} : EQueue)]) a = readyQ qs a := by
  unfold readyQ
  simp [List.getD_eq_getElem?_getD, List.getElem?_append_left h]

theorem readyQ_append_empty_new (qs : List EQueue) : readyQ (qs ++ [({} : EQueue)]) qs.length = [] := by
  unfold readyQ
  simp [List.getD_eq_getElem?_getD]

theorem readyQ_of_activeQ {c : Cfg} {e : QEntry} {es : List QEntry}
    (he : c.L.activeQ.entries = e :: es) :
    readyQ c.L.queues c.L.active = (if e.2.2.okReady = true then [e.2.2.line] else []) ++ readyL es := by
  unfold readyQ
  have : (c.L.queues.getD c.L.active {}).entries = e :: es := he
  rw [this, readyL_cons]

theorem readyQ_pop {c : Cfg} {e : QEntry} {es : List QEntry}
    (he : c.L.activeQ.entries = e :: es) :
    readyQ (listSet c.L.queues c.L.active fun q => { q with entries := es }) c.L.active = readyL es := by
  rw [readyQ_listSet, if_pos ⟨rfl, active_lt he⟩]

def sigL (last : Option Str) (s : Sig) : Prop :=
  (s.cls = .inputReceived → last = some s.line) ∧ (s.cls = .inputReady → s.prio = 0)

def queuesL (last : Option Str) (qs : List EQueue) : Prop := ∀ q ∈ qs, ∀ e ∈ q.entries, sigL last e.2.2

theorem sigL_of_not_input {last : Option Str} {s : Sig} (h : s.cls.isInput = false) : sigL last s := by
  constructor <;> intro hc <;> rw [hc] at h <;> cases h

theorem queuesL_pending {c : Cfg} {last : Option Str} :
    queuesL last c.L.queues ↔ ∀ s ∈ c.pending, sigL last s := forall_entries_iff _

theorem queuesL_enqueueAll {last : Option Str} (sigs : List Sig) (c : Cfg) (hs : ∀ s ∈ sigs, sigL last s)
    (h : queuesL last c.L.queues) : queuesL last (enqueueAll c sigs).L.queues :=
  queuesL_pending.mpr (all_enqueueAll sigs c hs (queuesL_pending.mp h))

theorem queuesL_enqueue {c : Cfg} {last : Option Str} {s : Sig} (hs : sigL last s) (h : queuesL last c.L.queues) :
    queuesL last (c.enqueue s).L.queues :=
  queuesL_enqueueAll [s] c (fun _ hx => List.mem_singleton.mp hx ▸ hs) h

theorem queuesL_pop {c : Cfg} {last : Option Str} {e : QEntry} {es : List QEntry}
    (he : c.L.activeQ.entries = e :: es) (h : queuesL last c.L.queues) :
    queuesL last (c.pop e es).L.queues ∧ sigL last e.2.2 :=
  (all_pop he (queuesL_pending.mp h)).imp_left queuesL_pending.mpr

end Simpleline.InputOrder
