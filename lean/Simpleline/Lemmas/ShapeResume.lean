/-
  Lemmas behind C03 "blocks / resumes": the frame of an `execute_new_loop` call along an execution.
-/
import Simpleline.Lemmas.Shape

namespace Simpleline

namespace Shape

variable {P : Prog} {c0 c c1 c2 c3 : Cfg}

theorem reach_frameInv {q : Nat} {K : List Instr} (h0 : Started c0) (hr1 : Reach P c0 c1)
    (hi : FrameInv q K c1.sv) (hq : q < c1.sv.nq) (hr2 : Reach P c1 c2) :
    FrameInv q K c2.sv ∧ q < c2.sv.nq := by
  refine reach_induction_trans (motive := fun c => FrameInv q K c.sv ∧ q < c.sv.nq) ⟨hi, hq⟩ ?_ hr2
  intro ca cb hr ht ih
  obtain ⟨evs, hs, _⟩ := trans_sstep ht
  exact ⟨frameInv_step (reach_basic h0 (reach_reach hr1 hr)) ih.2 ih.1 hs, Nat.lt_of_lt_of_le ih.2 (nq_mono hs)⟩

theorem reach_frame {q : Nat} {K : List Instr} (h0 : Started c0) (hr1 : Reach P c0 c1)
    (hi : ∃ X, c1.code = X ++ .mainCheck q :: K) (hr2 : Reach P c1 c2)
    (hno : ∀ t ∈ newTr c1 c2, t ≠ .loopReturn q ∧ t ≠ .exit ∧ t ≠ .kill) :
    ∃ X, c2.code = X ++ .mainCheck q :: K := by
  revert hno
  refine reach_induction_trans (P := P) (c1 := c1)
    (motive := fun c2 => (∀ t ∈ newTr c1 c2, t ≠ .loopReturn q ∧ t ≠ .exit ∧ t ≠ .kill) →
      ∃ X, c2.code = X ++ .mainCheck q :: K) (fun _ => hi) ?_ hr2
  intro ca cb hr ht ih hno
  obtain ⟨evs, hs, hev, hg⟩ := trans_sstep ht
  have hsplit := newTr_trans (reach_grow hr) hg
  have ih' := ih fun t ht => hno t (by rw [hsplit]; exact List.mem_append_right _ ht)
  have hno' : ∀ t ∈ evs, t ≠ .loopReturn q ∧ t ≠ .exit ∧ t ≠ .kill := by
    intro t ht
    apply hno
    rw [hsplit]
    apply List.mem_append_left
    rw [← hev] at ht
    exact (mem_shapeTr.1 ht).1
  rcases frame_step (reach_chained h0 (reach_reach hr1 hr)) ih' hs with h | ⟨_, h | h⟩ | ⟨h, _⟩
  · exact h
  · exact absurd rfl (hno' _ h).2.1
  · exact absurd rfl (hno' _ h).2.2
  · exact absurd rfl (hno' (.loopReturn q) (by rw [h]; simp)).1

theorem frame_at_return {q : Nat} {K : List Instr} (hb : Basic c2.sv) (hi : FrameInv q K c2.sv)
    {rest : List Instr} (hc : c2.sv.code = .mainCheck q :: rest) : rest = K := by
  rcases hi with ⟨X, hX⟩ | hn
  · rw [hc] at hX
    cases X with
    | nil => simp only [List.nil_append, List.cons.injEq, true_and] at hX; exact hX
    | cons x X =>
      simp only [List.cons_append, List.cons.injEq] at hX
      obtain ⟨rfl, hX⟩ := hX
      exfalso
      have := hb.msorted
      rw [hc] at this
      have h1 := (List.pairwise_cons.1 this).1 q (by rw [hX]; exact mem_markersA_append_mainCheck X q K)
      omega
  · rw [hc] at hn
    exact absurd (List.mem_cons_self ..) hn

theorem return_shape (ht : Trans P c c2) {q : Nat} (hq : Tr.loopReturn q ∈ newTr c c2) :
    ∃ K, c.code = .mainCheck q :: K ∧ c.L.runLoop = false ∧ c2.code = .restoreRun :: K ∧
      c2.L.levels = c.L.levels ∧ c2.L.active = c.L.active := by
  obtain ⟨evs, hs, hev, _⟩ := trans_sstep ht
  obtain ⟨rest, h1, h2, _, h4⟩ := loopReturn_step hs ((mem_newTr_iff hev rfl).1 hq)
  refine ⟨rest, h1, h2, ?_, ?_, ?_⟩
  · show c2.sv.code = _; rw [h4]
  · show c2.sv.levels = _; rw [h4]; rfl
  · show c2.sv.active = _; rw [h4]; rfl

theorem blocks (h0 : Started c0) (hr : Reach P c0 c) (ht : Trans P c c2) (hw : WFOpen c) {q : Nat}
    (hq : Tr.loopReturn q ∈ newTr c c2) :
    q ∉ c.L.levels ∧ (Tr.closeLevel q ∈ c.tr ∨ Tr.forceQuit ∈ c.tr) := by
  obtain ⟨K, h1, h2, _⟩ := return_shape ht hq
  have hnot : q ∉ c.L.levels := by
    rcases reach_sub h0 hr hw with ho | hi
    · cases (over_head ho h1).1
    · exact hi.2 h2 (by show headIsRestore c.code = false; rw [h1]; rfl) q
        (by show (markersA c.code).head? = some q; rw [h1]; rfl)
  refine ⟨hnot, ?_⟩
  rcases Shape_closed h0 hr q (by rw [h1]; exact List.mem_cons_self ..) with h | h
  · exact absurd h hnot
  · exact h

theorem resumes_frame (h0 : Started c0) (hr : Reach P c0 c) {s : Sig} {K : List Instr}
    (hc : c.code = .newLoop s :: K) (hfq : c.L.forceQuit = false) (hs : step P c = .ok c1)
    (hr2 : Reach P c1 c2)
    (hno : ∀ t ∈ newTr c1 c2, t ≠ .loopReturn c.L.queues.length ∧ t ≠ .exit ∧ t ≠ .kill) :
    c1.code = .mainCheck c.L.queues.length :: K ∧ ∃ X, c2.code = X ++ .mainCheck c.L.queues.length :: K := by
  obtain ⟨c1', hs', hsv⟩ := step_newLoop (P := P) hc hfq
  rw [hs] at hs'; cases hs'
  have h1 : c1.code = .mainCheck c.L.queues.length :: K := by
    show c1.sv.code = _; rw [hsv]; rfl
  exact ⟨h1, reach_frame h0 (.step hr hs) ⟨[], h1⟩ hr2 hno⟩

theorem call_exact (h0 : Started c0) (hr : Reach P c0 c) {s : Sig} {K : List Instr}
    (hc : c.code = .newLoop s :: K) (hfq : c.L.forceQuit = false) (hs : step P c = .ok c1) (g13 : Grow c1 c3)
    (hw : WFOpen c3) (hd : WFDrain c3) (hf : NoForceQuit c3) :
    c.L.runLoop = true ∧ markersA K = c.L.levels.reverse := by
  obtain ⟨c1', hs', hsv⟩ := step_newLoop (P := P) hc hfq
  cases hs.symm.trans hs'
  have g03 : Grow c c3 := (trans_grow (.step hs)).trans g13
  -- the `.openLevel` event of the call records `_run_loop`
  have hrl : c.L.runLoop = true := by
    have hmem : Tr.openLevel c.sv.nq c.sv.runLoop ∈ c1.sv.ev := by rw [hsv]; exact List.mem_cons_self ..
    obtain ⟨n, hn⟩ := g13
    have := (List.all_eq_true.1 hw) _ (hn ▸ List.mem_append_right _ (mem_shapeTr.1 hmem).1)
    cases hb : c.L.runLoop with
    | true => rfl
    | false => rw [show c.sv.runLoop = false from hb] at this; cases this
  refine ⟨hrl, ?_⟩
  rcases reach_exact h0 hr (WFOpen.mono g03 hw) (WFDrain.mono g03 hd) (NoForceQuit.mono g03 hf) with
    ho | ⟨_, hA | hB' | hB⟩
  · rw [show c.sv.code = _ from hc] at ho; cases K <;> cases ho
  · have := hA.2; rw [show c.sv.code = _ from hc] at this; exact this
  · exact absurd (hrl ▸ hB'.1 : true = false) nofun
  · exact absurd (hrl ▸ hB.1 : true = false) nofun

theorem return_exact (h0 : Started c0) (hr : Reach P c0 c) {q : Nat} {K : List Instr}
    (hc : c.code = .mainCheck q :: K) (hrl : c.L.runLoop = false) (hw : WFOpen c) (hd : WFDrain c)
    (hf : NoForceQuit c) : c.L.forceQuit = false ∧ c.L.levels ≠ [] ∧ markersA K = c.L.levels.reverse := by
  rcases reach_exact h0 hr hw hd hf with ho | ⟨hfq, hA | hB' | hB⟩
  · rw [show c.sv.code = _ from hc] at ho; cases K <;> cases ho
  · exact absurd (hrl ▸ hA.1 : false = true) nofun
  · rw [show c.sv.code = _ from hc] at hB'; cases hB'.2.1
  · obtain ⟨_, _, _, h4, q', _, h6⟩ := hB
    rw [show c.sv.code = _ from hc] at h6
    exact ⟨hfq, h4, (List.cons.inj h6).2⟩

theorem return_of_call (h0 : Started c0) (hr : Reach P c0 c) {s : Sig} {K : List Instr}
    (hc : c.code = .newLoop s :: K) (hfq : c.L.forceQuit = false) (hs : step P c = .ok c1)
    (hr2 : Reach P c1 c2) (ht : Trans P c2 c3) (hret : Tr.loopReturn c.L.queues.length ∈ newTr c2 c3)
    (hw : WFOpen c3) (hd : WFDrain c3) (hf : NoForceQuit c3) :
    c2.code = .mainCheck c.L.queues.length :: K ∧ c3.code = .restoreRun :: K ∧ c3.L.levels = c2.L.levels ∧
    c3.L.active = c2.L.active ∧ c2.L.forceQuit = false ∧ c2.L.levels = c.L.levels ∧ c2.L.levels ≠ [] ∧
    markersA K = c.L.levels.reverse := by
  obtain ⟨c1', hs', hsv⟩ := step_newLoop (P := P) hc hfq
  cases hs.symm.trans hs'
  have hr1 : Reach P c0 c1 := .step hr hs
  have hr02 : Reach P c0 c2 := reach_reach hr1 hr2
  have h1 : c1.code = .mainCheck c.L.queues.length :: K := by
    show c1.sv.code = _; rw [hsv]; rfl
  have hfi := (reach_frameInv h0 hr1 (.inl ⟨[], h1⟩) (by rw [hsv]; exact Nat.lt_succ_self _) hr2).1
  obtain ⟨rest, hc2, hrl2, hc3, hl3, ha3⟩ := return_shape ht hret
  cases frame_at_return (reach_basic h0 hr02) hfi hc2
  have g23 : Grow c2 c3 := trans_grow ht
  obtain ⟨_, hlc⟩ := call_exact h0 hr hc hfq hs ((reach_grow hr2).trans g23) hw hd hf
  obtain ⟨hfq2, hne2, hm2⟩ :=
    return_exact h0 hr02 hc2 hrl2 (WFOpen.mono g23 hw) (WFDrain.mono g23 hd) (NoForceQuit.mono g23 hf)
  exact ⟨hc2, hc3, hl3, ha3, hfq2, List.reverse_inj.1 (hm2.symm.trans hlc), hne2, hlc⟩

theorem resumes (h0 : Started c0) (hr : Reach P c0 c) {s : Sig} {K : List Instr}
    (hc : c.code = .newLoop s :: K) (hfq : c.L.forceQuit = false) (hs : step P c = .ok c1)
    (hr2 : Reach P c1 c2) (ht : Trans P c2 c3) (hret : Tr.loopReturn c.L.queues.length ∈ newTr c2 c3)
    (hw : WFClose c3) (hd : WFDrain c3) (hf : NoForceQuit c3) :
    c2.code = .mainCheck c.L.queues.length :: K ∧ c3.code = .restoreRun :: K ∧
    ∃ c4, step P c3 = .ok c4 ∧ c4.code = K ∧ c4.L.runLoop = true ∧ c4.L.levels = c.L.levels ∧
      c4.L.active = c.L.active := by
  obtain ⟨hc2, hc3, hl3, ha3, hfq2, hlev, hne2, _⟩ :=
    return_of_call h0 hr hc hfq hs hr2 ht hret (WFOpen.of_WFClose hw) hd hf
  have hr02 : Reach P c0 c2 := reach_reach (.step hr hs) hr2
  have hfq3 : c3.L.forceQuit = false := by
    obtain ⟨evs, hs3, hev, _⟩ := trans_sstep ht
    obtain ⟨rest', _, _, _, h4⟩ := loopReturn_step hs3 ((mem_newTr_iff hev rfl).1 hret)
    show c3.sv.forceQuit = false
    rw [h4]; exact hfq2
  refine ⟨hc2, hc3, _, step_restoreRun hc3 hfq3, rfl, rfl, hl3.trans hlev, ?_⟩
  -- the active queue is the top level, then and now
  show c3.L.active = c.L.active
  obtain ⟨a, ha⟩ := Option.ne_none_iff_exists'.1 (mt List.getLast?_eq_none_iff.1 hne2)
  exact ha3.trans (((reach_basic h0 hr02).active a ha).trans
    ((reach_basic h0 hr).active a (show c.L.levels.getLast? = _ from hlev ▸ ha)).symm)

end Shape

end Simpleline
