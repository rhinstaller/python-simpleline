/-
  Frame lemmas for C17: what the helper functions of `Model/Machine.lean` do to the console
  (`A.out`), to the marker events of the trace (`show`, `kill`) and to the `printLines` instructions
  pending in `code`. The three facts travel together as `Quiet c rest c'`; the console does not see the loop state, so
  every helper and every bookkeeping step preserves it (`Quiet.closed`, an instance of `BookClosed`).
-/
import Simpleline.Spec.OutputSpec
import Simpleline.Lemmas.Reach
import Simpleline.Lemmas.MachineClosed

namespace Simpleline.Output

def fin : Except (Outcome × Cfg) Cfg → Cfg
  | .ok c => c
  | .error (_, c) => c

@[simp] theorem fin_ok (c : Cfg) : fin (.ok c) = c := rfl
@[simp] theorem fin_error (o : Outcome) (c : Cfg) : fin (.error (o, c)) = c := rfl

/-- the environment transition, totalised the way `emit` and `take` use it -/
def dlv (c : Cfg) : Cfg := c.deliver.getD c

theorem trans_cases {P : Prog} {c c' : Cfg} (h : Trans P c c') : c' = fin (step P c) ∨ c' = dlv c := by
  cases h with
  | step h => rw [h]; exact .inl rfl
  | deliver h => right; simp [dlv, h]
  | halt h => rw [h]; exact .inl rfl

def isMark : Tr → Bool
  | .show _ => true
  | .kill => true
  | _ => false

def QT (l l' : List Tr) : Prop := ∃ add, l' = add ++ l ∧ ∀ t ∈ add, isMark t = false

theorem qt_refl (l : List Tr) : QT l l := ⟨[], rfl, by simp⟩

theorem qt_cons {l l' : List Tr} {t : Tr} (ht : isMark t = false) (h : QT l l') : QT l (t :: l') := by
  obtain ⟨a, rfl, ha⟩ := h
  exact ⟨t :: a, rfl, List.forall_mem_cons.mpr ⟨ht, ha⟩⟩

@[simp] theorem isMark_enq (a b) : isMark (.enq a b) = false := rfl
@[simp] theorem isMark_dropped (a) : isMark (.dropped a) = false := rfl
@[simp] theorem isMark_take (a b) : isMark (.take a b) = false := rfl
@[simp] theorem isMark_putBack (a b) : isMark (.putBack a b) = false := rfl
@[simp] theorem isMark_call (a b c) : isMark (.call a b c) = false := rfl
@[simp] theorem isMark_dispatched (a b) : isMark (.dispatched a b) = false := rfl
@[simp] theorem isMark_exit : isMark .exit = false := rfl
@[simp] theorem isMark_forceQuit : isMark .forceQuit = false := rfl
@[simp] theorem isMark_kill : isMark .kill = true := rfl
@[simp] theorem isMark_openLevel (a b) : isMark (.openLevel a b) = false := rfl
@[simp] theorem isMark_closeLevel (a) : isMark (.closeLevel a) = false := rfl
@[simp] theorem isMark_loopReturn (a) : isMark (.loopReturn a) = false := rfl
@[simp] theorem isMark_closeReq (a b) : isMark (.closeReq a b) = false := rfl
@[simp] theorem isMark_waitBegin (a b) : isMark (.waitBegin a b) = false := rfl
@[simp] theorem isMark_waitEnd (a b c) : isMark (.waitEnd a b c) = false := rfl
@[simp] theorem isMark_procBegin : isMark .procBegin = false := rfl
@[simp] theorem isMark_procEnd : isMark .procEnd = false := rfl
@[simp] theorem isMark_stackOp (a b) : isMark (.stackOp a b) = false := rfl
@[simp] theorem isMark_show (a) : isMark (.show a) = true := rfl
@[simp] theorem isMark_refresh (a) : isMark (.refresh a) = false := rfl
@[simp] theorem isMark_modalBegin (a) : isMark (.modalBegin a) = false := rfl
@[simp] theorem isMark_modalEnd (a) : isMark (.modalEnd a) = false := rfl

theorem QT.mark_mem {l l' : List Tr} (h : QT l l') (t : Tr) (ht : isMark t = true) : t ∈ l' ↔ t ∈ l := by
  obtain ⟨a, rfl, ha⟩ := h
  constructor
  · intro hm
    rcases List.mem_append.mp hm with hm | hm
    · rw [ha t hm] at ht; cases ht
    · exact hm
  · exact fun hm => List.mem_append_right _ hm

theorem QT.newTr {c c' : Cfg} (h : QT c.tr c'.tr) : ∀ t ∈ newTr c c', isMark t = false := by
  obtain ⟨a, h1, ha⟩ := h
  rw [newTr_of_append h1]; exact ha

def prints (code : List Instr) : List (List Str) :=
  code.filterMap fun i => match i with | .printLines ls => some ls | _ => none

@[simp] theorem prints_nil : prints [] = [] := rfl
theorem prints_append (a b : List Instr) : prints (a ++ b) = prints a ++ prints b :=
  List.filterMap_append
theorem prints_cons (i : Instr) (a : List Instr) :
    prints (i :: a) = (match i with | .printLines ls => [ls] | _ => []) ++ prints a := by
  cases i <;> rfl

theorem prints_sublist {a b : List Instr} (h : a.Sublist b) : (prints a).Sublist (prints b) :=
  List.Sublist.filterMap _ h

theorem prints_acts (acts : List Act) (is : List Instr) : prints (acts.map Instr.act ++ is) = prints is := by
  induction acts with
  | nil => rfl
  | cons a as ih => exact ih

@[simp] theorem setScr_out (A : AppSt) (i : Nat) (f : ScreenObj → ScreenObj) : (A.setScr i f).out = A.out := rfl

structure Quiet (c : Cfg) (rest : List Instr) (c' : Cfg) : Prop where
  out : c'.A.out = c.A.out
  tr : QT c.tr c'.tr
  code : prints c'.code ⊆ prints rest

namespace Quiet
variable {c0 c : Cfg} {rest : List Instr}

theorem base (ho : c.A.out = c0.A.out) (ht : QT c0.tr c.tr) (hc : c.code = rest) : Quiet c0 rest c :=
  ⟨ho, ht, hc ▸ fun _ h => h⟩

theorem same {c' : Cfg} (h : Quiet c0 rest c) (ho : c'.A.out = c.A.out := by rfl) (ht : c'.tr = c.tr := by rfl)
    (hc : c'.code = c.code := by rfl) : Quiet c0 rest c' :=
  ⟨ho ▸ h.out, ht ▸ h.tr, hc ▸ h.code⟩

theorem traced {c' : Cfg} {t : Tr} (h : Quiet c0 rest c) (ho : c'.A.out = c.A.out := by rfl)
    (ht : c'.tr = t :: c.tr := by rfl) (hc : c'.code = c.code := by rfl) (hm : isMark t = false := by rfl) :
    Quiet c0 rest c' :=
  ⟨ho ▸ h.out, ht ▸ qt_cons hm h.tr, hc ▸ h.code⟩

theorem traced2 {c' : Cfg} {t t' : Tr} (h : Quiet c0 rest c) (ho : c'.A.out = c.A.out := by rfl)
    (ht : c'.tr = t :: t' :: c.tr := by rfl) (hc : c'.code = c.code := by rfl)
    (hm : isMark t = false := by rfl) (hm' : isMark t' = false := by rfl) : Quiet c0 rest c' :=
  ⟨ho ▸ h.out, ht ▸ qt_cons hm (qt_cons hm' h.tr), hc ▸ h.code⟩

theorem push {is : List Instr} (his : prints is = []) (h : Quiet c0 rest c) : Quiet c0 rest (push c is) :=
  ⟨h.out, h.tr, by rw [Simpleline.push, prints_append, his]; exact h.code⟩

end Quiet

theorem fin_eq_final : fin = final := by funext r; cases r <;> rfl

theorem isLoop_not_mark {t : Tr} (h : t.isLoop = true) : isMark t = false := by
  cases t <;> first | rfl | cases h

theorem prints_plain {is : List Instr} (h : ∀ i ∈ is, i.plain = true) : prints is = [] := by
  induction is with
  | nil => rfl
  | cons i is ih =>
    have := h i List.mem_cons_self
    rw [prints_cons, ih fun j hj => h j (List.mem_cons_of_mem _ hj)]
    cases i <;> first | rfl | cases this

theorem Quiet.closed (c0 : Cfg) (rest : List Instr) : BookClosed (Quiet c0 rest) where
  loop _ _ h := h.same
  event _ _ ht h := h.traced rfl rfl rfl (isLoop_not_mark ht)
  logged _ _ h := h.same
  input _ hA h := h.same hA.out
  pushed _ his h := h.push (prints_plain his)
  drop hs h := ⟨h.out, h.tr, fun _ hx => h.code ((prints_sublist hs.sublist).subset hx)⟩

theorem Quiet.here (c : Cfg) : Quiet c c.code c := .base rfl (qt_refl _) rfl

theorem dlv_quiet (c : Cfg) : Quiet c c.code (dlv c) := by
  unfold dlv
  cases h : c.deliver
  · exact .here c
  · exact (Quiet.closed c c.code).helper.deliver h (.here c)

theorem dlv_code (c : Cfg) : (dlv c).code = c.code := by
  unfold dlv
  rcases Machine.deliver_cases c with ⟨-, hd⟩ | ⟨r, rs, -, hd⟩ <;> rw [hd]
  · rfl
  · rw [Machine.enqueue_eq]; rfl

theorem startRequest_frame (c : Cfg) (ih : Nat) (r : Src) (t : Str) :
    ((final (startRequest c ih r t)).A.out = c.A.out ∨ (final (startRequest c ih r t)).A.out = c.A.out ++ [t]) ∧
    QT c.tr (final (startRequest c ih r t)).tr ∧
    prints (final (startRequest c ih r t)).code ⊆ prints c.code := by
  obtain ⟨A', hA, h | h⟩ := startRequest_cases c ih r t <;> rw [h]
  · have := (Quiet.closed c c.code).helper.raise .err (c := { c with A := A' }) ((Quiet.here c).same hA.out)
    exact ⟨.inl this.out, this.tr, this.code⟩
  · exact ⟨.inr (congrArg (· ++ [t]) hA.out), qt_refl _, fun _ h => h⟩

/-- grouping the events of the pager into `printLines` instructions loses and adds no line -/
theorem prints_go_flatten (f : OutEv → Option Str) (hl : ∀ l, f (.line l) = some l) (ha : f .ask = none) (scr : Nat) :
    ∀ (evs : List OutEv) (cur : List Str) (acc : List Instr),
      (prints (step.go scr evs cur acc)).flatten = (prints acc).flatten ++ cur ++ evs.filterMap f := by
  have flush (cur : List Str) (acc : List Instr) :
      (prints (if cur = [] then acc else acc ++ [.printLines cur])).flatten = (prints acc).flatten ++ cur := by
    split
    · next h => rw [h, List.append_nil]
    · rw [prints_append, List.flatten_append]; simp [prints]
  intro evs
  induction evs with
  | nil => intro cur acc; unfold step.go; rw [flush]; simp
  | cons e es ih =>
    intro cur acc
    unfold step.go
    cases e with
    | line l => rw [ih]; simp [hl]
    | ask =>
      rw [ih, prints_append, List.flatten_append, flush, List.filterMap_cons_none ha]
      simp [prints]

end Simpleline.Output
