/-
  For C07: unwinding of an exception past the instructions that do not catch it, to the catcher of
  `process_input`; the counting step `countAndAct` and the quit dialog step `afterQuit`.
-/
import Simpleline.Lemmas.SchedShape
import Simpleline.Lemmas.Reach

namespace Simpleline

theorem unwind_err_catchPI (pre : List Instr) (scr : Nat) (rest : List Instr) (c : Cfg)
    (hpre : ∀ i ∈ pre, i.catches .err = false) :
    unwind .err (pre ++ .catchPI scr :: .countAndAct scr :: .endPI :: rest) c =
      .ok { (({ c with nextSid := c.nextSid + 1 } : Cfg).enqueue (Dispatch.excSig c.nextSid (.im scr))) with
            code := rest } := by
  rw [Machine.unwind_append hpre, Machine.unwind_cons, ← Machine.excEnq_eq]; rfl

theorem raise_err_eq (c : Cfg) : c.raise .err = unwind .err c.code c := rfl

theorem step_countAndAct (P : Prog) (c : Cfg) (scr : Nat) (rest : List Instr) (top : Entry)
    (hc : c.code = .countAndAct scr :: rest) (ht : c.A.stack.getLast? = some top) :
    step P c =
      match c.retAction with
      | .noop => .ok (c.counted scr rest)
      | .redraw => .ok (c.counted scr rest).redraw
      | .close => .ok (push (c.counted scr rest) [.closeScreen none])
      | .quit =>
        match P.quitScreen with
        | none => (c.counted scr rest).raise .exit
        | some q => .ok (push (c.counted scr rest) [.pushModal q none, .afterQuit q])
      | .error =>
        if ((c.A.scr scr).err + 1) % 5 = 0 then .ok (c.counted scr rest).redraw
        else .ok (push (c.counted scr rest) [.getInput top.screen top.args]) := by
  cases ha : c.retAction <;> simp [step, hc, ht, ha, Cfg.counted, setScr_scr]
  cases P.quitScreen <;> simp

theorem step_afterQuit (P : Prog) (c : Cfg) (q : Nat) (rest : List Instr) (hc : c.code = .afterQuit q :: rest) :
    step P c =
      if (P.spec q).answer = none ∨ (P.spec q).answer = some (some true) then ({ c with code := rest } : Cfg).raise .exit
      else .ok ({ c with code := rest } : Cfg).redraw := by
  simp only [step, hc]
  split <;> simp_all

theorem counted_outcome (c : Cfg) (scr : Nat) (rest : List Instr) (hc : c.code = .countAndAct scr :: rest) :
    InputOutcome c (c.counted scr rest) scr [] 0 := by
  refine ⟨by simp [Cfg.counted, hc], rfl, rfl, ⟨[], rfl, rfl, by simp⟩, fun s => ?_⟩
  simp only [Cfg.counted, setScr_scr]
  split
  · subst_vars; rfl
  · rfl

theorem InputOutcome.redraw {c c1 : Cfg} {scr : Nat} (h : InputOutcome c c1 scr [] 0) : InputOutcome c c1.redraw scr [] 1 := by
  obtain ⟨h1, h2, h3, ⟨evs, h4, h5, _⟩, h6⟩ := h
  refine ⟨by simpa using h1, by simpa using h2, by simpa using h3, ⟨[enqEv c1.L (renderSig c1)], ?_, rfl, ?_⟩, by simpa using h6⟩
  · have : evs = [] := List.eq_nil_of_length_eq_zero h5
    simp [h4, this]
  · simp [enqEv_isRedraw, renderSig]

theorem InputOutcome.push {c c1 : Cfg} {scr : Nat} (h : InputOutcome c c1 scr [] 0) (is : List Instr) :
    InputOutcome c (push c1 is) scr is 0 := by
  obtain ⟨h1, h2, h3, h4, h6⟩ := h
  exact ⟨by simp [h1], h2, h3, h4, h6⟩

