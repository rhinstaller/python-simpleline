/-
  C20, loop level: facts about `insertStable`, `stableSort`, `minPrio` and `collect`.

  The working tool is `insertFront` (insert *before* everything at most as urgent): it commutes with
  `insertStable`, which turns the left fold `stableSort` into a structural recursion
  `stableSort (a :: l) = insertFront a (stableSort l)`.
-/
import Simpleline.Spec.GLoopSpec
import Simpleline.Lemmas.GLoopMin

namespace Simpleline.GLoop

/-- insert before everything that is not more urgent (the mirror image of `insertStable`) -/
def insertFront (a : GSig) : List GSig → List GSig
  | [] => [a]
  | x :: xs => if a.prio ≤ x.prio then a :: x :: xs else x :: insertFront a xs

theorem insertStable_insertFront (e a : GSig) (q : List GSig) :
    insertStable e (insertFront a q) = insertFront a (insertStable e q) := by
  induction q with
  | nil =>
    by_cases h : e.prio < a.prio
    · simp only [insertFront, insertStable, if_pos h, if_neg (show ¬ a.prio ≤ e.prio by omega)]
    · simp only [insertFront, insertStable, if_neg h, if_pos (show a.prio ≤ e.prio by omega)]
  | cons x xs ih =>
    by_cases hax : a.prio ≤ x.prio <;> by_cases hex : e.prio < x.prio
    · by_cases hea : e.prio < a.prio
      · simp only [insertFront, insertStable, if_pos hax, if_pos hex, if_pos hea, if_neg (show ¬ a.prio ≤ e.prio by omega)]
      · simp only [insertFront, insertStable, if_pos hax, if_pos hex, if_neg hea, if_pos (show a.prio ≤ e.prio by omega)]
    · simp only [insertFront, insertStable, if_pos hax, if_neg hex, if_neg (show ¬ e.prio < a.prio by omega)]
    · simp only [insertFront, insertStable, if_neg hax, if_pos hex, if_neg (show ¬ a.prio ≤ e.prio by omega)]
    · simp only [insertFront, insertStable, if_neg hax, if_neg hex, ih]

theorem foldl_insertStable_insertFront (a : GSig) (l q : List GSig) :
    l.foldl (fun q e => insertStable e q) (insertFront a q)
      = insertFront a (l.foldl (fun q e => insertStable e q) q) := by
  induction l generalizing q with
  | nil => rfl
  | cons e l ih => simp only [List.foldl_cons, insertStable_insertFront, ih]

theorem stableSort_cons (a : GSig) (l : List GSig) :
    stableSort (a :: l) = insertFront a (stableSort l) := by
  unfold stableSort
  rw [List.foldl_cons]
  exact foldl_insertStable_insertFront a l []

theorem stableSort_append (l new : List GSig) :
    stableSort (l ++ new) = new.foldl (fun q e => insertStable e q) (stableSort l) := by
  unfold stableSort
  rw [List.foldl_append]

theorem mem_insertStable {x e : GSig} {q : List GSig} : x ∈ insertStable e q ↔ x = e ∨ x ∈ q := by
  induction q with
  | nil => simp [insertStable]
  | cons y ys ih =>
    simp only [insertStable]
    split
    · simp
    · simp only [List.mem_cons, ih]
      grind

theorem mem_foldl_insertStable {x : GSig} {new q : List GSig} :
    x ∈ new.foldl (fun q e => insertStable e q) q ↔ x ∈ q ∨ x ∈ new := by
  induction new generalizing q with
  | nil => simp
  | cons e new ih =>
    simp only [List.foldl_cons, ih, mem_insertStable, List.mem_cons]
    grind

theorem mem_stableSort {x : GSig} {l : List GSig} : x ∈ stableSort l ↔ x ∈ l := by
  unfold stableSort
  rw [mem_foldl_insertStable]
  simp

theorem stableSort_eq_nil {l : List GSig} : stableSort l = [] ↔ l = [] := by
  simp only [List.eq_nil_iff_forall_not_mem, mem_stableSort]

theorem insertFront_eq_cons {a s : GSig} {Q q : List GSig} (h : insertFront a Q = s :: q) :
    (a = s ∧ Q = q) ∨ (a ≠ s ∧ ∃ ys, Q = s :: ys ∧ q = insertFront a ys) := by
  cases Q with
  | nil =>
    obtain ⟨rfl, rfl⟩ := List.cons.inj h
    exact .inl ⟨rfl, rfl⟩
  | cons y ys =>
    simp only [insertFront] at h
    split at h
    · obtain ⟨rfl, rfl⟩ := List.cons.inj h
      exact .inl ⟨rfl, rfl⟩
    · next hlt =>
      obtain ⟨rfl, rfl⟩ := List.cons.inj h
      exact .inr ⟨fun e => hlt (e ▸ Int.le_refl _), ys, rfl, rfl⟩

/-- dispatching the head of the `MainLoop` queue and detaching that source from the GLib context leave the same
pending signals (equal signals included: `erase` removes the first attached occurrence, and that is the one the
stable sort puts first) -/
theorem stableSort_erase_head {l : List GSig} {s : GSig} {q : List GSig}
    (h : stableSort l = s :: q) : stableSort (l.erase s) = q := by
  induction l generalizing q with
  | nil => cases h
  | cons a l ih =>
    rw [stableSort_cons] at h
    rcases insertFront_eq_cons h with ⟨rfl, hq⟩ | ⟨ha, ys, hQ, rfl⟩
    · rw [List.erase_cons_head, hq]
    · rw [List.erase_cons_tail (by simpa using ha), stableSort_cons, ih hQ]

theorem insertStable_append_of_le {b : List GSig} {e : GSig} (q : List GSig)
    (h : ∀ x ∈ b, x.prio ≤ e.prio) : insertStable e (b ++ q) = b ++ insertStable e q := by
  induction b with
  | nil => rfl
  | cons x xs ih =>
    have hx : ¬ e.prio < x.prio := by have := h x (List.mem_cons_self ..); omega
    simp only [List.cons_append, insertStable, if_neg hx]
    rw [ih (fun y hy => h y (List.mem_cons_of_mem _ hy))]

theorem foldl_insertStable_append_of_le {b new : List GSig} (q : List GSig)
    (h : ∀ e ∈ new, ∀ x ∈ b, x.prio ≤ e.prio) :
    new.foldl (fun q e => insertStable e q) (b ++ q) = b ++ new.foldl (fun q e => insertStable e q) q := by
  induction new generalizing q with
  | nil => rfl
  | cons e new ih =>
    simp only [List.foldl_cons]
    rw [insertStable_append_of_le q (h e (List.mem_cons_self ..)),
      ih _ (fun e' he' => h e' (List.mem_cons_of_mem _ he'))]

theorem prefix_foldl_insertStable {b new q : List GSig} (hp : b <+: q)
    (h : ∀ e ∈ new, ∀ x ∈ b, x.prio ≤ e.prio) : b <+: new.foldl (fun q e => insertStable e q) q := by
  obtain ⟨t, rfl⟩ := hp
  rw [foldl_insertStable_append_of_le t h]
  exact List.prefix_append ..

theorem minPrio_eq_none {l : List GSig} : minPrio l = none ↔ l = [] := by
  cases l with
  | nil => simp [minPrio]
  | cons a l =>
    simp only [minPrio, reduceCtorEq, iff_false]
    split <;> simp

theorem minPrio_le {l : List GSig} {p : Int} (h : minPrio l = some p) : ∀ x ∈ l, p ≤ x.prio :=
  (minKey_spec GSig.prio minPrio rfl (fun _ _ => rfl) l p h).1

theorem minPrio_mem {l : List GSig} {p : Int} (h : minPrio l = some p) : ∃ x ∈ l, x.prio = p :=
  (minKey_spec GSig.prio minPrio rfl (fun _ _ => rfl) l p h).2

theorem collect_nil : collect [] = [] := rfl

theorem collect_eq_nil {l : List GSig} : collect l = [] ↔ l = [] := by
  constructor
  · intro h
    unfold collect at h
    split at h
    next p hp =>
      obtain ⟨x, hx, hxp⟩ := minPrio_mem hp
      have : x ∈ l.filter (fun s => s.prio = p) := by simp [List.mem_filter, hx, hxp]
      rw [h] at this
      cases this
    next hn => exact minPrio_eq_none.1 hn
  · rintro rfl
    rfl

theorem mem_collect {l : List GSig} {b : GSig} (h : b ∈ collect l) : b ∈ l ∧ ∀ x ∈ l, b.prio ≤ x.prio := by
  unfold collect at h
  split at h
  next p hp =>
    simp only [List.mem_filter, decide_eq_true_eq] at h
    exact ⟨h.1, fun x hx => by have := minPrio_le hp x hx; omega⟩
  next => cases h

theorem collect_cons_of_minPrio {a : GSig} {l : List GSig} {p : Int} (hp : minPrio l = some p) :
    collect (a :: l) = if a.prio < p then [a] else if a.prio = p then a :: collect l else collect l := by
  have hle := minPrio_le hp
  unfold collect
  simp only [minPrio, hp]
  split
  next hlt =>
    rw [List.filter_cons]
    simp only [decide_true, if_true, List.cons.injEq, true_and]
    apply List.filter_eq_nil_iff.2
    intro x hx
    have := hle x hx
    simp only [decide_eq_true_eq]
    omega
  next hlt =>
    split
    next he => simp [he]
    next hne => simp [hne]

theorem insertFront_of_le {a : GSig} {q : List GSig} (h : ∀ x ∈ q, a.prio ≤ x.prio) :
    insertFront a q = a :: q := by
  cases q with
  | nil => rfl
  | cons x xs => simp only [insertFront, if_pos (h x (List.mem_cons_self ..))]

theorem insertFront_append_of_lt {a : GSig} {b : List GSig} (q : List GSig) (h : ∀ x ∈ b, x.prio < a.prio) :
    insertFront a (b ++ q) = b ++ insertFront a q := by
  induction b with
  | nil => rfl
  | cons x xs ih =>
    have hx : ¬ a.prio ≤ x.prio := by have := h x (List.mem_cons_self ..); omega
    simp only [List.cons_append, insertFront, if_neg hx]
    rw [ih (fun y hy => h y (List.mem_cons_of_mem _ hy))]

theorem prio_of_mem_collect {l : List GSig} {p : Int} (hp : minPrio l = some p) {b : GSig}
    (h : b ∈ collect l) : b.prio = p := by
  unfold collect at h
  simp only [hp, List.mem_filter, decide_eq_true_eq] at h
  exact h.2

/-- the batch of a GLib iteration heads the `MainLoop` queue -/
theorem collect_prefix_stableSort (l : List GSig) : collect l <+: stableSort l := by
  induction l with
  | nil => exact List.nil_prefix
  | cons a l ih =>
    rw [stableSort_cons]
    cases hm : minPrio l with
    | none =>
      rw [minPrio_eq_none.1 hm]
      simp [collect, minPrio, stableSort, insertFront]
    | some p =>
      have hall : ∀ x ∈ stableSort l, p ≤ x.prio := fun x hx => minPrio_le hm x (mem_stableSort.1 hx)
      rw [collect_cons_of_minPrio hm]
      split
      next h1 =>
        rw [insertFront_of_le (fun x hx => by have := hall x hx; omega)]
        exact (List.prefix_cons_inj a).2 List.nil_prefix
      next h1 =>
        split
        next h2 =>
          rw [insertFront_of_le (fun x hx => by have := hall x hx; omega)]
          exact (List.prefix_cons_inj a).2 ih
        next h2 =>
          obtain ⟨t, ht⟩ := ih
          rw [← ht, insertFront_append_of_lt t (fun x hx => by have := prio_of_mem_collect hm hx; omega)]
          exact List.prefix_append ..

end Simpleline.GLoop
