/-
  `classifyRet`, what becomes of the answer of a screen's `input()`: one equation for each form of the answer, and the
  lookup of a string among the three global keys read backwards.
-/
import Simpleline.Model.Machine

namespace Simpleline

/-- the definition matches on string literals; here the same as a chain of tests -/
theorem classifyRet_state (s : String) (key : Str) :
    classifyRet (.state s) key =
      if s = "PROCESSED" then .noop else if s = "REDRAW" then .redraw else if s = "CLOSE" then .close else .error := by
  unfold classifyRet
  split <;> simp_all

theorem classifyRet_state_iff (s : String) (key : Str) :
    (classifyRet (.state s) key = .noop ↔ s = "PROCESSED") ∧ (classifyRet (.state s) key = .redraw ↔ s = "REDRAW") ∧
      (classifyRet (.state s) key = .close ↔ s = "CLOSE") ∧ classifyRet (.state s) key ≠ .quit := by
  rw [classifyRet_state]
  by_cases h1 : s = "PROCESSED"
  · subst h1; decide
  by_cases h2 : s = "REDRAW"
  · subst h2; decide
  by_cases h3 : s = "CLOSE"
  · subst h3; decide
  simp [h1, h2, h3]

theorem classifyRet_none (key : Str) : classifyRet .none key = .error := rfl

theorem classifyRet_key (k key : Str) :
    classifyRet (.key k) key =
      if k = ['r'] then .redraw else if k = ['c'] then .close else if k = ['q'] then .quit else .error := rfl

/-- the default `input()` returns the typed key -/
theorem classifyRet_dflt (key : Str) : classifyRet .dflt key = classifyRet (.key key) key := rfl

theorem classifyRet_key_iff (k key : Str) :
    classifyRet (.key k) key ≠ .noop ∧ (classifyRet (.key k) key = .redraw ↔ k = ['r']) ∧
      (classifyRet (.key k) key = .close ↔ k = ['c']) ∧ (classifyRet (.key k) key = .quit ↔ k = ['q']) := by
  rw [classifyRet_key]
  by_cases h1 : k = ['r']
  · subst h1; decide
  by_cases h2 : k = ['c']
  · subst h2; decide
  by_cases h3 : k = ['q']
  · subst h3; decide
  simp [h1, h2, h3]

end Simpleline
