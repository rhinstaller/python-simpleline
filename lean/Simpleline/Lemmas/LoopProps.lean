/-
  For the statements of Props/C01 and Props/C03: the moment of a take, the step that opens a level,
  and executions of several transitions.
-/
import Simpleline.Lemmas.LoopBelong

namespace Simpleline

/-- the moment of a take: `c`, or `c` after the delivery the empty active queue waited for -/
theorem moment_static {P : Prog} {c0 c cm : Cfg} (hr : Reach P c0 c)
    (h : cm = c ∨ ((c.queue c.L.active).entries = [] ∧ c.deliver = some cm)) :
    Reach P c0 cm ∧ cm.L.levels = c.L.levels ∧ cm.L.active = c.L.active ∧ ∀ q x, cm.L.owns q x ↔ c.L.owns q x := by
  rcases h with rfl | ⟨_, hd⟩
  · exact ⟨hr, rfl, rfl, fun _ _ => Iff.rfl⟩
  · obtain ⟨s, hs⟩ := deliver_view hd
    have st : Static c.view cm.view := hs ▸ enq_static _ s
    exact ⟨hr.deliver hd, st.levels, st.active, st.owns⟩

theorem step_newLoop (P : Prog) (c : Cfg) (s : Sig) (rest : List Instr) (hc : c.code = .newLoop s :: rest)
    (hf : c.L.forceQuit = false) :
    ∃ c', step P c = .ok c' ∧ c'.code = .mainCheck c.L.queues.length :: rest ∧ c'.view = (openView c.view).enq s := by
  unfold step
  rw [hc]
  simp only [hf]
  refine ⟨_, rfl, rfl, ?_⟩
  refine (view_enqueue _ s).trans ?_
  congr 1
  simp [Cfg.view, openView, Cfg.trace, hf]

theorem reach_tr {P : Prog} {c c' : Cfg} (h : Reach P c c') : ∃ new, c'.tr = new ++ c.tr := by
  refine reach_induction (motive := fun c' => ∃ new, c'.tr = new ++ c.tr) ⟨[], rfl⟩ (fun _ _ _ ih ht => ?_) h
  obtain ⟨n1, h1⟩ := ih
  obtain ⟨n2, h2⟩ := eff_tr (trans_eff ht)
  exact ⟨n2 ++ n1, by rw [h2, h1, List.append_assoc]⟩

end Simpleline
