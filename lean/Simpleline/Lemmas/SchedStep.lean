/-
  The event-loop half of the machine seen from the scheduler: instructions that neither touch the
  scheduler's state (stack, screens table, return registers, callback log, scheduler trace) nor push
  a continuation of a scheduler frame. Their effect is summarised once (`step_loopish`), so that the
  scheduler invariants only have to look at the scheduler's own instructions. Nearly all of them are
  bookkeeping to every view that does not see the loop state: `Loopish` is preserved by what such a step
  is made of (`Loopish.closed`), and `step_bookkeeping` (`MachineClosed`) goes through them.
-/
import Simpleline.Lemmas.SchedFrame
import Simpleline.Lemmas.MachineClosed

namespace Simpleline

def Act.isStackOp : Act → Bool
  | .schedule .. | .push .. | .replace .. => true
  | _ => false

/-- instructions that leave the scheduler's state alone and push no continuation of a scheduler frame -/
def Instr.loopish : Instr → Bool
  | .act a => !a.isStackOp
  | .apprun | .catchExit | .quitCb | .mainCheck _ | .restoreRun | .loopCheck | .getDispatch
  | .processSignal _ | .dispatch .. | .catchHandler | .kill _ | .callH .. | .hret _ | .note _
  | .procWait _ | .waitStep .. | .waitCheck .. | .procIter _ | .newLoop _ | .closeLoop | .popLevel
  | .modalRet _ | .closeScreen3 _ | .afterSetupFail _ | .catchPS | .catchDraw | .printWidget _ | .printLines _
  | .blockingInput .. | .waitInput _ | .inputReceived _ | .inputReady .. | .catchPI _ | .endPI => true
  | _ => false

/-- instructions that are not the continuation of a scheduler frame (they carry no stack entry) -/
def Instr.external : Instr → Bool
  | .act _ | .apprun | .catchExit | .quitCb | .mainCheck _ | .restoreRun | .loopCheck | .getDispatch
  | .processSignal _ | .dispatch .. | .catchHandler | .kill _ | .callH .. | .hret _ | .note _
  | .procWait _ | .waitStep .. | .waitCheck .. | .procIter _ | .newLoop _ | .closeLoop | .popLevel
  | .pushModal .. | .closeScreen _ | .processScreen | .printLines _ | .blockingInput .. | .waitInput _
  | .inputReceived _ | .inputReady .. | .processInput .. => true
  | _ => false

/-- what a step does to the code: the head is consumed, a suffix of the rest survives (all of it,
unless an exception unwinds or `_process_screen`/`process_input` return early), `pushed` is put in front -/
def CodeStep (c' : Cfg) (rest pushed : List Instr) : Prop :=
  ∃ suf, c'.code = pushed ++ suf ∧ suf <:+ rest

theorem CodeStep.of_eq {c' : Cfg} {rest pushed : List Instr} (h : c'.code = pushed ++ rest) : CodeStep c' rest pushed :=
  ⟨rest, h, List.suffix_refl _⟩

theorem CodeStep.of_suffix {c' : Cfg} {rest : List Instr} (h : c'.code <:+ rest) : CodeStep c' rest [] :=
  ⟨c'.code, rfl, h⟩

structure Loopish (c' c : Cfg) (rest : List Instr) : Prop where
  frame : SFrame c' c
  code : ∃ pushed, CodeStep c' rest pushed ∧ ∀ i ∈ pushed, i.external = true

theorem Loopish.push {c' c : Cfg} {rest : List Instr} (is : List Instr) (hf : SFrame c' c) (hcode : c'.code = rest)
    (hext : ∀ i ∈ is, i.external = true) : Loopish (push c' is) c rest :=
  ⟨hf.push is, is, .of_eq (congrArg (is ++ ·) hcode), hext⟩

theorem Loopish.next {c' c : Cfg} {rest : List Instr} (hf : SFrame c' c) (hcode : c'.code = rest) : Loopish c' c rest :=
  ⟨hf, [], .of_eq hcode, fun _ h => absurd h List.not_mem_nil⟩

theorem Loopish.suffix {c' c : Cfg} {rest : List Instr} (hf : SFrame c' c) (hcode : c'.code <:+ rest) :
    Loopish c' c rest :=
  ⟨hf, [], .of_suffix hcode, fun _ h => absurd h List.not_mem_nil⟩

theorem Loopish.raised {c1 c : Cfg} {rest : List Instr} (k : Kind) (hf : SFrame c1 c) (hcode : c1.code = rest) :
    Loopish (raised k c1) c rest :=
  .suffix ((SFrame.raised k c1).trans hf) (hcode ▸ raised_code_suffix k c1)

/-- `blockingInput`: the pushed `waitInput` survives unless the request is refused -/
theorem Loopish.suffix_cons {c' c : Cfg} {rest : List Instr} {i : Instr} (hf : SFrame c' c) (hi : i.external = true)
    (h : c'.code <:+ i :: rest) : Loopish c' c rest := by
  rcases List.suffix_cons_iff.1 h with h | h
  · exact ⟨hf, [i], .of_eq h, fun j hj => List.mem_singleton.1 hj ▸ hi⟩
  · exact .suffix hf h

theorem Tr.isLoop_not_sched {t : Tr} (h : t.isLoop = true) : t.isSched = false := by
  cases t <;> first | rfl | cases h

theorem Ev.isLoop_not_cb {e : Ev} (h : e.isLoop = true) : e.isCb = false := by
  cases e <;> first | rfl | cases h

theorem Instr.plain_external {i : Instr} (h : i.plain = true) : i.external = true := by
  cases i <;> first | rfl | cases h

theorem suffix_append_cases {α} {l p s : List α} (h : l <:+ p ++ s) : (∃ p', p' <:+ p ∧ l = p' ++ s) ∨ l <:+ s := by
  induction p with
  | nil => exact .inr h
  | cons a p ih =>
    rcases List.suffix_cons_iff.1 h with rfl | h
    · exact .inl ⟨a :: p, List.suffix_refl _, rfl⟩
    · exact (ih h).imp_left fun ⟨p', hp, e⟩ => ⟨p', hp.trans (List.suffix_cons _ _), e⟩

/-- To the scheduler everything a bookkeeping step is made of is a step that keeps its state and pushes no continuation
of a scheduler frame. When code is abandoned, what was pushed goes first. -/
theorem Loopish.closed (c0 : Cfg) (rest : List Instr) : BookClosed (fun c => Loopish c c0 rest) where
  loop := fun {c} _ _ h => ⟨.trans (c' := c) (.of_view rfl rfl ⟨[], rfl⟩) h.frame, h.code⟩
  event := fun {c} _ t ht h =>
    ⟨.trans (c' := c) (.of_view (by simp [Cfg.sview, Tr.isLoop_not_sched ht]) rfl ⟨[t], rfl⟩) h.frame, h.code⟩
  logged := fun {c} e he h =>
    ⟨.trans (c' := c) ⟨rfl, rfl, rfl, rfl, rfl, rfl, rfl, rfl, by simp [cbLog, Ev.isLoop_not_cb he], rfl, List.suffix_refl _,
      List.suffix_cons _ _⟩ h.frame, h.code⟩
  input := fun {c} _ hA h =>
    ⟨.trans (c' := c) ⟨hA.stack, hA.nextEid, hA.screens, rfl, rfl, rfl, rfl, rfl, rfl, rfl, List.suffix_refl _,
      List.suffix_refl _⟩ h.frame, h.code⟩
  pushed := fun {c} is his h => by
    obtain ⟨pushed, ⟨suf, hcd, hsuf⟩, hext⟩ := h.code
    exact ⟨h.frame.push is, is ++ pushed, ⟨suf, by simp [hcd], hsuf⟩,
      fun i hi => (List.mem_append.1 hi).elim (fun hi => Instr.plain_external (his i hi)) (hext i)⟩
  drop := fun {c} code hs h => by
    refine ⟨.trans (c' := c) (.of_view rfl rfl ⟨[], rfl⟩) h.frame, ?_⟩
    obtain ⟨pushed, ⟨suf, hcd, hsuf⟩, hext⟩ := h.code
    rcases suffix_append_cases (hcd ▸ hs) with ⟨p', hp, e⟩ | hs'
    · exact ⟨p', ⟨suf, e, hsuf⟩, fun i hi => hext i (hp.subset hi)⟩
    · exact ⟨[], .of_suffix (hs'.trans hsuf), fun _ h => nomatch h⟩

theorem go_external (scr : Nat) (evs : List OutEv) (cur : List Str) (acc : List Instr)
    (h : ∀ i ∈ acc, i.external = true) : ∀ i ∈ step.go scr evs cur acc, i.external = true := by
  have snoc {acc : List Instr} {x : Instr} (h : ∀ i ∈ acc, i.external = true) (hx : x.external = true) :
      ∀ i ∈ acc ++ [x], i.external = true :=
    fun i hi => (List.mem_append.1 hi).elim (h i) fun hi => List.mem_singleton.1 hi ▸ hx
  induction evs generalizing cur acc with
  | nil =>
    simp only [step.go]
    split
    · exact h
    · exact snoc h rfl
  | cons ev evs ih =>
    cases ev with
    | line l => simp only [step.go]; exact ih _ _ h
    | ask =>
      simp only [step.go]
      refine ih _ _ (snoc ?_ rfl)
      split
      · exact h
      · exact snoc h rfl

theorem sOutCfg_eq_final : sOutCfg = final := by funext r; cases r <;> rfl

/-- The loop instructions that are no bookkeeping to every view (`kill`, `printLines`, `blockingInput` write to the
console, `printWidget` pushes `printLines`) are gone through here. -/
theorem step_loopish (P : Prog) (c : Cfg) (ins : Instr) (rest : List Instr) (hc : c.code = ins :: rest)
    (hl : ins.loopish = true) : Loopish (sOutCfg (step P c)) c rest := by
  have h0 : SFrame { c with code := rest } c := .of_view rfl rfl ⟨[], rfl⟩
  cases hb : ins.bookkeeping
  · suffices h : Loopish (sOutCfg (step P c)) { c with code := rest } rest from ⟨h.frame.trans h0, h.code⟩
    cases ins
    case act a => cases a <;> first | (cases hl; done) | cases hb
    all_goals first | (cases hl; done) | (cases hb; done) | simp only [step, hc]
    case kill => exact .raised _ (.of_view rfl rfl ⟨[_], rfl⟩) rfl
    case printWidget scr =>
      split
      · exact .raised _ (.refl _) rfl
      · split
        · exact .next (.refl _) rfl
        · exact .push _ (.refl _) rfl (go_external _ _ _ _ fun _ h => absurd h List.not_mem_nil)
    case printLines => exact .next (.of_view rfl rfl ⟨[], rfl⟩) rfl
    case blockingInput scr cont =>
      exact .suffix_cons ((SFrame.startRequest _ _ _ _).trans (.of_view rfl rfl ⟨[], rfl⟩)) rfl
        (startRequest_code_suffix _ _ _ _)
  · exact sOutCfg_eq_final ▸ step_bookkeeping (Loopish.closed c rest) P c ins rest hc hb (.next h0 rfl)

end Simpleline
