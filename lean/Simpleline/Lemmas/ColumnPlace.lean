/-
  The placement statements for a `ColumnWidget` object (C15b): what `drawAll` says of `colPieces`, read through the
  accessors `widgetGrid`, `widgetTop`, `colStart` of `ColW`; and `colStartsFrom_rec`: the starts of the
  columns obey the `col_pos` recurrence of the source, read off the buffer drawn so far.
-/
import Simpleline.Lemmas.ColumnRender

namespace Simpleline

theorem colGrids_length (cols : List (Option Nat × List Wd)) : (colGrids cols).length = cols.length :=
  List.length_map _

theorem colGrids_getD (cols : List (Option Nat × List Wd)) (k : Nat) (hk : k < cols.length) :
    (colGrids cols).getD k (none, []) = (cols[k].1, cols[k].2.map Wd.lines) := by
  rw [getD_eq_getElem _ _ (by rw [colGrids_length]; exact hk)]
  exact List.getElem_map _

theorem ColW.render_lines (cc : CharClass) (c r : ColW) (w : Int) (h : c.render cc w = .ok r) :
    r.lines = drawCols r.spacing [] 0 r.grids := by
  obtain ⟨st, cols', h1, rfl⟩ := ColW.render_ok h
  exact (renderColumnsFrom_shape cc _ _ _ _ _ _ _ h1).2.1

theorem cols_widget_exists {cols : List (Option Nat × List Grid)} {k j a b : Nat} {ch : Char}
    (hc : cell (((cols.getD k (none, [])).2).getD j []) a b = some ch) :
    k < cols.length ∧ j < (cols.getD k (none, [])).2.length := by
  have hj : j < (cols.getD k (none, [])).2.length := Nat.lt_of_not_le fun hle => by
    rw [getD_eq_default _ _ hle] at hc; cases hc
  refine ⟨Nat.lt_of_not_le fun hle => ?_, hj⟩
  rw [getD_eq_default cols _ hle] at hj
  cases hj

theorem ColW.places (r : ColW) (hl : r.lines = drawCols r.spacing [] 0 r.grids) (k j a b : Nat) (ch : Char)
    (hc : cell (r.widgetGrid k j) a b = some ch) :
    cell r.lines (r.widgetTop k j + a) (r.colStart k + b) = some ch := by
  have ⟨hk, hj⟩ := cols_widget_exists hc
  rw [hl, drawCols_eq, ← Nat.zero_add (r.widgetTop k j)]
  exact drawAll_shown (colPieces_before ..) _ (mem_colPieces _ |>.2 ⟨k, j, hk, hj, rfl⟩) a b ch hc

theorem ColW.origin (r : ColW) (hl : r.lines = drawCols r.spacing [] 0 r.grids) (x y : Nat) (ch : Char)
    (hc : cell r.lines x y = some ch) :
    ch = ' ' ∨ ∃ k j a b, x = r.widgetTop k j + a ∧ y = r.colStart k + b ∧
      cell (r.widgetGrid k j) a b = some ch := by
  rw [hl, drawCols_eq] at hc
  rcases drawAll_origin hc with h | h | ⟨p, hp, a, b, hx, hy, hc⟩
  · cases h
  · exact Or.inl h
  · obtain ⟨k, j, _, _, rfl⟩ := (mem_colPieces _).1 hp
    exact Or.inr ⟨k, j, a, b, hx.trans (congrArg (· + a) (Nat.zero_add _)), hy, hc⟩

theorem gridsHeight_le_colsHeight (cols : List (Option Nat × List Grid)) :
    ∀ k, gridsHeight (cols.getD k (none, [])).2 ≤ colsHeight cols := by
  induction cols with
  | nil => intro k; exact Nat.le_refl _
  | cons c cols ih =>
    intro k
    cases k with
    | zero => exact Nat.le_max_left _ _
    | succ k => exact Nat.le_trans (ih k) (Nat.le_max_right _ _)

theorem ColW.height (r : ColW) (hl : r.lines = drawCols r.spacing [] 0 r.grids) :
    r.lines.length = colsHeight r.grids ∧
      ∀ k j, r.widgetTop k j + (r.widgetGrid k j).length ≤ r.lines.length := by
  have h1 : r.lines.length = colsHeight r.grids := by
    rw [hl, drawCols_length]; exact Nat.max_eq_right (Nat.zero_le _)
  exact ⟨h1, fun k j => h1 ▸ Nat.le_trans (gridsTop_le_height _ j) (gridsHeight_le_colsHeight _ k)⟩

theorem ColW.sep (r : ColW) (k k' j j' : Nat) :
    (k < k' → k' < r.cols.length → r.colStart k + gridWidth (r.widgetGrid k j) ≤ r.colStart k') ∧
    (j < j' → r.widgetTop k j + (r.widgetGrid k j).length ≤ r.widgetTop k j') :=
  ⟨fun hk hk' => colStartsFrom_sep r.spacing r.grids 0 0 k k' j hk ((colGrids_length r.cols).symm ▸ hk'),
   gridsTop_sep _ j j'⟩

theorem ColW.unique (r : ColW) (k j a b k' j' a' b' : Nat) (ch ch' : Char)
    (hc : cell (r.widgetGrid k j) a b = some ch) (hc' : cell (r.widgetGrid k' j') a' b' = some ch')
    (hx : r.widgetTop k j + a = r.widgetTop k' j' + a') (hy : r.colStart k + b = r.colStart k' + b') :
    k = k' ∧ j = j' := by
  have exists_col : ∀ {k j a b ch}, cell (r.widgetGrid k j) a b = some ch → k < r.cols.length :=
    fun hc => colGrids_length r.cols ▸ (cols_widget_exists hc).1
  have ha := (cell_some_lt hc).1
  have ha' := (cell_some_lt hc').1
  have hb := cell_some_lt_width hc
  have hb' := cell_some_lt_width hc'
  -- a cell of a later column lies right of every cell of an earlier one, a lower widget's below
  have hkk : k = k' := by
    apply Nat.le_antisymm <;> apply Nat.le_of_not_lt <;> intro hlt
    · have := (ColW.sep r k' k j' j).1 hlt (exists_col hc); omega
    · have := (ColW.sep r k k' j j').1 hlt (exists_col hc'); omega
  subst hkk
  refine ⟨rfl, ?_⟩
  apply Nat.le_antisymm <;> apply Nat.le_of_not_lt <;> intro hlt
  · have := (ColW.sep r k k j' j).2 hlt; omega
  · have := (ColW.sep r k k j j').2 hlt; omega

theorem colStartsFrom_rec (spacing : Nat) (cols : List (Option Nat × List Grid)) :
    ∀ (B : Grid) (pos k : Nat), k + 1 < cols.length →
      (colStartsFrom spacing (gridWidth B) pos cols).getD (k + 1) 0 =
        max ((colStartsFrom spacing (gridWidth B) pos cols).getD k 0 + (cols.getD k (none, [])).1.getD 0)
          (gridWidth (drawCols spacing B pos (cols.take (k + 1)))) + spacing := by
  induction cols with
  | nil => intro _ _ k hk; cases hk
  | cons c cols ih =>
    intro B pos k hk
    rw [colStartsFrom_cons]
    cases k with
    | zero =>
      cases cols with
      | nil => exact absurd hk (Nat.lt_irrefl _)
      | cons c' cols' => rfl
    | succ k => exact ih (drawStack B 0 pos c.2) _ k (Nat.lt_of_succ_lt_succ hk)

end Simpleline
