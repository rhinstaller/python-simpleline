/-
  A number label is a text rendered at its own length (C13b). When the key pattern has no line break and no
  tab the label has none either (`label_plain`), so it is one row high (`label_render_one_row`, from
  `render_one_row` of `Lemmas/Text.lean`).
-/
import Simpleline.Spec.LayoutOKSpec
import Simpleline.Lemmas.Text
import Simpleline.Lemmas.KeyPattern

namespace Simpleline

variable (cc : CharClass)

theorem digitChar_ne_nl : ∀ d, d < 10 → digitChar d ≠ '\n' := by decide
theorem digitChar_ne_tab : ∀ d, d < 10 → digitChar d ≠ '\t' := by decide

theorem intRepr_ne_nil (z : Int) : intRepr z ≠ [] := by
  unfold intRepr
  split
  · simp
  · exact natDigits_ne_nil _

theorem intRepr_plain (z : Int) : ∀ c ∈ intRepr z, c ≠ '\n' ∧ c ≠ '\t' := by
  have hd : ∀ n, ∀ c ∈ natDigits n, c ≠ '\n' ∧ c ≠ '\t' := by
    intro n c hc
    obtain ⟨d, hd, rfl⟩ := natDigits_mem n c hc
    exact ⟨digitChar_ne_nl d hd, digitChar_ne_tab d hd⟩
  intro c hc
  unfold intRepr at hc
  split at hc
  · simp only [List.mem_cons] at hc
    rcases hc with rfl | hc
    · decide
    · exact hd _ c hc
  · exact hd _ c hc

theorem label_pos (k : KeyPat) (i : Nat) : 1 ≤ (k.label i).length := by
  have := intRepr_ne_nil ((i : Int) + k.offset)
  have : 1 ≤ (intRepr ((i : Int) + k.offset)).length := by
    cases h : intRepr ((i : Int) + k.offset) with
    | nil => exact absurd h this
    | cons _ _ => simp
  simp only [KeyPat.label, List.length_append]
  omega

theorem label_plain (k : KeyPat) (hk : k.Plain) (i : Nat) : ∀ c ∈ k.label i, c ≠ '\n' ∧ c ≠ '\t' := by
  intro c hc
  simp only [KeyPat.label, List.mem_append] at hc
  rcases hc with (hc | hc) | hc
  · exact hk c (by simp [hc])
  · exact intRepr_plain _ c hc
  · exact hk c (by simp [hc])

theorem label_render_one_row (k : KeyPat) (hk : k.Plain) (i : Nat) (s : WSt)
    (h : renderTextSt cc {} (k.label i) (k.label i).length = .ok s) : s.buf.length ≤ 1 := by
  have hp := label_plain k hk i
  have hnl : '\n' ∉ k.label i := fun hm => (hp _ hm).1 rfl
  have htab : '\t' ∉ k.label i := fun hm => (hp _ hm).2 rfl
  exact render_one_row cc {} (k.label i) (k.label i).length (label_pos k i) hnl
    (by rw [munge_length_no_tab _ htab]; exact Nat.le_refl _) s h

end Simpleline
