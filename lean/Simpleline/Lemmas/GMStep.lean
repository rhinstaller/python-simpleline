/-
  GLib machine: what one step does (`StepFacts`): where handler calls, batch collections and dispatch starts in the trace and
  the instructions `callH`, `gCall`, `gDisp`, `quitCb` in the pending code come from (the number of pending `quitCb` / `apprun`
  never grows), what happens to the ticket lines, the force-quit flag, the quit-callback registration and the quit-callback
  events of the log.  The lemmas `facts_*` give `StepFacts` for the usual shapes of a step's result.
-/
import Simpleline.Lemmas.GMFrame

namespace Simpleline.G

/-- every instruction but the handler-call / batch instructions, `apprun` and `quitCb` -/
def Instr.boring : Instr → Bool
  | .callH .. => false
  | .gCall .. => false
  | .gDisp .. => false
  | .apprun => false
  | .quitCb => false
  | _ => true

/-- the quit-callback instruction and `apprun` (which pushes it) -/
def qa : Instr → Bool
  | .quitCb => true
  | .apprun => true
  | _ => false

/-- how a non-boring instruction gets into the pending code: pushed by the instruction at the head of `c` -/
def PushedOK (c c' : Cfg) : Instr → Prop
  | .callH h d s => (∃ k, c.code.head? = some (.gCall s .live k) ∧ (handlersOf c.L s.cls)[k]? = some (h, d) ∧
        c'.code = .callH h d s :: .gCall s .live (k + 1) :: c.code.tail) ∧ (s.cls, h, d) ∈ c.L.handlers ∧ c.L.forceQuit = false
  | .gCall s hs k => (∃ k0, c.code.head? = some (.gCall s hs k0) ∧ k = k0 + 1) ∨
      (∃ q g, c.code.head? = some (.runH q g) ∧ g.sig = s ∧ g.hs = hs ∧ c.L.forceQuit = false ∧ k = 0)
  | .quitCb => c.code.head? = some .apprun
  | .gDisp q e g => (∃ mode, c.code.head? = some (.gIter q mode)) ∧ ∃ p att batch, Tr.iter q e p att batch ∈ c'.tr ∧ g ∈ batch
  | _ => False

theorem TicketOK.procWait {c : Cfg} {cls : Cls} (h : c.code.head? = some (.procWait cls)) :
    TicketOK c (c.L.tickets ++ [({ line := cls, id := c.L.tcounter, marked := false } : Ticket)]) := by
  simp only [TicketOK, h]

theorem TicketOK.gWait {c : Cfg} {cls : Cls} {t q : Nat} (h : c.code.head? = some (.gWait cls t q)) :
    TicketOK c (c.L.tickets.filter fun k => ¬ (k.line = cls ∧ k.id = t)) := by
  simp only [TicketOK, h]

theorem TicketOK.endRun {c : Cfg} {q : Nat} {g : GSource} (h : c.code.head? = some (.endRun q g)) :
    TicketOK c (mark c.L.tickets g.sig.cls) := by
  simp only [TicketOK, h]

/-- What a step from `c` to `c'` does to what the invariants of GMInv and GMfInv read; it holds of every step
(`step_facts`, GMStepAll). -/
structure StepFacts (c c' : Cfg) : Prop where
  cnt : c'.code.countP qa ≤ c.code.countP qa
  qcb : c'.L.quitCb = c.L.quitCb
  logq : c.code.head? ≠ some .quitCb → c'.log.filter isQ = c.log.filter isQ
  tickets : c'.L.tickets = c.L.tickets ∨ TicketOK c c'.L.tickets
  tr : ∃ new, c'.tr = new ++ c.tr ∧ ∀ t ∈ new, t.quiet = false → LoudOK c t
  handlers : c.L.handlers <+: c'.L.handlers
  code : ∀ i ∈ c'.code, i.boring = false → i ∈ c.code.tail ∨ PushedOK c c' i
  fq : c.L.forceQuit = true → c.code.head? ≠ some .apprun → c'.L.forceQuit = true
  fqSet : c.L.forceQuit = false → c'.L.forceQuit = true → c.code.head? = some (.act .forceQuit)

@[simp] theorem rcfg_ok (c : Cfg) : rcfg (.ok c) = c := rfl
@[simp] theorem rcfg_error (o : Outcome) (c : Cfg) : rcfg (.error (o, c)) = c := rfl
@[simp] theorem rcfg_pure (c : Cfg) : rcfg (pure c) = c := rfl

/-- `X` is reached from `c0` by helper effects and loud events that the head instruction of `c0` justifies -/
structure KeepL (c0 X : Cfg) : Prop where
  handlers : c0.L.handlers <+: X.L.handlers
  fq : X.L.forceQuit = c0.L.forceQuit
  tickets : X.L.tickets = c0.L.tickets ∨ TicketOK c0 X.L.tickets
  qcb : X.L.quitCb = c0.L.quitCb
  logq : c0.code.head? ≠ some .quitCb → X.log.filter isQ = c0.log.filter isQ
  tr : ∃ new, X.tr = new ++ c0.tr ∧ ∀ t ∈ new, t.quiet = false → LoudOK c0 t

theorem Keep.toL {c0 X : Cfg} (h : Keep c0 X) : KeepL c0 X := by
  obtain ⟨new, e, hq⟩ := h.tr
  exact ⟨h.handlers, h.fq, Or.inl h.tickets, h.qcb, fun _ => h.logq, new, e, fun t ht hl => by rw [hq t ht] at hl; cases hl⟩

theorem KeepL.trans {c0 X Y : Cfg} (h1 : KeepL c0 X) (h2 : Keep X Y) : KeepL c0 Y := by
  obtain ⟨n1, e1, q1⟩ := h1.tr
  obtain ⟨n2, e2, q2⟩ := h2.tr
  refine ⟨h1.handlers.trans h2.handlers, h2.fq.trans h1.fq, by rw [h2.tickets]; exact h1.tickets, h2.qcb.trans h1.qcb, fun hh => h2.logq.trans (h1.logq hh), n2 ++ n1, by simp [e2, e1], ?_⟩
  intro t ht hl
  rcases List.mem_append.1 ht with h | h
  · rw [q2 t h] at hl; cases hl
  · exact q1 t h hl

theorem KeepL.setTickets {c0 X : Cfg} (hk : KeepL c0 X) {ts : List Ticket} (h : TicketOK c0 ts) :
    KeepL c0 { X with L := { X.L with tickets := ts } } :=
  { hk with tickets := Or.inr h }

theorem KeepL.gtrace {c0 X : Cfg} (hk : KeepL c0 X) (t : Tr) (hl : t.quiet = false → LoudOK c0 t) : KeepL c0 (X.gtrace t) := by
  obtain ⟨new, e, hq⟩ := hk.tr
  refine { hk with tr := ⟨t :: new, by rw [gtrace_tr, e]; rfl, fun t' ht' => ?_⟩ }
  rcases List.mem_cons.1 ht' with rfl | h
  · exact hl
  · exact hq t' h

theorem KeepL.emit {c0 X : Cfg} (hk : KeepL c0 X) (P : Prog) (e : Ev) (he : isQ e = true → c0.code.head? = some .quitCb) :
    KeepL c0 (X.emit P e) := by
  have hl (hh : c0.code.head? ≠ some .quitCb) : (e :: X.log).filter isQ = c0.log.filter isQ := by
    cases hq : isQ e with
    | true => exact absurd (he hq) hh
    | false => rw [List.filter_cons_of_neg (by simp [hq])]; exact hk.logq hh
  have h0 : KeepL c0 { X with log := e :: X.log } := { hk with logq := hl }
  unfold Cfg.emit
  dsimp only
  split
  · exact h0.trans (deliverD_keep _)
  · exact h0

theorem qa_not_boring {i : Instr} (h : qa i = true) : i.boring = false := by
  unfold qa at h
  split at h
  · rfl
  · rfl
  · cases h

/-- The general form of a step: `X` is reached from `c0` by helper effects and loud events its head justifies; every pushed
instruction that is not boring is justified by the head of `c0` and is neither `quitCb` nor `apprun`. -/
theorem facts_gen {c0 X : Cfg} {ins : Instr} {rest pushed : List Instr} (hc : c0.code = ins :: rest) (hk : KeepL c0 X)
    (hX : X.code.Sublist (pushed ++ rest))
    (hp : ∀ i ∈ pushed, i.boring = false → qa i = false ∧ PushedOK c0 X i) : StepFacts c0 X where
  cnt := by
    have h0 : pushed.countP qa = 0 := List.countP_eq_zero.2 fun i hi hq => by
      rw [(hp i hi (qa_not_boring (by simpa using hq))).1] at hq; cases hq
    have := hX.countP_le (p := qa)
    rw [List.countP_append, h0, Nat.zero_add] at this
    rw [hc, List.countP_cons]
    exact Nat.le_trans this (Nat.le_add_right _ _)
  qcb := hk.qcb
  logq := hk.logq
  tickets := hk.tickets
  tr := hk.tr
  handlers := hk.handlers
  code i hi hb := by
    rcases List.mem_append.1 (hX.subset hi) with h | h
    · exact Or.inr (hp i h hb).2
    · rw [hc]; exact Or.inl h
  fq hf _ := by rw [hk.fq]; exact hf
  fqSet h1 h2 := by rw [hk.fq, h1] at h2; cases h2

theorem facts_pushL {c0 X : Cfg} {ins : Instr} {rest pushed : List Instr} (hc : c0.code = ins :: rest) (hk : KeepL c0 X)
    (hp : ∀ i ∈ pushed, i.boring = true) (hX : X.code <:+ rest := by exact List.suffix_refl _) :
    StepFacts c0 (push X pushed) :=
  facts_gen hc (hk.trans Keep.same) ((List.Sublist.refl pushed).append hX.sublist)
    fun i hi hb => by rw [hp i hi] at hb; cases hb

theorem boring_of_all {l : List Instr} (h : l.all Instr.boring = true) : ∀ i ∈ l, i.boring = true :=
  fun i hi => List.all_eq_true.1 h i hi

theorem facts_push {c0 X : Cfg} {ins : Instr} {rest pushed : List Instr} (hc : c0.code = ins :: rest) (hk : Keep c0 X)
    (hX : X.code <:+ rest := by exact List.suffix_refl _) (hp : pushed.all Instr.boring = true := by rfl) :
    StepFacts c0 (push X pushed) :=
  facts_pushL hc hk.toL (boring_of_all hp) hX

theorem facts_plainL {c0 X : Cfg} {ins : Instr} {rest : List Instr} (hc : c0.code = ins :: rest) (hk : KeepL c0 X)
    (hX : X.code <:+ rest := by exact List.suffix_refl _) : StepFacts c0 X :=
  facts_gen (pushed := []) hc hk hX.sublist fun _ hi => nomatch hi

theorem facts_plain {c0 X : Cfg} {ins : Instr} {rest : List Instr} (hc : c0.code = ins :: rest) (hk : Keep c0 X)
    (hX : X.code <:+ rest := by exact List.suffix_refl _) : StepFacts c0 X :=
  facts_plainL hc hk.toL hX

theorem facts_ite {c0 : Cfg} {p : Prop} [Decidable p] {x y : Except (Outcome × Cfg) Cfg}
    (hx : p → StepFacts c0 (rcfg x)) (hy : ¬ p → StepFacts c0 (rcfg y)) : StepFacts c0 (rcfg (if p then x else y)) := by
  split
  · exact hx ‹_›
  · exact hy ‹_›

theorem facts_good' {c0 c1 : Cfg} {ins : Instr} {rest : List Instr} (hc : c0.code = ins :: rest) {r : Except (Outcome × Cfg) Cfg}
    (hg : Good c1 r) (pre : List Instr) (hpre : ∀ i ∈ pre, i.boring = true) (hk : Keep c0 c1)
    (h1 : c1.code <:+ pre ++ rest := by exact List.suffix_refl _) : StepFacts c0 (rcfg r) :=
  facts_gen hc (hk.trans hg.2).toL (hg.1.trans h1).sublist fun i hi hb => by rw [hpre i hi] at hb; cases hb

theorem facts_good {c0 c1 : Cfg} {ins : Instr} {rest : List Instr} (hc : c0.code = ins :: rest) {r : Except (Outcome × Cfg) Cfg}
    (hg : Good c1 r) (hk : Keep c0 c1) (h1 : c1.code <:+ rest := by exact List.suffix_refl _) : StepFacts c0 (rcfg r) :=
  facts_good' hc hg [] (fun _ hi => nomatch hi) hk h1

theorem facts_bind_push {c0 c1 : Cfg} {ins : Instr} {rest pushed : List Instr} (hc : c0.code = ins :: rest)
    {r : Except (Outcome × Cfg) Cfg} (hg : Good c1 r) (hk : Keep c0 c1) (f : Cfg → Cfg) (hf : ∀ c, (f c).code = c.code ∧ Keep c (f c))
    (h1 : c1.code <:+ rest := by exact List.suffix_refl _) (hp : pushed.all Instr.boring = true := by rfl) :
    StepFacts c0 (rcfg (r >>= fun c => pure (push (f c) pushed))) := by
  cases r with
  | error e => exact facts_good hc hg hk h1
  | ok c2 => exact facts_push hc ((hk.trans hg.2).trans (hf c2).2) (by rw [(hf c2).1]; exact hg.1.trans h1) hp

theorem facts_bind_map {c0 c1 : Cfg} {ins : Instr} {rest : List Instr} (hc : c0.code = ins :: rest) {r : Except (Outcome × Cfg) Cfg}
    (hg : Good c1 r) (hk : Keep c0 c1) (f : Cfg → Cfg) (hf : ∀ c, (f c).code = c.code ∧ Keep c (f c))
    (h1 : c1.code <:+ rest := by exact List.suffix_refl _) :
    StepFacts c0 (rcfg (r >>= fun c => pure (f c))) :=
  facts_bind_push (pushed := []) hc hg hk f hf h1

theorem boring_acts (l : List Act) : ∀ i ∈ l.map Instr.act, i.boring = true := by
  intro i hi
  obtain ⟨a, _, rfl⟩ := List.mem_map.1 hi
  rfl

theorem chunkOut_forall {scr : Nat} (p : Instr → Prop) (h1 : ∀ ls, p (.printLines ls)) (h2 : ∀ b, p (.blockingInput scr b)) :
    ∀ (evs : List OutEv) (cur : List Str) (acc : List Instr), (∀ i ∈ acc, p i) → ∀ i ∈ chunkOut scr evs cur acc, p i := by
  have flush : ∀ (cur : List Str) (acc : List Instr), (∀ i ∈ acc, p i) →
      ∀ i ∈ (if cur = [] then acc else acc ++ [.printLines cur]), p i := by
    intro cur acc h i hi
    split at hi
    · exact h i hi
    · rcases List.mem_append.1 hi with hi | hi
      · exact h i hi
      · rw [List.mem_singleton.1 hi]; exact h1 cur
  intro evs
  induction evs with
  | nil => intro cur acc h; unfold chunkOut; exact flush cur acc h
  | cons e r ih =>
    intro cur acc h
    cases e with
    | line l => unfold chunkOut; exact ih _ _ h
    | ask =>
      unfold chunkOut
      refine ih _ _ fun i hi => ?_
      rcases List.mem_append.1 hi with hi | hi
      · exact flush cur acc h i hi
      · rw [List.mem_singleton.1 hi]; exact h2 true

theorem foldlM_good (f : Cfg → Nat → Except (Outcome × Cfg) Cfg) (hf : ∀ c t, Good c (f c t)) :
    ∀ (l : List Nat) (c : Cfg), Good c (l.foldlM f c)
  | [], c => Good.ok c c (List.suffix_refl _) (Keep.refl c)
  | t :: l, c => by
    rw [List.foldlM_cons]
    exact (hf c t).bind (fun c1 => foldlM_good f hf l c1)

theorem doAct_facts {c0 : Cfg} {a : Act} {rest : List Instr} (hc : c0.code = .act a :: rest) :
    StepFacts c0 (rcfg (doAct { c0 with code := rest } a)) := by
  have k0 : Keep c0 { c0 with code := rest } := Keep.same
  cases a with
  | enq cls prio src sid => exact facts_good hc (enqueue_good _ _) k0
  | regSource src => exact facts_good hc (regSource_good _ _) k0
  | newLoop cls prio sid => exact facts_push hc k0
  | closeLoop => exact facts_push hc k0
  | proc cls =>
    cases cls with
    | none => exact facts_push hc k0
    | some cls => exact facts_push hc k0
  | forceQuit =>
    exact {
      cnt := by rw [hc, List.countP_cons]; exact Nat.le_add_right (rest.countP qa) _
      qcb := rfl, logq := fun _ => rfl, tickets := Or.inl rfl, handlers := List.prefix_refl _
      tr := ⟨[_], rfl, by simp [Tr.quiet]⟩
      code := fun i hi _ => Or.inl (by rw [hc]; exact hi)
      fq := fun _ _ => rfl, fqSet := fun _ _ => by rw [hc]; rfl }
  | raiseExit => exact facts_good hc (raise_good _ _) k0
  | raiseErr => exact facts_good hc (raise_good _ _) k0
  | schedule scr args =>
    exact facts_ite (fun _ => facts_plain hc Keep.ev) fun _ => facts_bind_map hc (redraw_good _) Keep.ev
      (fun c => { c with A := { c.A with firstScheduled := true } }) (fun c => ⟨rfl, Keep.same⟩)
  | push scr args => exact facts_good hc (redraw_good _) Keep.ev
  | pushModal scr args => exact facts_push hc k0
  | replace scr args =>
    simp only [doAct]
    split
    · exact facts_good hc (raise_good _ _) k0
    · exact facts_good hc (redraw_good _) Keep.ev
  | closeDirect => exact facts_push hc k0
  | closeSig scr => exact facts_good hc (enqueue_good _ _) Keep.same
  | redrawSig scr => exact facts_good hc (enqueue_good _ _) Keep.same
  | schedRedraw => exact facts_good hc (redraw_good _) k0
  | getUserInput scr hidden => exact facts_push hc k0

end Simpleline.G
