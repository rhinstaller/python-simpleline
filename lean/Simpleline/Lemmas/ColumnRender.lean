/-
  `ColumnWidget.render` does not read the objects' state, keeps the contents (C16b), and is the drawing
  `drawCols` of the rendered widgets (C15b).
-/
import Simpleline.Lemmas.Widgets
import Simpleline.Lemmas.ColumnGrid

namespace Simpleline

/-! ### rendering does not read the object state -/

theorem renderColItems_reset (cc : CharClass) (mw : Int) : ∀ (items : List Wd) (st : WSt),
    renderColItems cc mw st items = renderColItems cc mw st (resetList items)
  | [], _ => by simp only [resetList]
  | it :: its, st => by
    have ih1 := render_reset cc it mw
    have ih2 := renderColItems_reset cc mw its
    simp only [renderColItems, resetList, ← ih1, ← ih2]

/-- the contents of the columns: widths and the widgets' contents -/
def resetCols (cols : List (Option Nat × List Wd)) : List (Option Nat × List Wd) :=
  cols.map fun p => (p.1, resetList p.2)

theorem renderColumnsFrom_reset (cc : CharClass) (spacing : Nat) (width : Int) :
    ∀ (cols : List (Option Nat × List Wd)) (st : WSt) (pos : Nat),
      renderColumnsFrom cc spacing width st pos cols =
        renderColumnsFrom cc spacing width st pos (resetCols cols)
  | [], _, _ => by simp only [resetCols, List.map_nil]
  | (cw, items) :: rest, st, pos => by
    have ih1 := renderColItems_reset cc
    have ih2 := renderColumnsFrom_reset cc spacing width rest
    simp only [resetCols] at ih2 ⊢
    simp only [renderColumnsFrom, List.map_cons, ← ih1, ← ih2]

theorem ColW.reset_cols (c : ColW) : c.reset.cols = resetCols c.cols := rfl

theorem ColW.render_reset (cc : CharClass) (c : ColW) (w : Int) : c.render cc w = c.reset.render cc w := by
  simp only [ColW.render, ColW.reset_cols, ← renderColumnsFrom_reset]
  rfl

/-! ### inversion of successful renders -/

theorem renderColItems_cons_ok {cc : CharClass} {mw : Int} {st st' : WSt} {it : Wd} {its items' : List Wd}
    (h : renderColItems cc mw st (it :: its) = .ok (st', items')) :
    ∃ it' its', it.render cc mw = .ok it' ∧
      renderColItems cc mw (st.draw it'.lines true) its = .ok (st', its') ∧ items' = it' :: its' := by
  simp only [renderColItems, bind_ok_iff, pure_ok_iff, Prod.mk.injEq] at h
  obtain ⟨it', h1, ⟨st'', its'⟩, h2, rfl, rfl⟩ := h
  exact ⟨it', its', h1, h2, rfl⟩

theorem renderColumnsFrom_cons_ok {cc : CharClass} {spacing : Nat} {width : Int} {st st' : WSt} {pos : Nat}
    {cw : Option Nat} {items : List Wd} {rest cols' : List (Option Nat × List Wd)}
    (h : renderColumnsFrom cc spacing width st pos ((cw, items) :: rest) = .ok (st', cols')) :
    ∃ st1 items' rest',
      renderColItems cc (colMaxW cw width pos) { st with cur := (0, pos) } items = .ok (st1, items') ∧
      renderColumnsFrom cc spacing width st1 (max (pos + cw.getD 0) (gridWidth st1.buf) + spacing) rest =
        .ok (st', rest') ∧
      cols' = (cw, items') :: rest' := by
  simp only [renderColumnsFrom, bind_ok_iff, pure_ok_iff, Prod.mk.injEq] at h
  obtain ⟨⟨st1, items'⟩, h1, ⟨st2, rest'⟩, h2, rfl, rfl⟩ := h
  exact ⟨st1, items', rest', h1, h2, rfl⟩

theorem ColW.render_ok {cc : CharClass} {c r : ColW} {w : Int} (h : c.render cc w = .ok r) :
    ∃ st cols', renderColumnsFrom cc c.spacing w {} 0 c.cols = .ok (st, cols') ∧
      r = { st := st, spacing := c.spacing, cols := cols' } := by
  simp only [ColW.render, bind_ok_iff, pure_ok_iff] at h
  obtain ⟨⟨st, cols'⟩, h1, rfl⟩ := h
  exact ⟨st, cols', h1, rfl⟩

/-! ### rendering keeps the contents -/

theorem renderColItems_keeps (cc : CharClass) (mw : Int) : ∀ (items items' : List Wd) (st st' : WSt),
    renderColItems cc mw st items = .ok (st', items') → resetList items' = resetList items
  | [], _, _, _, h => by
    simp only [renderColItems, pure_ok_iff, Prod.mk.injEq] at h
    rw [h.2]
  | it :: its, items', st, st', h => by
    obtain ⟨it', its', h1, h2, rfl⟩ := renderColItems_cons_ok h
    have ih1 := render_keeps cc it it' mw h1
    have ih2 := renderColItems_keeps cc mw its its' _ _ h2
    simp only [resetList, ih1, ih2]

theorem renderColumnsFrom_keeps (cc : CharClass) (spacing : Nat) (width : Int) :
    ∀ (cols cols' : List (Option Nat × List Wd)) (st st' : WSt) (pos : Nat),
      renderColumnsFrom cc spacing width st pos cols = .ok (st', cols') → resetCols cols' = resetCols cols
  | [], _, _, _, _, h => by
    simp only [renderColumnsFrom, pure_ok_iff, Prod.mk.injEq] at h
    rw [h.2]
  | (cw, items) :: rest, cols', st, st', pos, h => by
    obtain ⟨st1, items', rest', h1, h2, rfl⟩ := renderColumnsFrom_cons_ok h
    have ih1 := renderColItems_keeps cc _ items items' _ _ h1
    have ih2 := renderColumnsFrom_keeps cc spacing width rest rest' _ _ _ h2
    simp only [resetCols] at ih2 ⊢
    simp only [List.map_cons, ih1, ih2]

theorem ColW.render_congr_reset (cc : CharClass) {c d : ColW} (w : Int) (h : c.reset = d.reset) :
    c.render cc w = d.render cc w := by
  rw [ColW.render_reset cc c, ColW.render_reset cc d, h]

/-! ### a successful render is the drawing of the rendered widgets -/

def ItemsRendered (cc : CharClass) (mw : Int) (its its' : List Wd) : Prop :=
  its'.length = its.length ∧
    ∀ j, (hj : j < its.length) → (hj' : j < its'.length) → its[j].render cc mw = .ok its'[j]

theorem renderColItems_shape (cc : CharClass) (mw : Int) : ∀ (items items' : List Wd) (st st' : WSt),
    renderColItems cc mw st items = .ok (st', items') →
      ItemsRendered cc mw items items' ∧
      st'.buf = drawStack st.buf st.cur.1 st.cur.2 (items'.map Wd.lines)
  | [], _, _, _, h => by
    simp only [renderColItems, pure_ok_iff, Prod.mk.injEq] at h
    obtain ⟨rfl, rfl⟩ := h
    exact ⟨⟨rfl, fun j hj => by simp at hj⟩, rfl⟩
  | it :: its, items', st, st', h => by
    obtain ⟨it', its', h1, h2, rfl⟩ := renderColItems_cons_ok h
    obtain ⟨⟨hl, hr⟩, hb⟩ := renderColItems_shape cc mw its its' _ _ h2
    refine ⟨⟨by simp [hl], ?_⟩, ?_⟩
    · intro j hj hj'
      cases j with
      | zero => simpa using h1
      | succ j => simpa using hr j (by simpa using hj) (by simpa using hj')
    · rw [hb]
      rfl

theorem renderColumnsFrom_shape (cc : CharClass) (spacing : Nat) (width : Int) :
    ∀ (cols cols' : List (Option Nat × List Wd)) (st st' : WSt) (pos : Nat),
      renderColumnsFrom cc spacing width st pos cols = .ok (st', cols') →
        cols'.length = cols.length ∧
        st'.buf = drawCols spacing st.buf pos (colGrids cols') ∧
        ∀ k, (hk : k < cols.length) → (hk' : k < cols'.length) →
          cols'[k].1 = cols[k].1 ∧
          ItemsRendered cc
            (colMaxW cols[k].1 width ((colStartsFrom spacing (gridWidth st.buf) pos (colGrids cols')).getD k 0))
            cols[k].2 cols'[k].2
  | [], _, _, _, _, h => by
    simp only [renderColumnsFrom, pure_ok_iff, Prod.mk.injEq] at h
    obtain ⟨rfl, rfl⟩ := h
    exact ⟨rfl, rfl, fun k hk => by simp at hk⟩
  | (cw, items) :: rest, cols', st, st', pos, h => by
    obtain ⟨st1, items', rest', h1, h2, rfl⟩ := renderColumnsFrom_cons_ok h
    obtain ⟨hir, hb1⟩ := renderColItems_shape cc _ items items' _ _ h1
    obtain ⟨hl, hb2, hr⟩ := renderColumnsFrom_shape cc spacing width rest rest' _ _ _ h2
    simp only at hb1
    refine ⟨by simp [hl], ?_, ?_⟩
    · rw [hb2, hb1]
      rfl
    · intro k hk hk'
      cases k with
      | zero => exact ⟨rfl, by simpa [colGrids, colStartsFrom] using hir⟩
      | succ k =>
        have := hr k (by simpa using hk) (by simpa using hk')
        rw [hb1, gridWidth_drawStack] at this
        simpa only [colGrids, List.map_cons, colStartsFrom, List.getD_cons_succ, List.getElem_cons_succ]
          using this

end Simpleline
