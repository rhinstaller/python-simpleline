/-
  When a computation in `Except` written in `do` notation succeeds: the three facts by which the
  proofs about `render` take a successful run apart, step by step.
-/
namespace Simpleline

theorem bind_ok_iff {ε α β} (x : Except ε α) (f : α → Except ε β) (b : β) :
    (x >>= f) = .ok b ↔ ∃ a, x = .ok a ∧ f a = .ok b := by
  cases x <;> simp [bind, Except.bind]

theorem pure_ok_iff {ε α} (a b : α) : (pure a : Except ε α) = .ok b ↔ a = b := by
  simp [pure, Except.pure]

theorem throw_ok_iff {ε α} (e : ε) (b : α) : (throw e : Except ε α) = .ok b ↔ False := by
  simp [throw, throwThe, MonadExceptOf.throw]

end Simpleline
