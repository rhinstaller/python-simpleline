import Simpleline.Lemmas.DispatchSoft

/-
  The instructions outside the loop core (scheduler, input pipeline, user actions) change the configuration only
  softly: `step_other`, the walk `step_app` (`MachineClosed`) through these instructions at the instance `Soft.closed`.
-/

namespace Simpleline.Dispatch
open Simpleline

def OtherRes (r : Except (Outcome × Cfg) Cfg) (rest : List Instr) (c : Cfg) : Prop :=
  ∃ m, Soft rest c m ∧ (r = .ok m ∨ (∃ k, k ≠ Kind.sysexit ∧ r = m.raise k) ∨ r = .error (.livelock, m))

theorem OtherRes.livelock {rest : List Instr} {c m : Cfg} (h : Soft rest c m) : OtherRes (.error (.livelock, m)) rest c :=
  AppRes.livelock h

theorem step_other {P : Prog} {c : Cfg} {ins : Instr} {rest : List Instr} (hc : c.code = ins :: rest)
    (ho : otherI ins = true) : OtherRes (step P c) rest c :=
  step_app (Soft.closed c rest) P hc ho

end Simpleline.Dispatch
