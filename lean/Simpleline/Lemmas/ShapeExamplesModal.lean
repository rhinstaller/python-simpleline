/-
  Concrete screen-level programs for the kernel-checked examples / counterexamples of C05.
  Three screens that need no input; screen 0 is scheduled before `run()`; its first `show()` pushes
  screen 1 as a modal screen.
-/
import Simpleline.Lemmas.ShapeExamples

namespace Simpleline

namespace ShapeEx

open Shape

def screens3 : List ScreenSpec := [{ inputRequired := false }, { inputRequired := false }, { inputRequired := false }]

def startS : Cfg := initCfg [.schedule 0 none] [] none []

/-- the same with an application handler for `ExceptionSignal` registered (so that the application
survives an exception) -/
def startSX : Cfg := initCfg [.schedule 0 none] [(.exception, .exc, none)] none []

theorem startedS : Started startS := ⟨_, _, _, _, rfl⟩
theorem startedSX : Started startSX := ⟨_, _, _, _, rfl⟩

theorem init_sched0 (handlers : List (Cls × HRef × Option Nat)) (stdin : List Str) :
    InitScreenOnly (initCfg [.schedule 0 none] handlers none stdin) := by
  intro a ha
  have : Instr.act a ∈ [Instr.act (.schedule 0 none), Instr.apprun] := ha
  simp at this; subst this; rfl

theorem initS : InitScreenOnly startS := init_sched0 _ _
theorem initSX : InitScreenOnly startSX := init_sched0 _ _

/-- a well-behaved modal dialog: screen 1 closes itself from its first `show()` -/
def scriptModal : Nat → Cb → Nat → ScriptEnt
  | 0, .show, 0 => { acts := [.pushModal 1 none] }
  | 1, .show, 0 => { acts := [.closeDirect] }
  | _, _, _ => {}

def progModal : Prog := { cc := asciiClass, screens := screens3, screenScript := scriptModal }

/-- **K2**: the modal screen asks for a redraw and then closes itself: the render signal is pending in
the modal level when `close_loop` is called -/
def scriptK2 : Nat → Cb → Nat → ScriptEnt
  | 0, .show, 0 => { acts := [.pushModal 1 none] }
  | 1, .show, 0 => { acts := [.schedRedraw, .closeDirect] }
  | _, _, _ => {}

def progK2 : Prog := { cc := asciiClass, screens := screens3, screenScript := scriptK2 }

/-- **K3** (K6 in DESIGN.md): the modal screen 1 asks to be closed (its own `CloseScreenSignal`) and for a
redraw; `close_screen` pops it and calls its `closed()`, which raises an ordinary exception: the rest of
`close_screen` — `close_loop` — is skipped.  (A `CloseScreenSignal` of *another* screen dispatched while the
modal screen is on top does not do this: `close_screen` checks `closed_from` before it pops, fix F11,
`C04_refused_close_keeps_stack`; see `scriptRefused`.) -/
def scriptK3 : Nat → Cb → Nat → ScriptEnt
  | 0, .show, 0 => { acts := [.pushModal 1 none] }
  | 1, .show, 0 => { acts := [.closeSig 1, .schedRedraw] }
  | 1, .closed, 0 => { acts := [.raiseErr] }
  | _, _, _ => {}

def progK3 : Prog := { cc := asciiClass, screens := screens3, screenScript := scriptK3 }

/-- while the modal screen 1 is on top, a `CloseScreenSignal` of another screen (2) is dispatched (and a redraw
requested): `close_screen` refuses the request (`RenderUnexpectedError`) with screen 1 still on the stack
(fix F11; before it, screen 1 was popped first and its loop left open) -/
def scriptRefused : Nat → Cb → Nat → ScriptEnt
  | 0, .show, 0 => { acts := [.pushModal 1 none] }
  | 1, .show, 0 => { acts := [.closeSig 2, .schedRedraw] }
  | _, _, _ => {}

def progRefused : Prog := { cc := asciiClass, screens := screens3, screenScript := scriptRefused }

theorem screenOnly_of (screens : List ScreenSpec) (f : Nat → Cb → Nat → ScriptEnt)
    (hf : ∀ scr cb n, (f scr cb n).acts.all Act.screenLevel = true) :
    ScreenOnly { cc := asciiClass, screens := screens, screenScript := f } :=
  ⟨fun _ _ _ ha => (nomatch ha), fun scr cb n => List.all_eq_true.1 (hf scr cb n)⟩

theorem progModal_screenOnly : ScreenOnly progModal :=
  screenOnly_of _ _ fun scr cb n => by unfold scriptModal; split <;> rfl

theorem progK2_screenOnly : ScreenOnly progK2 :=
  screenOnly_of _ _ fun scr cb n => by unfold scriptK2; split <;> rfl

theorem progK3_screenOnly : ScreenOnly progK3 :=
  screenOnly_of _ _ fun scr cb n => by unfold scriptK3; split <;> rfl

theorem progRefused_screenOnly : ScreenOnly progRefused :=
  screenOnly_of _ _ fun scr cb n => by unfold scriptRefused; split <;> rfl

theorem progRefused_closedSilent : ClosedSilent progRefused := by
  intro scr n
  show (scriptRefused scr .closed n).acts = []
  unfold scriptRefused; split <;> first | rfl | (rename_i h; cases h)

theorem progModal_closedSilent : ClosedSilent progModal := by
  intro scr n
  show (scriptModal scr .closed n).acts = []
  unfold scriptModal; split <;> first | rfl | (rename_i h; cases h)

theorem progK2_closedSilent : ClosedSilent progK2 := by
  intro scr n
  show (scriptK2 scr .closed n).acts = []
  unfold scriptK2; split <;> first | rfl | (rename_i h; cases h)

theorem progK3_closedNoApi : ClosedNoApi progK3 := by
  intro scr n a ha
  have ha' : a ∈ (scriptK3 scr .closed n).acts := ha
  unfold scriptK3 at ha'
  split at ha' <;> simp at ha'
  all_goals first | exact ha' | (rename_i h; cases h)

def entry0 : Entry := { eid := 0, screen := 0, args := none, modal := false }
def entry1 : Entry := { eid := 1, screen := 1, args := none, modal := true }

/-- in `progModal`, transition 36 draws the modal screen inside its nested loop (two levels, one modal
entry, history well-formed and quiet) -/
theorem modal_show_check :
    testTrans progModal 36 startS (fun c c' =>
      decide (Tr.show entry1 ∈ newTr c c') && decide (NoErr c) && decide (WFQuietDrain c) && decide (WFClose c) &&
      decide (c.L.levels.length = 2) && decide (c.A.stack = [entry0, entry1])) = true := by
  decide +kernel

/-- in `progModal`, transition 57 is the return of `push_screen_modal` -/
theorem modal_end_check :
    testTrans progModal 57 startS (fun c c' =>
      decide (Tr.modalEnd entry1 ∈ newTr c c') && decide (WFClose c) && decide (NoForceQuit c)) = true := by
  decide +kernel

/-- in `progK2`, transition 55 draws the parent (entry 0) while the modal level is still open: one level
too many for the stack; everything but the quiet hypotheses holds -/
theorem k2_check :
    testTrans progK2 55 startS (fun c c' =>
      decide (Tr.show entry0 ∈ newTr c c') && decide (NoErr c) && decide (WFClose c) && decide (WFDrain c) &&
      !decide (WFQuiet c) && !decide (WFQuietDrain c) &&
      decide (c.A.stack = [entry0]) && decide (c.L.levels.length = 2)) = true := by
  decide +kernel

/-- in `progK3`, transition 73 draws the parent while the modal level is still open, after the exception
raised by the modal screen's `closed()`; nothing is pending, the history is quiet and well-formed but not
exception-free -/
theorem k3_check :
    testTrans progK3 73 startSX (fun c c' =>
      decide (Tr.show entry0 ∈ newTr c c') && !decide (NoErr c) && decide (WFClose c) && decide (WFDrain c) &&
      decide (WFQuiet c) && decide (WFQuietDrain c) &&
      decide (c.A.stack = [entry0]) && decide (c.L.levels.length = 2) &&
      decide (pendOpens c.code = 0) && decide (pendCloses c.code = 0) && !decide c.Over &&
      !c.L.forceQuit) = true := by
  decide +kernel

/-- in `progRefused`, transition 71 draws the modal screen again, inside its nested loop, after the
refused close request (`RenderUnexpectedError`, handled by the application): the history is not
exception-free, and the modal structure is intact -/
theorem refused_check :
    testTrans progRefused 71 startSX (fun c c' =>
      decide (Tr.show entry1 ∈ newTr c c') && !decide (NoErr c) && decide (WFQuietDrain c) && decide (WFClose c) &&
      decide (c.L.levels.length = 2) && decide (c.A.stack = [entry0, entry1])) = true := by
  decide +kernel

/-! ### the reader-thread race: quiet at call time, not at drain time -/

def screensRace : List ScreenSpec := [{ inputRequired := false }, { inputRequired := true }, { inputRequired := false }]

/-- the modal screen 1 asks for input (a reader thread is started) and is closed by its own
`CloseScreenSignal` before the user has typed anything; its `input()` answers `REDRAW` -/
def scriptRace : Nat → Cb → Nat → ScriptEnt
  | 0, .show, 0 => { acts := [.pushModal 1 none] }
  | 1, .show, 0 => { acts := [.closeSig 1] }
  | 1, .input, 0 => { ret := .state "REDRAW" }
  | _, _, _ => {}

def progRace : Prog := { cc := asciiClass, screens := screensRace, screenScript := scriptRace }

def startRace : Cfg := initCfg [.schedule 0 none] [] none [['x']]

theorem startedRace : Started startRace := ⟨_, _, _, _, rfl⟩

theorem initRace : InitScreenOnly startRace := init_sched0 _ _

theorem progRace_screenOnly : ScreenOnly progRace :=
  screenOnly_of _ _ fun scr cb n => by unfold scriptRace; split <;> rfl

theorem progRace_closedSilent : ClosedSilent progRace := by
  intro scr n
  show (scriptRace scr .closed n).acts = []
  unfold scriptRace; split <;> first | rfl | (rename_i h; cases h)

/-- after step 60 `close_loop` has been called with an empty queue (`.closeReq true 0`) and its drain is
about to start; the typed line is delivered at that moment; 30 steps later the parent is drawn inside
the modal level -/
theorem race_check :
    testDeliver progRace 60 30 startRace (fun c c' =>
      decide (Tr.show entry0 ∈ newTr c c') && decide (NoErr c) && decide (WFQuiet c) && decide (WFClose c) &&
      decide (WFDrain c) && !decide (WFQuietDrain c) && decide (c.L.levels.length = 2) &&
      decide (c.A.stack = [entry0])) = true := by
  decide +kernel

/-- the modal screen calls `close_screen()` twice: it closes itself and then its parent -/
def scriptTwice : Nat → Cb → Nat → ScriptEnt
  | 0, .show, 0 => { acts := [.pushModal 1 none] }
  | 1, .show, 0 => { acts := [.closeDirect, .closeDirect] }
  | _, _, _ => {}

def progTwice : Prog := { cc := asciiClass, screens := screens3, screenScript := scriptTwice }

/-- screens 0 and 2 scheduled (2 beneath 0) -/
def startTwice : Cfg := initCfg [.schedule 0 none, .schedule 2 none] [] none []

theorem startedTwice : Started startTwice := ⟨_, _, _, _, rfl⟩

theorem initTwice : InitScreenOnly startTwice := by
  intro a ha
  have : Instr.act a ∈ [Instr.act (.schedule 0 none), Instr.act (.schedule 2 none), Instr.apprun] := ha
  simp at this
  rcases this with rfl | rfl <;> rfl

theorem progTwice_screenOnly : ScreenOnly progTwice :=
  screenOnly_of _ _ fun scr cb n => by unfold scriptTwice; split <;> rfl

theorem progTwice_closedSilent : ClosedSilent progTwice := by
  intro scr n
  show (scriptTwice scr .closed n).acts = []
  unfold scriptTwice; split <;> first | rfl | (rename_i h; cases h)

/-- in `progModal` the modal push is step 20 and its loop's activation returns in transition 55; all
hypotheses of the intact clause hold, the stack is the same as before the push -/
theorem modal_intact_check :
    testModal progModal 20 33 startS (fun c c1 c2 c3 =>
      decide (Tr.loopReturn c.L.queues.length ∈ newTr c2 c3) && decide (NoErr c3) && decide (WFQuietDrain c3) &&
      decide (WFClose c3) && decide (WFDrain c3) && decide (NoForceQuit c3) &&
      decide (NoStackOpAfterClose c.L.queues.length (newTr c1 c2)) && decide (c2.A.stack = c.A.stack) &&
      decide (c.A.stack = [entry0])) = true := by
  decide +kernel

/-- in `progTwice` the modal push is step 21 and its loop's activation returns in transition 62; the
second `close_screen()` pops the parent after the modal level was popped: at the return only one of the
two entries that were beneath the modal entry is left -/
theorem twice_check :
    testModal progTwice 21 39 startTwice (fun c c1 c2 c3 =>
      decide (Tr.loopReturn c.L.queues.length ∈ newTr c2 c3) && decide (NoErr c3) && decide (WFQuietDrain c3) &&
      decide (WFClose c3) && decide (WFDrain c3) && decide (NoForceQuit c3) &&
      !decide (NoStackOpAfterClose c.L.queues.length (newTr c1 c2)) && decide (c.A.stack.length = 2) &&
      decide (c2.A.stack.length = 1)) = true := by
  decide +kernel

end ShapeEx

end Simpleline
