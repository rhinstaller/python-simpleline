/-
  Opening and closing a modal screen are "atomic" in a screen-level program whose `closed()`
  callbacks are silent, when the drain of `close_loop` dispatched nothing: the pending
  `execute_new_loop` / `close_loop` is always the head of the code (a *window*), and every other
  configuration is quiescent (nothing pending).  What an exception does is the subject of
  `ShapeShieldFix`.
-/
import Simpleline.Lemmas.ShapeFrames

namespace Simpleline

def Quiet (l : List Instr) : Prop := pendOpens l = 0 ∧ pendCloses l = 0

/-- the code is quiescent, or its head is one of the straight-line windows between the push of a
modal entry and `execute_new_loop`, or between the pop of a modal entry and the pop of its level -/
inductive Win (v : SV) : Prop
  | quiet : Quiet v.code → Win v
  | w1 {s : Sig} {rest : List Instr} : v.code = .newLoop s :: rest → Quiet rest → Win v
  | w2 {scr : Nat} {e : Entry} {frm : Option Src} {rest : List Instr} :
      v.code = .callScr scr .closed none none :: .closeScreen2 e frm :: rest → Quiet rest → Win v
  | w3 {scr : Nat} {r : Ret} {k : Option Str} {e : Entry} {frm : Option Src} {rest : List Instr} :
      v.code = .scrRet scr .closed r k :: .closeScreen2 e frm :: rest → Quiet rest → Win v
  | w4 {e : Entry} {frm : Option Src} {rest : List Instr} : v.code = .closeScreen2 e frm :: rest → Quiet rest → Win v
  | w5 {rest : List Instr} : v.code = .closeLoop :: rest → Quiet rest → Win v
  | w6 {b : Bool} {n : Nat} {ev0 : List Tr} {rest : List Instr} :
      v.code = .procIter none :: .popLevel :: rest → Quiet rest → v.ev = .procBegin :: .closeReq b n :: ev0 → Win v
  | w7 {rest : List Instr} : v.code = .popLevel :: rest → Quiet rest → Win v

def WinInv (v : SV) : Prop := overCode v.code = true ∨ Win v

namespace Shape

theorem Quiet.cons_free {i : Instr} {l : List Instr} (hi : Instr.pendFree i = true) (h : Quiet l) : Quiet (i :: l) := by
  unfold Quiet
  rw [pendOpens_cons_free _ hi, pendCloses_cons_free _ hi]; exact h

theorem quiet_sublist {l1 l2 : List Instr} (hs : l1.Sublist l2) (h : Quiet l2) : Quiet l1 := by
  have h1 := pendOpens_sublist hs
  have h2 := pendCloses_sublist hs
  exact ⟨by have := h.1; omega, by have := h.2; omega⟩

theorem quiet_tail {i : Instr} {l : List Instr} (h : Quiet (i :: l)) : Quiet l :=
  quiet_sublist (List.sublist_cons_self i l) h

theorem quiet_head {i : Instr} {l : List Instr} (h : Quiet (i :: l)) : i.opens = 0 ∧ i.closes = 0 := by
  have h1 := h.1; have h2 := h.2
  rw [pendOpens_cons] at h1; rw [pendCloses_cons] at h2
  exact ⟨by omega, by omega⟩

theorem quiet_batch {B rest : List Instr} (h1 : pendOpens B = 0) (h2 : pendCloses B = 0) (h : Quiet rest) :
    Quiet (B ++ rest) := by
  unfold Quiet
  rw [pendOpens_append, pendCloses_append, h1, h2]
  exact ⟨by have := h.1; omega, by have := h.2; omega⟩

theorem win_quiet_of_head {v : SV} (hw : Win v) {h : Instr} {rest : List Instr} (hc : v.code = h :: rest)
    (hh : h.isWindowHead = false) : Quiet v.code := by
  cases hw with
  | quiet hq => exact hq
  | w1 hc' _ | w2 hc' _ | w3 hc' _ | w4 hc' _ | w5 hc' _ | w6 hc' _ _ | w7 hc' _ => cases hc.symm.trans hc'; cases hh

/-- what a raised exception does is left to the caller (`hraise`) -/
theorem win_step_core {P : Prog} {v v' : SV} {evs : List Tr} (hP : ScreenOnly P) (hC : ClosedSilent P) (hb : Basic v)
    (hf : v.forceQuit = false) (hsc : ScreenCode v.code) (hw : Win v) (hs : SStepE P v evs v')
    (hdq : drainQuietScan false v'.ev = true)
    (hraise : ∀ {h : Instr} {rest : List Instr} {k : Kind}, v.code = h :: rest → h.canRaise k = true →
      v' = raisedSV k { v with code := rest } → WinInv v') : WinInv v' := by
  have hch := hb.chained
  have tail : ∀ {h : Instr} {rest : List Instr}, v.code = h :: rest → h.isWindowHead = false → Quiet rest :=
    fun hc hh => quiet_tail (hc ▸ win_quiet_of_head hw hc hh)
  cases hs with
  | stutter => exact .inr hw
  | raise hc hr => exact hraise hc hr rfl
  | kill _ => exact .inl rfl
  | popExit hc _ _ => exact .inl (unwind_exit_chained (hc ▸ hch).2)
  | forceQuit hc => cases hsc _ (by rw [hc]; exact List.mem_cons_self ..)
  | @halt h _ hc hh => exact .inr (.quiet (tail hc (by cases h <;> first | rfl | contradiction)))
  | enqAct hc | schedule hc | pushScr hc | replace hc _ | restore hc _ => exact .inr (.quiet (tail hc rfl))
  | apprun hc => exact .inr (.quiet (quiet_batch rfl rfl (tail hc rfl)))
  -- the windows open here
  | pushModal hc => exact .inr (.w1 rfl (Quiet.cons_free rfl (tail hc rfl)))
  | closeScreen hc _ => exact .inr (.w2 rfl (tail hc rfl))
  | @discard rest _ e hc _ =>
    by_cases hm : e.modal = true
    · refine .inr (.w5 (rest := .afterSetupFail e :: rest) ?_ (Quiet.cons_free rfl (tail hc rfl)))
      show (if e.modal = true then _ else _) ++ rest = _
      rw [if_pos hm]; rfl
    · refine .inr (.quiet ?_)
      show Quiet ((if e.modal = true then _ else _) ++ rest)
      rw [if_neg hm]; exact tail hc rfl
  | identSkip hc _ _ =>
    refine .inr (.quiet ?_)
    show Quiet (List.dropWhile _ _)
    rw [identSkip_chained (hc ▸ hch)]; exact tail hc rfl
  -- and are left through these
  | «open» hc _ =>
    cases hw with
    | quiet hq => have := (hc ▸ hq).1; simp [pendOpens] at this
    | w1 hc' hq => cases hc.symm.trans hc'; exact .inr (.quiet (Quiet.cons_free rfl hq))
    | w2 hc' _ | w3 hc' _ | w4 hc' _ | w5 hc' _ | w6 hc' _ _ | w7 hc' _ => cases hc.symm.trans hc'
  | pop hc _ _ =>
    cases hw with
    | quiet hq => have := (hc ▸ hq).2; simp [pendCloses] at this
    | w7 hc' hq => cases hc.symm.trans hc'; exact .inr (.quiet hq)
    | w1 hc' _ | w2 hc' _ | w3 hc' _ | w4 hc' _ | w5 hc' _ | w6 hc' _ _ => cases hc.symm.trans hc'
  | batch hc hbt =>
    cases hw with
    | quiet hq =>
      obtain ⟨h1, h2, _⟩ := batch_weights hbt hP (fun a ha => hsc a (by rw [hc, ha]; exact List.mem_cons_self ..)) hf
      have := quiet_head (hc ▸ hq)
      exact .inr (.quiet (quiet_batch (h1.trans this.1) (h2.trans this.2) (quiet_tail (hc ▸ hq))))
    | w1 hc' hq =>
      cases hc.symm.trans hc'
      cases hbt with
      | passive hp => cases hp
      | newLoopFQ _ hfq => rw [hf] at hfq; cases hfq
    | @w2 scr e frm rest hc' hq =>
      cases hc.symm.trans hc'
      cases hbt with
      | passive hp => cases hp
      | callScr _ _ _ _ n =>
        refine .inr (.w3 (scr := scr) (r := (P.screenScript scr .closed n).ret) (k := none) (e := e) (frm := frm) ?_ hq)
        show ((if Cb.closed = Cb.show then _ else _) ++ List.map Instr.act (P.screenScript scr .closed n).acts ++ _) ++ _ = _
        rw [hC scr n]; rfl
    | w3 hc' hq =>
      cases hc.symm.trans hc'
      cases hbt with
      | passive hp => exact .inr (.w4 rfl hq)
    | w4 hc' hq =>
      cases hc.symm.trans hc'
      cases hbt with
      | passive hp => cases hp
      | close2Modal _ _ _ => exact .inr (.w5 rfl (Quiet.cons_free rfl hq))
      | close2Plain _ _ _ => exact .inr (.quiet (Quiet.cons_free rfl hq))
    | w5 hc' hq =>
      cases hc.symm.trans hc'
      cases hbt with
      | passive hp => cases hp
      | closeLoop n => exact .inr (.w6 rfl hq rfl)
    | w6 hc' hq hev =>
      cases hc.symm.trans hc'
      cases hbt with
      | passive hp => cases hp
      | procEnd _ => exact .inr (.w7 rfl hq)
      | procTake _ s p' _ =>
        -- the drain dispatches a signal: excluded by the drain-time quiet hypothesis
        have : drainQuietScan false ([Tr.take v.active s] ++ v.ev) = true := hdq
        rw [hev] at this
        simp [drainQuietScan] at this
    | w7 hc' hq =>
      cases hc.symm.trans hc'
      cases hbt with
      | passive hp => cases hp

end Shape

end Simpleline
