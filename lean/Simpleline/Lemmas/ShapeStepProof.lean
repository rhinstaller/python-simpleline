/-
  Proof of the master lemma (`stepOK`, `trans_sstep`): every `step` is an `SStep` of the shape view and only adds
  trace events.  One case per instruction, each naming the abstract transition(s) the instruction can take.
-/
import Simpleline.Lemmas.ShapeStep
import Simpleline.Lemmas.Reach

namespace Simpleline

namespace Shape

variable {P : Prog} {c : Cfg} {rest : List Instr}

theorem sv_setA (c : Cfg) (f : AppSt → AppSt) (h : ∀ A, (f A).stack = A.stack ∧ (f A).nextEid = A.nextEid) :
    Cfg.sv { c with A := f c.A } = c.sv := by
  simp [Cfg.sv, h]

theorem step_newLoop {s : Sig} (hc : c.code = .newLoop s :: rest) (hf : c.L.forceQuit = false) :
    ∃ c1, step P c = .ok c1 ∧
      c1.sv = SV.noteExc { c.sv with code := .mainCheck c.sv.nq :: rest, levels := c.sv.levels ++ [c.sv.nq],
                                     active := c.sv.nq, nq := c.sv.nq + 1,
                                     ev := .openLevel c.sv.nq c.sv.runLoop :: c.sv.ev } (s.cls == .exception) := by
  unfold step; simp only [hc, hf]
  refine ⟨_, rfl, ?_⟩
  simp only [sv_push, sv_enqueue]
  rw [sv_trace_shape _ _ rfl]
  simp [Cfg.sv, SV.noteExc, hf]

theorem step_restoreRun (hc : c.code = .restoreRun :: rest) (hf : c.L.forceQuit = false) :
    step P c = .ok { c with code := rest, L := { c.L with runLoop := true } } := by
  unfold step; simp only [hc, hf]; rfl

theorem step_pushModal {scr : Nat} {args : Option Nat} (hc : c.code = .pushModal scr args :: rest) :
    ∃ c1 s, step P c = .ok c1 ∧
      c1.sv = { c.sv with code := .newLoop s :: .modalRet ⟨c.sv.nextEid, scr, args, true⟩ :: rest,
                          stack := c.sv.stack ++ [⟨c.sv.nextEid, scr, args, true⟩], nextEid := c.sv.nextEid + 1,
                          ev := .modalBegin ⟨c.sv.nextEid, scr, args, true⟩ ::
                                .stackOp "pushModal" (c.sv.stack ++ [⟨c.sv.nextEid, scr, args, true⟩]) :: c.sv.ev } := by
  unfold step; simp only [hc, Cfg.newSig]
  exact ⟨_, _, rfl, rfl⟩

theorem notCatchPS_eq : (fun i : Instr => match i with | .catchPS => false | _ => true) = notCatchPS := by
  funext i; cases i <;> rfl

theorem printWidget_go (scr : Nat) (evs : List OutEv) (cur : List Str) (acc : List Instr)
    (hacc : ∀ i ∈ acc, (∃ ls, i = Instr.printLines ls) ∨ i = .blockingInput scr true) :
    ∀ i ∈ step.go scr evs cur acc, (∃ ls, i = Instr.printLines ls) ∨ i = .blockingInput scr true := by
  have snoc : ∀ {acc : List Instr}, (∀ i ∈ acc, (∃ ls, i = Instr.printLines ls) ∨ i = .blockingInput scr true) →
      ∀ j, ((∃ ls, j = Instr.printLines ls) ∨ j = .blockingInput scr true) →
      ∀ i ∈ acc ++ [j], (∃ ls, i = Instr.printLines ls) ∨ i = .blockingInput scr true := by
    intro acc hacc j hj i hi
    rcases List.mem_append.1 hi with h | h
    · exact hacc i h
    · rw [List.mem_singleton.1 h]; exact hj
  induction evs generalizing cur acc with
  | nil =>
    unfold step.go
    split
    · exact hacc
    · exact snoc hacc _ (.inl ⟨_, rfl⟩)
  | cons e r ih =>
    cases e with
    | line l => unfold step.go; exact ih _ _ hacc
    | ask =>
      unfold step.go
      split
      · exact ih _ _ (snoc hacc _ (.inr rfl))
      · exact ih _ _ (snoc (snoc hacc _ (.inl ⟨_, rfl⟩)) _ (.inr rfl))

theorem foldl_sv {α : Type} (g : Cfg → α → Cfg) (hg : ∀ c a, (g c a).sv = c.sv ∧ Grow c (g c a))
    (l : List α) (c : Cfg) : (l.foldl g c).sv = c.sv ∧ Grow c (l.foldl g c) := by
  induction l generalizing c with
  | nil => exact ⟨rfl, Grow.refl c⟩
  | cons a l ih =>
    obtain ⟨h1, h2⟩ := ih (g c a)
    exact ⟨h1.trans (hg c a).1, (hg c a).2.trans h2⟩

/-- The master lemma, for a configuration whose code is spelled out: the view of the starting configuration
computes, so the view and history equations of the arms hold by `rfl` wherever the step only updates records. -/
theorem stepOK_cons (P : Prog) (c : Cfg) (ins : Instr) (rest : List Instr) :
    StepOK P { c with code := ins :: rest } (outCfg (step P { c with code := ins :: rest })) := by
  have hv : (Cfg.sv { c with code := ins :: rest }).code = ins :: rest := rfl
  have g0 : Grow { c with code := ins :: rest } { c with code := rest } := ⟨[], rfl⟩
  have raise : ∀ {k : Kind} {d : Cfg}, ins.canRaise k = true → d.sv = { c.sv with code := rest } →
      Grow { c with code := ins :: rest } d →
      StepOK P { c with code := ins :: rest } (outCfg (d.raise k)) := fun hk hd hg =>
    ⟨SStep.raise' _ hv hk (by rw [sv_raise, hd]; rfl), grow_raise _ hg⟩
  have batch : ∀ {B : List Instr} {evs : List Tr} {d : Cfg}, Batch P (Cfg.sv { c with code := ins :: rest }) ins B evs →
      d.sv = { c.sv with code := B ++ rest, ev := evs ++ c.sv.ev } → Grow { c with code := ins :: rest } d →
      StepOK P { c with code := ins :: rest } (outCfg (.ok d)) := fun hb hd hg => ⟨SStep.batch' hv hb hd, hg⟩
  cases ins <;> dsimp only [step]
  case act a =>
    cases a <;> simp only [doAct]
    case enq cls prio src sid =>
      exact ⟨by rw [outCfg_ok, sv_enqueue]; exact SStep.enqAct hv, grow_enqueue _ g0⟩
    case regSource src => exact ⟨SStep.batch' hv (.actSilent rfl) (by simp [Cfg.sv, listSet]), ⟨[], rfl⟩⟩
    case newLoop cls prio sid => exact batch (.actNewLoop cls prio sid) rfl ⟨[], rfl⟩
    case closeLoop => exact batch .actCloseLoop rfl ⟨[], rfl⟩
    case proc cls =>
      cases cls with
      | none => exact batch .actProcNone rfl ⟨[_], rfl⟩
      | some cls => exact batch (.actProcSome cls) rfl ⟨[], rfl⟩
    case forceQuit => exact ⟨SStep.forceQuit hv, ⟨[_], rfl⟩⟩
    case raiseExit | raiseErr => exact raise rfl rfl g0
    case schedule scr args =>
      split
      · exact ⟨SStep.schedule hv, ⟨[_], rfl⟩⟩
      · refine ⟨?_, Grow.of_tr_eq (b := Cfg.redraw _) rfl (grow_redraw ⟨[_], rfl⟩)⟩
        show SStep P _ (Cfg.redraw _).sv
        rw [sv_redraw]; exact SStep.schedule hv
    case push scr args => exact ⟨by rw [outCfg_ok, sv_redraw]; exact SStep.pushScr hv, grow_redraw ⟨[_], rfl⟩⟩
    case pushModal scr args => exact batch (.actPushModal scr args) rfl ⟨[], rfl⟩
    case replace scr args =>
      split
      · exact raise rfl rfl g0
      · exact ⟨by rw [outCfg_ok, sv_redraw]; exact SStep.replace hv ‹_›, grow_redraw ⟨[_], rfl⟩⟩
    case closeDirect => exact batch .actCloseDirect rfl ⟨[], rfl⟩
    case closeSig scr | redrawSig scr =>
      exact ⟨SStep.batch' hv (.actSilent rfl) (by rw [outCfg_ok, sv_enqueue]; rfl),
        grow_enqueue _ ⟨[], rfl⟩⟩
    case schedRedraw => exact batch (.actSilent rfl) (by rw [sv_redraw]; rfl) (grow_redraw g0)
    case getUserInput scr hidden => exact batch (.actGetUserInput scr hidden) rfl ⟨[], rfl⟩
  case apprun =>
    split
    · exact ⟨SStep.halt' hv rfl rfl, ⟨[], rfl⟩⟩
    · exact ⟨SStep.apprun hv, ⟨[], rfl⟩⟩
  case catchExit | catchHandler | catchPS | catchDraw | catchPI _ | endPI | printLines _ | classify _ =>
    exact batch (.passive rfl) rfl ⟨[], rfl⟩
  case quitCb =>
    split
    · exact batch (.passive rfl) (by rw [sv_emit]; rfl) (grow_emit _ _ g0)
    · exact batch (.passive rfl) rfl ⟨[], rfl⟩
  case mainCheck q =>
    split
    · exact batch (.mainLoop q ‹_›) rfl ⟨[], rfl⟩
    · exact batch (.mainExit q (Bool.eq_false_iff.2 ‹_›)) rfl ⟨[_], rfl⟩
  case restoreRun =>
    split
    · exact batch (.restoreFQ ‹_›) rfl ⟨[], rfl⟩
    · exact ⟨SStep.restore hv (Bool.eq_false_iff.2 ‹_›), ⟨[], rfl⟩⟩
  case loopCheck =>
    split
    · exact batch (.loopGo ‹_›) rfl ⟨[], rfl⟩
    · exact batch (.loopEnd (Bool.eq_false_iff.2 ‹_›)) rfl ⟨[], rfl⟩
  case getDispatch =>
    rcases ht : Cfg.take { c with code := rest } with ⟨o, c1⟩ | ⟨s, c1⟩ <;>
      simp only [bind, Except.bind, pure, Except.pure]
    · exact ⟨SStep.halt' hv rfl (by rw [outCfg_error, sv_take_err ht]; rfl), grow_take_err ht g0⟩
    · exact ⟨SStep.batch' hv (.getDispatch s) (by rw [outCfg_ok, sv_push, sv_take_ok ht]; rfl),
        grow_push _ (grow_take_ok ht g0)⟩
  case processSignal s =>
    split
    · exact batch (.psDispatch s) rfl ⟨[], rfl⟩
    · split
      · exact batch (.psKill s) rfl ⟨[], rfl⟩
      · exact batch (.psNone s) rfl ⟨[_], rfl⟩
  case dispatch s i =>
    split
    · split
      · exact batch (.dispDone s i) rfl ⟨[_], rfl⟩
      · exact batch (.dispCall s i _ _ (Bool.eq_false_iff.2 ‹_›)) rfl ⟨[], rfl⟩
    · exact batch (.dispDone s i) rfl ⟨[_], rfl⟩
  case kill s =>
    refine ⟨?_, grow_raise _ ⟨[_], rfl⟩⟩
    rw [sv_raise]
    simp only [raisedSV, unwindTo_sysexit, Option.getD_none, exitEv, List.nil_append]
    exact SStep.kill hv
  case callH h d s =>
    cases h <;> dsimp only
    case render => exact batch (.callRender d s) rfl ⟨[_], rfl⟩
    case close => exact batch (.callClose d s) rfl ⟨[_], rfl⟩
    case itm => exact batch (.callItm d s) rfl ⟨[_], rfl⟩
    case ih n => exact batch (.callIh n d s) rfl ⟨[_], rfl⟩
    case exc => exact batch (.callExc d s) (by rw [sv_emit]; rfl) (grow_emit _ _ ⟨[_], rfl⟩)
    case user hid =>
      exact ⟨SStep.batch' hv (.callUser hid d s _) (by rw [outCfg_ok, sv_push, sv_emit]; rfl),
        grow_push _ (grow_emit _ _ ⟨[_], rfl⟩)⟩
  case hret hid | note w => exact batch (.passive rfl) (by rw [sv_emit]; rfl) (grow_emit _ _ g0)
  case procWait cls => exact batch (.procWait cls c.L.tcounter) rfl ⟨[_], rfl⟩
  case waitStep cls t =>
    split
    · rcases ht : Cfg.take { c with code := rest } with ⟨o, c1⟩ | ⟨s, c1⟩ <;>
        simp only [bind, Except.bind, pure, Except.pure]
      · exact ⟨SStep.halt' hv rfl (by rw [outCfg_error, sv_take_err ht]; rfl), grow_take_err ht g0⟩
      · exact ⟨SStep.batch' hv (.waitTake cls t s ‹_›) (by rw [outCfg_ok, sv_push, sv_take_ok ht]; rfl),
          grow_push _ (grow_take_ok ht g0)⟩
    · exact batch (.waitEnd cls t (Bool.eq_false_iff.2 ‹_›)) rfl ⟨[_], rfl⟩
  case waitCheck cls t =>
    split
    · exact batch (.waitCheckDone cls t) rfl ⟨[_], rfl⟩
    · exact batch (.waitCheckAgain cls t) rfl ⟨[], rfl⟩
  case procIter p =>
    split
    · exact batch (.procEnd p) rfl ⟨[_], rfl⟩
    · rename_i e es _
      split
      · exact batch (.procEnd p) rfl ⟨[_], rfl⟩
      · have hr : c.L.runLoop = true := Decidable.of_not_not ‹_›
        cases p <;> dsimp only
        case none =>
          exact batch (.procTake none e.2.2 e.2.2.prio hr) (by simp [Cfg.sv, listSet, shapeTr_cons, Tr.shape, push, cleanTr_cons, Tr.isExc]) ⟨[_], rfl⟩
        case some pr =>
          split
          · exact batch (.procTake (some pr) e.2.2 pr hr) (by simp [Cfg.sv, listSet, shapeTr_cons, Tr.shape, push, cleanTr_cons, Tr.isExc]) ⟨[_], rfl⟩
          · exact batch (.procEnd (some pr)) rfl ⟨[_, _], rfl⟩
  case newLoop s =>
    split
    · exact batch (.newLoopFQ s ‹_›) rfl ⟨[], rfl⟩
    · refine ⟨?_, grow_push _ (grow_enqueue _ ⟨[_], rfl⟩)⟩
      rw [outCfg_ok, sv_push, sv_enqueue, sv_trace_shape _ _ rfl]
      refine (congrArg (SStep P _) ?_).mp (SStep.open (s := s) hv (Bool.eq_false_iff.2 ‹_›))
      simp [Cfg.sv, SV.noteExc]
  case closeLoop => exact batch (.closeLoop _) rfl ⟨[_, _], rfl⟩
  case popLevel =>
    split
    · exact raise rfl rfl g0
    · split
      · exact ⟨by rw [sv_raise]; exact SStep.popExit hv ‹_› ‹_›, grow_raise _ ⟨[_], rfl⟩⟩
      · exact ⟨SStep.pop hv ‹_› ‹_›, ⟨[_], rfl⟩⟩
  case pushModal scr args => exact ⟨SStep.pushModal hv, ⟨[_, _], rfl⟩⟩
  case modalRet e => exact batch (.modalRet e) rfl ⟨[_], rfl⟩
  case closeScreen frm =>
    split
    · exact raise rfl rfl g0
    · split
      · exact raise rfl rfl g0
      · exact ⟨SStep.closeScreen hv ‹_›, ⟨[_], rfl⟩⟩
  case closeScreen2 e frm =>
    split
    · exact raise rfl rfl g0
    · split
      · exact batch (.close2Modal e frm ‹_›) rfl ⟨[], rfl⟩
      · exact batch (.close2Plain e frm (Bool.eq_false_iff.2 ‹_›)) rfl ⟨[], rfl⟩
  case closeScreen3 e =>
    generalize hd : (if ({ c with code := rest } : Cfg).A.stack ≠ [] ∧ ¬e.modal = true then
        ({ c with code := rest } : Cfg).redraw else { c with code := rest }) = d
    have hsv : d.sv = { c.sv with code := rest } := by
      subst hd; split
      · exact sv_redraw _
      · rfl
    have hg : Grow c d := by
      subst hd; split
      · exact grow_redraw g0
      · exact g0
    split
    · exact raise rfl hsv hg
    · exact ⟨SStep.batch' hv (.passive rfl) hsv, hg⟩
  case processScreen =>
    split
    · exact raise rfl rfl g0
    · split
      · exact batch (.psReady _ ‹_›) rfl ⟨[], rfl⟩
      · exact batch (.psSetup _ ‹_›) rfl ⟨[], rfl⟩
  case afterSetup top =>
    split
    · exact batch (.afterSetupOk top) rfl ⟨[], rfl⟩
    · split
      · exact raise rfl rfl g0
      · rename_i e he
        have h := SStep.discard (P := P) (top := top) hv he
        split
        · rw [if_pos ‹_›] at h
          exact ⟨h, ⟨[_], rfl⟩⟩
        · rw [if_neg ‹_›] at h
          exact ⟨by rw [outCfg_ok, sv_redraw]; exact h, grow_redraw ⟨[_], rfl⟩⟩
  case afterSetupFail e =>
    split
    · exact raise rfl rfl g0
    · exact batch (.passive rfl) rfl ⟨[], rfl⟩
  case afterSetup2 top =>
    exact ⟨SStep.batch' hv (.afterSetup2 top)
      (by simp [Cfg.sv, listSet, shapeTr_cons, Tr.shape, push, Cfg.trace, cleanTr_cons, Tr.isExc]), ⟨[_], rfl⟩⟩
  case identCheck top =>
    split
    · exact raise rfl rfl g0
    · split
      · exact ⟨notCatchPS_eq ▸ SStep.identSkip hv ‹_› ‹_›, ⟨[], rfl⟩⟩
      · exact batch (.identOk top _ ‹_› (Decidable.of_not_not ‹_›)) rfl ⟨[], rfl⟩
  case drawScreen top =>
    exact ⟨SStep.batch' hv (.drawScreen top) (by split <;> rfl), by split <;> exact ⟨[_], rfl⟩⟩
  case maybeInput top =>
    split
    · exact batch (.maybeInputYes top) rfl ⟨[], rfl⟩
    · exact batch (.maybeInputNo top) rfl ⟨[], rfl⟩
  case callScr scr cb arg key =>
    exact ⟨SStep.batch' hv (.callScr scr cb arg key (countOf (c.A.scr scr).counts cb))
      (by rw [outCfg_ok, sv_push, sv_emit]; rfl), grow_push _ (grow_emit _ _ ⟨[], rfl⟩)⟩
  case scrRet scr cb ret key =>
    cases cb <;> dsimp only
    case setup =>
      split
      · exact batch (.passive rfl) rfl ⟨[], rfl⟩
      · exact ⟨SStep.batch' hv (.passive rfl) (by simp [Cfg.sv, listSet, AppSt.setScr]), ⟨[], rfl⟩⟩
    case prompt | input | refresh | «show» | closed => exact batch (.passive rfl) rfl ⟨[], rfl⟩
  case printWidget scr =>
    split
    · exact raise rfl rfl g0
    · split
      · exact ⟨SStep.halt' hv rfl rfl, ⟨[], rfl⟩⟩
      · exact ⟨SStep.batch' hv (.printWidget scr _ (printWidget_go scr _ _ _ (by simp))) rfl, ⟨[], rfl⟩⟩
  case getInput scr args => exact batch (.getInput scr args) rfl ⟨[], rfl⟩
  case getInput2 scr args =>
    split
    · exact batch (.passive rfl) rfl ⟨[], rfl⟩
    · refine ⟨?_, grow_startRequest _ _ _ ⟨[], rfl⟩⟩
      rcases sv_startRequest
        (newIH { c with code := rest, A := ({ c with code := rest } : Cfg).A.setScr scr fun s => { s with inputArgs := args } }
          (.scr scr) (P.spec scr).skipCheck (some scr)).2
        (newIH { c with code := rest, A := ({ c with code := rest } : Cfg).A.setScr scr fun s => { s with inputArgs := args } }
          (.scr scr) (P.spec scr).skipCheck (some scr)).1 (.scr scr) (promptText P defaultPrompt) with h | ⟨h, -⟩
      · exact SStep.batch' hv (.passive rfl) h
      · exact SStep.raise' .err hv rfl h
  case blockingInput scr cont =>
    refine ⟨?_, grow_startRequest _ _ _ ⟨[], rfl⟩⟩
    rcases sv_startRequest
      (push (newIH { c with code := rest } (.im scr) (P.spec scr).skipCheck none).2
        [.waitInput (newIH { c with code := rest } (.im scr) (P.spec scr).skipCheck none).1])
      (newIH { c with code := rest } (.im scr) (P.spec scr).skipCheck none).1 (.im scr)
      (if cont then promptText P contPrompt else
        (match textPrompt P.cc msgPrompt P.width with | .ok s => s | .error _ => [])) with h | ⟨h, -⟩
    · exact SStep.batch' hv (.blockingInput scr cont _) h
    · exact SStep.raise' .err hv rfl h
  case waitInput ih =>
    split
    · exact batch (.waitInputDone ih) rfl ⟨[], rfl⟩
    · split
      · exact ⟨SStep.halt' hv rfl rfl, ⟨[], rfl⟩⟩
      · exact batch (.waitInputWait ih (Decidable.of_not_not ‹_›)) rfl ⟨[], rfl⟩
  case inputReceived s =>
    split
    · exact raise rfl rfl g0
    · rename_i r _
      -- one `InputReady` for the newest request, then one failure notice per older request
      simp only [Cfg.newSig]
      have key := foldl_sv
        (fun (c : Cfg) (t : Nat) => ({ c with nextSid := c.nextSid + 1 } : Cfg).enqueue
          { id := c.nextSid + 1, cls := .inputReady, prio := 0, src := (c.A.reqs.getD t default).requester, line := [],
            ih := (c.A.reqs.getD t default).ih, ok := false })
        (fun c a => ⟨by rw [sv_enqueue]; rfl, grow_enqueue _ ⟨[], rfl⟩⟩) c.A.inputStack.dropLast
        (({ c with code := rest, nextSid := c.nextSid + 1 } : Cfg).enqueue
          { id := c.nextSid + 1, cls := .inputReady, prio := 0, src := (c.A.reqs.getD r default).requester, line := s.line,
            ih := (c.A.reqs.getD r default).ih, ok := true })
      exact ⟨SStep.batch' hv (.passive rfl) (key.1.trans (by rw [sv_enqueue]; rfl)),
        Grow.of_tr_eq (b := List.foldl _ _ _) rfl ((grow_enqueue _ (g0.of_tr_eq (c := { c with code := rest, nextSid := c.nextSid + 1 }) rfl)).trans key.2)⟩
  case inputReady n s =>
    split
    · exact batch (.inputReadyNone n s) rfl ⟨[], rfl⟩
    · split
      · exact batch (.inputReadyNone n s) rfl ⟨[], rfl⟩
      · split
        · exact batch (.inputReadyCb n s _) rfl ⟨[], rfl⟩
        · exact batch (.inputReadyNone n s) rfl ⟨[], rfl⟩
  case processInput scr key => exact batch (.processInput scr key _) rfl ⟨[], rfl⟩
  case countAndAct scr =>
    split
    · exact raise rfl rfl g0
    · -- the stack is not empty: by the classification of the input
      split
      · -- an error: counted, and every fifth one redraws the screen
        split
        · split
          · exact batch (.caaNone scr) (by rw [sv_redraw]; rfl) (grow_redraw ⟨[], rfl⟩)
          · exact batch (.caaInput scr _ ‹_›) rfl ⟨[], rfl⟩
        · contradiction
      · exact batch (.caaNone scr) rfl ⟨[], rfl⟩
      · exact batch (.caaNone scr) (by rw [sv_redraw]; rfl) (grow_redraw ⟨[], rfl⟩)
      · exact batch (.caaClose scr) rfl ⟨[], rfl⟩
      · split
        · exact batch (.caaQuit scr _ ‹_›) rfl ⟨[], rfl⟩
        · exact raise rfl rfl ⟨[], rfl⟩
  case afterQuit q =>
    split
    · exact raise rfl rfl g0
    · exact raise rfl rfl g0
    · exact batch (.passive rfl) (by rw [sv_redraw]; rfl) (grow_redraw g0)

theorem stepOK (P : Prog) (c : Cfg) : StepOK P c (outCfg (step P c)) := by
  rcases hc : c.code with _ | ⟨ins, rest⟩
  · unfold step; simp only [hc]
    exact ⟨SStep.stutter _, Grow.refl c⟩
  · have : c = { c with code := ins :: rest } := by rw [← hc]
    rw [this]
    exact stepOK_cons P c ins rest

theorem SStepE.ev_eq {P : Prog} {v v' : SV} {evs : List Tr} (h : SStepE P v evs v') : v'.ev = evs ++ v.ev := by
  cases h <;> first | rfl | (cases ‹Kind› <;> rfl)

theorem newTr_of_grow {c c' : Cfg} {new : List Tr} (h : c'.tr = new ++ c.tr) : newTr c c' = new :=
  newTr_of_append h

theorem trans_step_or_deliver {P : Prog} {c c' : Cfg} (h : Trans P c c') :
    c' = outCfg (step P c) ∨ c.deliver = some c' := by
  cases h with
  | step h => exact .inl (outCfg_of_ok h).symm
  | deliver h => exact .inr h
  | halt h => exact .inl (outCfg_of_error h).symm

theorem trans_sstep {P : Prog} {c c' : Cfg} (h : Trans P c c') :
    ∃ evs, SStepE P c.sv evs c'.sv ∧ shapeTr (newTr c c') = evs ∧ Grow c c' := by
  have key : StepOK P c c' := by
    rcases trans_step_or_deliver h with rfl | h
    · exact stepOK P c
    · exact ⟨by rw [sv_deliver h]; exact SStep.stutter _, grow_deliver h (Grow.refl c)⟩
  obtain ⟨⟨evs, hs⟩, new, hnew⟩ := key
  refine ⟨evs, hs, ?_, new, hnew⟩
  rw [newTr_of_grow hnew]
  have h2 : c'.sv.ev = shapeTr new ++ c.sv.ev := by
    show shapeTr c'.tr = _
    rw [hnew, shapeTr_append]; rfl
  exact List.append_cancel_right (h2.symm.trans (SStepE.ev_eq hs))

end Shape

end Simpleline
