/-
  Drawing a list of placed grids (`Piece`s) one after the other (`drawAll`): where every cell of the result
  comes from, how wide the result is, and that every piece is shown when each later piece lies below or right
  of it. One column and all columns of a `ColumnWidget` (`drawStack`, `drawCols`) and of a list container
  (`drawColumn`, `drawColumns`) are such drawings.
-/
import Simpleline.Lemmas.Grid

namespace Simpleline

/-- a grid and the place of its upper left corner -/
structure Piece where
  grid : Grid
  row : Nat
  col : Nat

def drawAll (B : Grid) (ps : List Piece) : Grid := ps.foldl (fun B p => drawInto B p.grid p.row p.col) B

theorem drawAll_append (B : Grid) (ps qs : List Piece) : drawAll B (ps ++ qs) = drawAll (drawAll B ps) qs :=
  List.foldl_append

/-- `q` lies below `p`, or right of every row of `p` -/
def Piece.Before (p q : Piece) : Prop := p.row + p.grid.length ≤ q.row ∨ ∀ r ∈ p.grid, p.col + r.length ≤ q.col

/-- `p` lies in the box with corner `(R, C)`, `H` rows high and `W` characters wide -/
def Piece.Within (p : Piece) (R H C W : Nat) : Prop :=
  R ≤ p.row ∧ p.row + p.grid.length ≤ R + H ∧ C ≤ p.col ∧ ∀ r ∈ p.grid, p.col + r.length ≤ C + W

theorem Piece.Within.before {p q : Piece} {R H C W R' H' C' W' : Nat} (hp : p.Within R H C W)
    (hq : q.Within R' H' C' W') (h : R + H ≤ R' ∨ C + W ≤ C') : p.Before q :=
  h.imp (fun h => Nat.le_trans hp.2.1 (Nat.le_trans h hq.1))
    fun h r hr => Nat.le_trans (hp.2.2.2 r hr) (Nat.le_trans h hq.2.2.1)

theorem Piece.Before.clear {p q : Piece} (h : p.Before q) {a b : Nat} (ha : a < p.grid.length)
    (hb : b < (p.grid.getD a []).length) : p.row + a < q.row ∨ p.col + b < q.col :=
  h.imp (fun h => Nat.lt_of_lt_of_le (Nat.add_lt_add_left ha _) h) fun h =>
    Nat.lt_of_lt_of_le (Nat.add_lt_add_left hb _) (getD_eq_getElem p.grid [] ha ▸ h _ (List.getElem_mem ha))

variable {x y : Nat} {ch : Char} {ps : List Piece}

theorem drawAll_keep : ∀ {B : Grid}, cell B x y = some ch → (∀ q ∈ ps, x < q.row ∨ y < q.col) →
    cell (drawAll B ps) x y = some ch := by
  induction ps with
  | nil => intro B h _; exact h
  | cons p ps ih =>
    intro B h hq
    exact ih (draw_keep h (hq p (List.mem_cons_self ..))) fun q hm => hq q (List.mem_cons_of_mem _ hm)

theorem drawAll_origin : ∀ {B : Grid}, cell (drawAll B ps) x y = some ch →
    cell B x y = some ch ∨ ch = ' ' ∨
      ∃ p ∈ ps, ∃ a b, x = p.row + a ∧ y = p.col + b ∧ cell p.grid a b = some ch := by
  induction ps with
  | nil => intro B h; exact Or.inl h
  | cons p ps ih =>
    intro B h
    rcases ih h with h1 | h1 | ⟨q, hq, hc⟩
    · rcases draw_origin h1 with h2 | h2 | hc
      · exact Or.inl h2
      · exact Or.inr (Or.inl h2)
      · exact Or.inr (Or.inr ⟨p, List.mem_cons_self .., hc⟩)
    · exact Or.inr (Or.inl h1)
    · exact Or.inr (Or.inr ⟨q, List.mem_cons_of_mem _ hq, hc⟩)

/-- every piece is shown: it is drawn, and the later ones leave its cells alone -/
theorem drawAll_shown (hps : ps.Pairwise Piece.Before) :
    ∀ {B : Grid}, ∀ p ∈ ps, Shown (drawAll B ps) p.grid p.row p.col := by
  induction hps with
  | nil => intro B p hp; cases hp
  | @cons p ps hp _ ih =>
    intro B p' hp'
    rcases List.mem_cons.1 hp' with rfl | hp'
    · exact shown_keep (B := drawInto B p'.grid p'.row p'.col) shown_draw fun a b ch ha hb hc =>
        drawAll_keep (ps := ps) hc fun q hq => (hp q hq).clear ha hb
    · exact ih p' hp'

theorem gridWidth_drawAll_le_iff : ∀ (B : Grid) (W : Nat), gridWidth (drawAll B ps) ≤ W ↔
    gridWidth B ≤ W ∧ ∀ p ∈ ps, ∀ r ∈ p.grid, p.col + r.length ≤ W := by
  induction ps with
  | nil => intro B W; simp [drawAll]
  | cons p ps ih =>
    intro B W
    rw [drawAll, List.foldl_cons, ← drawAll, ih, gridWidth_drawInto_le_iff]
    simp only [List.mem_cons, forall_eq_or_imp, and_assoc]

theorem zipIdx_pairwise_lt {α} (l : List α) (k : Nat) : (l.zipIdx k).Pairwise fun a b => a.2 < b.2 :=
  List.pairwise_map.1 (List.zipIdx_map_snd k l ▸ List.pairwise_lt_range')

end Simpleline
