/-
  What one step does to each component of the shared state: which code positions change (`pcs_step`), the three kinds of
  lock (`LockStep`), the number of queue objects, the sources, the level list, `_active_queue`, `completed`, and the id
  the stepping thread carries.  Each is one case analysis of `TStep`.  What a step makes of the stepping thread's own
  code position is not classified here: the clauses of the invariants that are indexed by it (`isSub`, `valid`,
  `activeOK` in ThreadInv; `PC.route`, `PC.foundOK` in ThreadRoute) and the effect on queue contents (`qeff` in
  ThreadQueue) each analyse `TStep` once more, and so do `thread_fifo` (ThreadOrder) and the theorems of Props/C19 about
  single events.
-/
import Simpleline.Lemmas.ThreadBasic

namespace Simpleline.Threads
open List
variable {s s' : TState} {t : Nat} {e : Ev}

theorem pcs_step (hs : TStep s t e s') : s'.pcs = s.pcs ∨ s'.pcs = (s.setPc t (s'.pc t)).pcs := by
  cases hs
  case nlReadActive | idleRead | srcRead | get | putBack => exact .inl rfl
  all_goals exact .inr (congrArg (fun p => (s.setPc t p).pcs) (setPc_pc_self _ t _).symm)

theorem pc_other (hs : TStep s t e s') {t' : Nat} (hne : t' ≠ t) : s'.pc t' = s.pc t' := by
  rcases pcs_step hs with h | h
  · exact pc_congr h t'
  · rw [pc_congr h t', setPc_pc_ne _ _ _ hne]

/-- How a step of thread `t` treats a lock: `l`, `l'` its holder before / after; `b`, `b'`: is `t` inside the lock's
`with` block before / after. -/
inductive LockStep (t : Nat) : Option Nat → Option Nat → Bool → Bool → Prop
  | keep {l b} : LockStep t l l b b
  | acquire {b} : LockStep t none (some t) b true
  | release {l} : LockStep t l none true false

theorem LockStep.inv {l l' : Option Nat} (hold : PC → Bool) (hs : TStep s t e s')
    (hl : LockStep t l l' (hold (s.pc t)) (hold (s'.pc t)))
    (h : ∀ t', l = some t' ↔ hold (s.pc t') = true) : ∀ t', l' = some t' ↔ hold (s'.pc t') = true := by
  intro t'
  have ht := h t
  by_cases hne : t' = t
  · subst hne
    generalize hold (s.pc t') = b, hold (s'.pc t') = b' at *
    cases hl <;> simp_all
  · have := h t'
    rw [pc_other hs hne]
    generalize hold (s.pc t) = b, hold (s'.pc t) = b' at *
    cases hl <;> simp_all <;> grind

theorem mainLock_step (hs : TStep s t e s') :
    LockStep t s.mainLock s'.mainLock (s.pc t).holdsMain (s'.pc t).holdsMain := by
  cases hs <;> subst_vars <;> simp only [*, tstate, PC.holdsMain] <;> constructor

theorem LockStep.setQ_acquire (g : TQ → Option Nat) (f : TQ → TQ) {q0 : Nat} (hq : q0 < s.queues.length)
    (hfree : g (s.q q0) = none) (hf : ∀ x, g (f x) = some t) (q : Nat) :
    LockStep t (g (s.q q)) (g ((s.setQ q0 f).q q)) false (q0 == q) := by
  by_cases h : q = q0
  · subst h; rw [setQ_q_self s q f hq, hf, hfree, beq_self_eq_true]; exact .acquire
  · rw [setQ_q_ne s q0 f h, beq_eq_false_iff_ne.2 (Ne.symm h)]; exact .keep

theorem LockStep.setQ_release (g : TQ → Option Nat) (f : TQ → TQ) {q0 : Nat} (hq : q0 < s.queues.length)
    (hf : ∀ x, g (f x) = none) (q : Nat) :
    LockStep t (g (s.q q)) (g ((s.setQ q0 f).q q)) (q0 == q) false := by
  by_cases h : q = q0
  · subst h; rw [setQ_q_self s q f hq, hf, beq_self_eq_true]; exact .release
  · rw [setQ_q_ne s q0 f h, beq_eq_false_iff_ne.2 (Ne.symm h)]; exact .keep

theorem srcLock_step (hv : (s.pc t).valid s.queues.length) (hs : TStep s t e s') (q : Nat) :
    LockStep t (s.q q).srcLock (s'.q q).srcLock ((s.pc t).holdsSrc q) ((s'.pc t).holdsSrc q) := by
  cases hs <;> subst_vars <;>
    simp (disch := exact fun _ => rfl) only [*, tstate, PC.holdsSrc, PC.valid, setQ_q_fix TQ.srcLock] at hv ⊢
  case askAcq hl => exact .setQ_acquire (·.srcLock) _ (hv _ (mem_cons_self ..)) hl (fun _ => rfl) q
  case srcAcq hl => exact .setQ_acquire (·.srcLock) _ hv hl (fun _ => rfl) q
  case askRelYes | askRelNo => exact .setQ_release (·.srcLock) _ hv.1 (fun _ => rfl) q
  case srcRel => exact .setQ_release (·.srcLock) _ hv (fun _ => rfl) q
  all_goals exact .keep

theorem ordLock_step (hv : (s.pc t).valid s.queues.length) (hs : TStep s t e s') (q : Nat) :
    LockStep t (s.q q).ordLock (s'.q q).ordLock ((s.pc t).holdsOrd q) ((s'.pc t).holdsOrd q) := by
  cases hs <;> subst_vars <;>
    simp (disch := exact fun _ => rfl) only [*, tstate, PC.holdsOrd, PC.valid, setQ_q_fix TQ.ordLock] at hv ⊢
  case acqO hl => exact .setQ_acquire (·.ordLock) _ hv hl (fun _ => rfl) q
  case relOFound | relONotFound => exact .setQ_release (·.ordLock) _ hv (fun _ => rfl) q
  all_goals exact .keep

theorem length_step (hs : TStep s t e s') : s.queues.length ≤ s'.queues.length := by
  cases hs <;> simp

theorem sources_step (hs : TStep s t e s') (q n : Nat) (h : n ∈ (s.q q).sources) : n ∈ (s'.q q).sources := by
  cases hs
  case addSource q0 src hpc hl =>
    rw [setPc_q, setQ_q]; split
    · rename_i hc; rw [hc.1] at h; dsimp only; split
      · exact h
      · exact mem_cons_of_mem _ h
    · exact h
  all_goals simpa (disch := exact fun _ => rfl) only [tstate, setQ_q_fix TQ.sources] using h

/-- `_event_queues`: the `append` of `execute_new_loop`, the `pop` of `close_loop` -/
theorem levels_cases (hs : TStep s t e s') :
    (e.isLevelWrite = false ∧ s'.levels = s.levels) ∨
    (e.isLevelWrite = true ∧ s.mainLock = some t ∧
      ((∃ q seed, s.pc t = .nlAppend q seed ∧ s'.levels = s.levels ++ [q]) ∨
        (s.pc t = .clHold ∧ s'.levels = s.levels.dropLast))) := by
  cases hs
  case nlAppend q seed hpc hl => exact .inr ⟨rfl, hl, .inl ⟨q, seed, hpc, rfl⟩⟩
  case clPop hpc hl _ => exact .inr ⟨rfl, hl, .inr ⟨hpc, rfl⟩⟩
  all_goals exact .inl ⟨rfl, rfl⟩

theorem active_cases (hs : TStep s t e s') :
    s'.active = s.active ∨
    (∃ seed, s.pc t = .nlLock s.queues.length seed ∧ s'.active = s.queues.length ∧
      s'.queues.length = s.queues.length + 1) ∨
    (∃ q, s.pc t = .clSetActive q ∧ s'.active = q) := by
  cases hs
  case nlWrite seed hpc => exact .inr (.inl ⟨seed, hpc, rfl, by simp⟩)
  case clWrite q hpc => exact .inr (.inr ⟨q, hpc, rfl⟩)
  all_goals exact .inl rfl

def Ev.putId (e : Ev) : List Nat := e.putRec.map (·.2.1)

theorem thread_cnt_step (hs : TStep s t e s') (a : Nat) :
    count a (s'.pc t).preId + count a e.putId = count a (s.pc t).preId + count a e.newId := by
  cases hs <;> subst_vars <;>
    simp only [*, tstate, PC.preId, Ev.newId, Ev.putRec, Ev.putId, map_nil, map_cons, count_nil, Nat.add_zero,
      Nat.zero_add]

theorem putId_mem_preId (hs : TStep s t e s') {id : Nat} (h : id ∈ e.putId) : id ∈ (s.pc t).preId := by
  have hc := thread_cnt_step hs id
  have hn : e.newId = [] := by cases e <;> first | rfl | cases h
  rw [hn, count_nil] at hc
  exact count_pos_iff.1 (by have := count_pos_iff.2 h; omega)

theorem postId_step (hs : TStep s t e s') : ∀ id ∈ (s'.pc t).postId, id ∈ (s.pc t).postId ∨ id ∈ e.putId := by
  cases hs <;> subst_vars <;>
    simp only [*, tstate, PC.postId, Ev.putRec, Ev.putId, map_nil, map_cons, not_mem_nil, or_false, false_or,
      imp_self, implies_true, false_imp_iff]

theorem completed_step (hs : TStep s t e s') :
    s'.completed = s.completed ∨ ∃ id ∈ (s.pc t).postId, s'.completed = id :: s.completed := by
  cases hs
  case relONotFound sg q hpc => exact .inr ⟨sg.sid, by simp [hpc], rfl⟩
  case relMainFound sg hpc hl => exact .inr ⟨sg.sid, by simp [hpc], rfl⟩
  all_goals exact .inl rfl

end Simpleline.Threads
