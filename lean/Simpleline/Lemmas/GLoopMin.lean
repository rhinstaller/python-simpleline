/-
  The minimum of an integer key over a list, for any function that computes it the way both `minPrio`s do
  (`GLoop.minPrio` on signals, `G.minPrio` on the sources of the GLib machine): it is a lower bound and it is attained.
-/
namespace Simpleline

theorem minKey_spec {α : Type} (key : α → Int) (mp : List α → Option Int) (h0 : mp [] = none)
    (hc : ∀ a l, mp (a :: l) = match mp l with
      | none => some (key a)
      | some p => some (if key a < p then key a else p)) :
    ∀ (l : List α) (p : Int), mp l = some p → (∀ x ∈ l, p ≤ key x) ∧ ∃ x ∈ l, key x = p
  | [], p, h => by rw [h0] at h; cases h
  | a :: l, p, h => by
    rw [hc] at h
    cases hm : mp l with
    | none =>
      rw [hm] at h
      cases h
      cases l with
      | nil => exact ⟨fun x hx => by rw [List.mem_singleton.1 hx]; exact Int.le_refl _, a, List.mem_cons_self, rfl⟩
      | cons b l' => rw [hc] at hm; split at hm <;> cases hm
    | some p' =>
      rw [hm] at h
      obtain ⟨ih, x, hx, hxp⟩ := minKey_spec key mp h0 hc l p' hm
      simp only [Option.some.injEq] at h
      subst h
      refine ⟨fun y hy => ?_, ?_⟩
      · rcases List.mem_cons.1 hy with rfl | hy
        · split <;> omega
        · have := ih y hy; split <;> omega
      · split
        · exact ⟨a, List.mem_cons_self, rfl⟩
        · exact ⟨x, List.mem_cons_of_mem _ hx, hxp⟩

end Simpleline
