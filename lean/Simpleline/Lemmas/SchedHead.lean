/-
  `drawScreen top` runs only while `top` is the top of the stack and `setup` is invoked only on a
  screen that is not ready (`HeadInv`); an entry whose identity check or draw is pending has been
  refreshed (`RefInv`).
-/
import Simpleline.Lemmas.SchedEnt

namespace Simpleline

structure HeadInv (c : Cfg) : Prop where
  draw : ∀ top, c.code.head? = some (.drawScreen top) → c.A.stack.getLast? = some top
  setup : ∀ scr a k, c.code.head? = some (.callScr scr .setup a k) → (c.A.scr scr).ready = false

theorem HeadInv_init {c0 : Cfg} (h : Started c0) : HeadInv c0 := by
  obtain ⟨init, handlers, quitCb, stdin, rfl⟩ := h
  constructor
  · intro top h
    cases init <;> simp [initCfg] at h
  · intro scr a k h
    cases init <;> simp [initCfg] at h

theorem HeadInv_dlv {c : Cfg} (h : HeadInv c) : HeadInv c.dlv := by
  constructor <;> rw [dlv_code]
  · rw [(SFrame.dlv c).stack]; exact h.draw
  · intro scr; rw [(SFrame.dlv c).scr]; exact h.setup scr

theorem HeadInv_step {P : Prog} {c : Cfg} (hi : Imm c) (he : EntInv c) : HeadInv (sOutCfg (step P c)) := by
  rcases hc : c.code with _ | ⟨ins, rest⟩
  · rw [Machine.step_nil hc, sOutCfg_error]
    constructor <;> simp [hc]
  · constructor
    · intro top hh
      cases head_imm_after hi hc hh rfl with
      | @draw _ l hl heid =>
        -- the identity check found an entry with the identity of `top` on top: it is `top`
        rw [show (sOutCfg (step P c)).A.stack = c.stackAfter.1 from congrArg Prod.fst (step_state P c).stack,
          (Cfg.stackAfter_none (by simp only [Cfg.stackOp, hc])).1]
        have h1 : l ∈ c.ents := List.mem_append_left _ (List.mem_of_getLast? hl)
        have h2 : top ∈ c.ents := by simp [Cfg.ents, hc, codeEnts, Instr.entries]
        exact he.inj l h1 top h2 heid ▸ hl
    · intro scr a k hh
      cases head_imm_after hi hc hh rfl with
      | setup ht hr =>
        rw [step_scr]
        simp only [Cfg.screensAfter, hc]
        exact hr

theorem Reach.headInv {P : Prog} {c0 c : Cfg} (h0 : Started c0) (h : Reach P c0 c) : HeadInv c :=
  h.induct (HeadInv_init h0) (fun _ hr _ => HeadInv_step (hr.imm h0) (hr.entInv h0)) (fun _ _ => HeadInv_dlv)

/-- in a trace (newest first), every `show e` has a `refresh e` before it -/
def ShowsOK : List Tr → Prop
  | [] => True
  | .show e :: l => .refresh e ∈ l ∧ ShowsOK l
  | _ :: l => ShowsOK l

structure RefInv (c : Cfg) : Prop where
  pending : ∀ top, (.identCheck top ∈ c.code ∨ .drawScreen top ∈ c.code) → .refresh top ∈ schedTr c.tr
  shows : ShowsOK (schedTr c.tr)

theorem RefInv_init {c0 : Cfg} (h : Started c0) : RefInv c0 := by
  obtain ⟨init, handlers, quitCb, stdin, rfl⟩ := h
  constructor
  · intro top h
    simp [initCfg] at h
  · simp [initCfg, ShowsOK]

theorem RefInv_dlv {c : Cfg} (h : RefInv c) : RefInv c.dlv := by
  constructor <;> rw [(SFrame.dlv c).sched]
  · rw [dlv_code]; exact h.pending
  · exact h.shows

theorem RefInv_step {P : Prog} {c : Cfg} (h : RefInv c) : RefInv (sOutCfg (step P c)) := by
  have htr := (step_state P c).sched
  constructor
  · intro top hm
    rw [htr]
    rcases hc : c.code with _ | ⟨ins, rest⟩
    · rw [Machine.step_nil hc, sOutCfg_error, hc] at hm; simp at hm
    · obtain ⟨pushed, ⟨suf, hcd, hsuf⟩, hp⟩ := (step_eff P c ins rest hc).code
      rw [hcd] at hm
      simp only [List.mem_append] at hm
      have hsub : ∀ i ∈ suf, i ∈ c.code := fun i hi => by rw [hc]; exact List.mem_cons_of_mem _ (hsuf.subset hi)
      by_cases hin : .identCheck top ∈ pushed ∨ .drawScreen top ∈ pushed
      · rcases hin with hin | hin
        · obtain ⟨rfl, _⟩ := hp.mem _ hin
          simp [Cfg.schedEvs, hc]
        · obtain rfl := hp.mem _ hin
          exact List.mem_append_right _ (h.pending top (.inl (by simp [hc])))
      · refine List.mem_append_right _ (h.pending top ?_)
        rcases hm with (hm | hm) | (hm | hm)
        · exact absurd (.inl hm) hin
        · exact .inl (hsub _ hm)
        · exact absurd (.inr hm) hin
        · exact .inr (hsub _ hm)
  · rw [htr]
    rcases schedEvs_cases c with h' | ⟨top, rest, _, h'⟩ | ⟨top, rest, hc, h'⟩ | ⟨w, s, h'⟩ <;> rw [h']
    · exact h.shows
    · exact h.shows
    · exact ⟨h.pending top (.inr (by simp [hc])), h.shows⟩
    · exact h.shows

theorem Reach.refInv {P : Prog} {c0 c : Cfg} (h0 : Started c0) (h : Reach P c0 c) : RefInv c :=
  h.induct (RefInv_init h0) (fun _ _ => RefInv_step) (fun _ _ => RefInv_dlv)

end Simpleline
