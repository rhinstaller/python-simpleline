/-
  What one machine step does, as far as the input pipeline (C06, C18) and the order of the typed lines (C06b) can
  see (`StepEff`, `step_eff`). Most instructions are `Quiet`: they push `inert` instructions on part of the rest of the
  code and nothing else is seen. The invariants of `InputCode`, `InputFlightInv`, `InputOnceStep`, `InputLines`
  and `InputOrder*` go by cases on it (`step_cases`), those of `InputInv` through the coarser `InpTrans` of `InputStep`.
-/
import Simpleline.Lemmas.InputOps
import Simpleline.Lemmas.InputPending
import Simpleline.Lemmas.InputOrderQueue
import Simpleline.Lemmas.InputOrderTrace
import Simpleline.Lemmas.Reach

namespace Simpleline.InputOrder
open Input

theorem rd_enqEvent (c : Cfg) (s : Sig) (tr : List Tr) : readyDepth (enqEvent c s :: tr) = readyDepth tr := by
  unfold enqEvent; split <;> rfl

@[simp] theorem rd_enqueue (c : Cfg) (s : Sig) : readyDepth (c.enqueue s).tr = readyDepth c.tr := by
  rw [enqueue_tr, rd_enqEvent]

theorem rd_deliver {c c' : Cfg} (h : c.deliver = some c') : readyDepth c'.tr = readyDepth c.tr := by
  obtain ⟨r, rs, _, rfl⟩ := deliver_eq h; simp

@[simp] theorem rd_emit (P : Prog) (c : Cfg) (e : Ev) : readyDepth (c.emit P e).tr = readyDepth c.tr := by
  rcases emit_cases P c e with h | h
  · rw [h]; rfl
  · rw [rd_deliver h]; rfl

end Simpleline.InputOrder

namespace Simpleline.Input
open InputOrder

def _root_.Simpleline.Tr.sig? : Tr → Option Sig
  | .enq _ s | .dropped s => some s
  | _ => none

/-- the signals `enqueue_signal` was called with, newest first -/
def enqueued (tr : List Tr) : List Sig := tr.filterMap Tr.sig?

structure Pipe where
  ihs : List IHandler
  reqs : List Request
  inputStack : List Nat
  processing : Bool
  readers : List Nat
  stdin : List Str
  handlers : List (Cls × HRef × Option Nat)
  inputArgs : Nat → Option Nat

def _root_.Simpleline.Cfg.pipe (c : Cfg) : Pipe :=
  { ihs := c.A.ihs, reqs := c.A.reqs, inputStack := c.A.inputStack, processing := c.A.processing,
    readers := c.A.readers, stdin := c.A.stdin, handlers := c.L.handlers,
    inputArgs := fun j => (c.A.screens.getD j {}).inputArgs }

/-- all the pipeline invariants look at, the code aside -/
def _root_.Simpleline.Cfg.inp (c : Cfg) : Pipe × List Ev × List EQueue × List Sig :=
  (c.pipe, c.log, c.L.queues, enqueued c.tr)

/-- to the pipeline `X` is `c`, except that signals of other classes may have been enqueued -/
structure Calm (c X : Cfg) : Prop where
  pipe : X.pipe = c.pipe
  log : X.log = c.log
  pending : ∃ new, (∀ s ∈ new, s.cls.isInput = false) ∧ X.pending.Perm (new ++ c.pending)
  tr : ∃ new, (∀ s ∈ new, s.cls.isInput = false) ∧ enqueued X.tr = new ++ enqueued c.tr

theorem Calm.refl (c : Cfg) : Calm c c :=
  ⟨rfl, rfl, ⟨[], fun _ h => (nomatch h), .refl _⟩, ⟨[], fun _ h => (nomatch h), rfl⟩⟩

theorem Calm.countP {c X : Cfg} (h : Calm c X) {p : Sig → Bool} (hp : ∀ s, s.cls.isInput = false → p s = false) :
    X.pending.countP p = c.pending.countP p := by
  obtain ⟨new, hn, hperm⟩ := h.pending
  rw [hperm.countP_eq, List.countP_append, List.countP_eq_zero.mpr, Nat.zero_add]
  intro s hs
  rw [hp s (hn s hs)]
  exact Bool.false_ne_true

theorem Calm.all_pending {c X : Cfg} (h : Calm c X) {ok : Sig → Prop} (hn : ∀ s, s.cls.isInput = false → ok s)
    (hq : ∀ s ∈ c.pending, ok s) : ∀ s ∈ X.pending, ok s := by
  obtain ⟨new, h1, p1⟩ := h.pending
  intro s hs
  rcases List.mem_append.mp (p1.subset hs) with hs | hs
  · exact hn s (h1 s hs)
  · exact hq s hs

theorem Calm.readers {c X : Cfg} (h : Calm c X) : X.A.readers = c.A.readers := congrArg Pipe.readers h.pipe

theorem Calm.processing {c X : Cfg} (h : Calm c X) : X.A.processing = c.A.processing := congrArg Pipe.processing h.pipe

theorem Calm.view {c X X' : Cfg} (h : Calm c X) (e : X'.inp = X.inp := by rfl) : Calm c X' := by
  have e3 : X'.L.queues = X.L.queues := congrArg (·.2.2.1) e
  have e4 : enqueued X'.tr = enqueued X.tr := congrArg (·.2.2.2) e
  exact ⟨(congrArg (·.1) e).trans h.pipe, (congrArg (·.2.1) e).trans h.log,
    by unfold Cfg.pending; rw [e3]; exact h.pending, by rw [e4]; exact h.tr⟩

theorem enqueued_enqueue (c : Cfg) (s : Sig) : enqueued (c.enqueue s).tr = s :: enqueued c.tr := by
  rw [enqueue_tr]; unfold enqEvent; split <;> rfl

theorem Calm.enqueue {c X : Cfg} (h : Calm c X) {s : Sig} (hs : s.cls.isInput = false) : Calm c (X.enqueue s) := by
  obtain ⟨d, hd, hp⟩ := pending_enqueue X s
  obtain ⟨n1, h1, p1⟩ := h.pending
  obtain ⟨n2, h2, p2⟩ := h.tr
  refine ⟨?_, (enqueue_log X s).trans h.log, ⟨d ++ n1, ?_, ?_⟩, ⟨s :: n2, ?_, ?_⟩⟩
  · unfold Cfg.pipe; rw [enqueue_A, enqueue_handlers]; exact h.pipe
  · intro x hx
    rcases List.mem_append.mp hx with hx | hx
    · rw [List.mem_singleton.mp (hd.subset hx)]; exact hs
    · exact h1 x hx
  · exact hp.trans (by rw [List.append_assoc]; exact p1.append_left d)
  · intro x hx
    rcases List.mem_cons.mp hx with rfl | hx
    · exact hs
    · exact h2 x hx
  · rw [enqueued_enqueue, p2]; rfl

/-- `execute_new_loop` before its first signal is enqueued: a new, empty level is the active one -/
def _root_.Simpleline.Cfg.opened (c : Cfg) : Cfg :=
  ({ c with L := { c.L with queues := c.L.queues ++ [({} : EQueue)], active := c.L.queues.length,
                            levels := c.L.levels ++ [c.L.queues.length] } } : Cfg).trace
    (.openLevel c.L.queues.length c.L.runLoop)

theorem Calm.opened {c X : Cfg} (h : Calm c X) : Calm c X.opened :=
  ⟨h.pipe, h.log, by simpa [Cfg.opened, Cfg.trace, Cfg.pending, EQueue.sigs] using h.pending, h.tr⟩

/-- what the order proof reads besides `inp` -/
def _root_.Simpleline.Cfg.lev (c : Cfg) : List EQueue × Nat × Nat := (c.L.queues, readyDepth c.tr, c.L.active)

/-- to the order proof `X` is `c`: `readyDepth` counts the successful `InputReadySignal`s taken and not yet handled -/
structure Level (c X : Cfg) : Prop where
  depth : readyDepth X.tr = readyDepth c.tr
  active : X.L.active = c.L.active
  ready : ∀ a, readyQ X.L.queues a = readyQ c.L.queues a

theorem Level.refl (c : Cfg) : Level c c := ⟨rfl, rfl, fun _ => rfl⟩

theorem Level.view {c X X' : Cfg} (h : Level c X) (e : X'.lev = X.lev := by rfl) : Level c X' := by
  have e1 : X'.L.queues = X.L.queues := congrArg (·.1) e
  exact ⟨(congrArg (·.2.1) e).trans h.depth, (congrArg (·.2.2) e).trans h.active, fun a => by rw [e1]; exact h.ready a⟩

theorem Level.enqueue {c X : Cfg} (h : Level c X) {s : Sig} (hs : s.cls.isInput = false) : Level c (X.enqueue s) :=
  ⟨(rd_enqueue X s).trans h.depth, (enqueue_active X s).trans h.active,
    fun a => (readyQ_enqueue X s a (okReady_of_cls fun hc => by rw [hc] at hs; cases hs)).trans (h.ready a)⟩

structure Quiet (c X : Cfg) : Prop extends Calm c X, Level c X

namespace Quiet
variable {c X : Cfg}

theorem refl (c : Cfg) : Quiet c c := ⟨.refl c, .refl c⟩

theorem view {X' : Cfg} (h : Quiet c X) (e : X'.inp = X.inp := by rfl) (e' : X'.lev = X.lev := by rfl) : Quiet c X' :=
  ⟨h.toCalm.view e, h.toLevel.view e'⟩

theorem of_view (e : X.inp = c.inp := by rfl) (e' : X.lev = c.lev := by rfl) : Quiet c X := (refl c).view e e'

theorem enqueue (h : Quiet c X) {s : Sig} (hs : s.cls.isInput = false) : Quiet c (X.enqueue s) :=
  ⟨h.toCalm.enqueue hs, h.toLevel.enqueue hs⟩

theorem redraw (h : Quiet c X) : Quiet c X.redraw :=
  (h.view (X' := (X.newSig .render 0 .sched).2)).enqueue rfl

/-- unwinding to the nearest catcher enqueues at most an `ExceptionSignal` -/
theorem raise (h : Quiet c X) (k : Kind) : Quiet c (final (X.raise k)) := by
  obtain ⟨cT, hT, code', _, c1, h1, hf⟩ := raise_final X k
  rw [hf]
  have hT' : Quiet c cT := by
    rcases hT with rfl | rfl
    · exact h
    · exact h.view
  rcases h1 with rfl | ⟨src, rfl⟩
  · exact hT'.view
  · exact ((hT'.view (X' := (cT.newSig .exception (-20) src).2)).enqueue rfl).view

theorem addSource (h : Quiet c X) (i : Nat) (src : Src) :
    Quiet c { X with L := { X.L with queues := listSet X.L.queues i (addSource · src) } } :=
  ⟨⟨h.pipe, h.log, by unfold Cfg.pending; rw [pending_addSource]; exact h.pending, h.tr⟩,
    ⟨h.depth, h.active, fun a => (readyQ_addSource _ i a src).trans (h.ready a)⟩⟩

theorem scr {c : Cfg} {rest : List Instr} {i : Nat} {f : ScreenObj → ScreenObj}
    (hf : ∀ s, (f s).inputArgs = s.inputArgs := by intro; rfl) : Quiet c { c with code := rest, A := c.A.setScr i f } := by
  refine ⟨⟨?_, rfl, (Calm.refl c).pending, (Calm.refl c).tr⟩, (Level.refl c).view⟩
  unfold Cfg.pipe
  congr 1
  funext j
  show ((c.A.setScr i f).screens.getD j {}).inputArgs = _
  rw [setScr_getD]
  split
  · exact hf _
  · rfl

end Quiet

/-- the instruction carries no signal and no typed line, and (if it is a user action) forges none -/
def _root_.Simpleline.Instr.inert : Instr → Bool
  | .act a => !a.forges
  | .newLoop s => !s.cls.isInput
  | .callScr _ _ _ key => key.isNone
  | .processSignal _ | .dispatch _ _ | .callH _ _ _ | .inputReceived _ | .inputReady _ _ | .processInput _ _ => false
  | _ => true

/-- the instructions `printWidget` pushes: print chunks and blocking inputs -/
theorem inert_go (scr : Nat) (evs : List OutEv) (cur : List Str) (acc : List Instr) (h : acc.all Instr.inert = true) :
    (step.go scr evs cur acc).all Instr.inert = true := by
  induction evs generalizing cur acc with
  | nil => unfold step.go; split <;> simp [h, Instr.inert]
  | cons e es ih =>
    unfold step.go
    cases e with
    | line l => exact ih _ _ h
    | ask => apply ih; split <;> simp [h, Instr.inert]

theorem inert_script {pre post : List Instr} {acts : List Act} (ha : ∀ a ∈ acts, a.forges = false)
    (hpre : pre.all Instr.inert = true) (hpost : post.all Instr.inert = true) :
    (pre ++ acts.map Instr.act ++ post).all Instr.inert = true := by
  simp only [List.all_append, hpre, hpost, Bool.true_and, Bool.and_true, List.all_map, List.all_eq_true]
  intro a h
  simp [Instr.inert, ha a h]

theorem inert_init {c0 : Cfg} (h0 : Started c0) (hF : c0.NoForge) : c0.code.all Instr.inert = true := by
  obtain ⟨i, hc⟩ := h0.code
  rw [List.all_eq_true]
  intro ins hi
  have hf := hF ins hi
  simp only [hc, List.mem_append, List.mem_map, List.mem_singleton] at hi
  rcases hi with ⟨a, _, rfl⟩ | rfl
  · simpa [Instr.inert, Instr.forges] using hf
  · rfl

def _root_.Simpleline.Instr.isInputOp : Instr → Bool
  | .getInput2 .. | .blockingInput .. | .inputReceived _ | .inputReady .. => true
  | _ => false

/-- the instructions that take a signal from the active queue -/
def _root_.Simpleline.Instr.isTakeI : Instr → Bool
  | .getDispatch | .waitStep .. | .procIter _ => true
  | _ => false

/-- the instructions that hand what they carry on to the instructions they push, and what they add to the history -/
inductive Passes (c : Cfg) : Instr → List Instr → List Tr → Prop
  | processSignal (s : Sig) : Passes c (.processSignal s) [.dispatch s 0] []
  | dispatch (s : Sig) (i : Nat) (h : HRef) (d : Option Nat) : (handlersOf c.L s.cls)[i]? = some (h, d) →
      Passes c (.dispatch s i) [.callH h d s, .catchHandler, .dispatch s (i + 1)] []
  | itm (d : Option Nat) (s : Sig) : Passes c (.callH .itm d s) [.inputReceived s] [.call .itm d s]
  | ih (n : Nat) (d : Option Nat) (s : Sig) : Passes c (.callH (.ih n) d s) [.inputReady n s] [.call (.ih n) d s]
  | processInput (scr : Nat) (key : Str) : Passes c (.processInput scr key)
      [.callScr scr .input (c.A.scr scr).inputArgs (some key), .classify scr, .catchPI scr, .countAndAct scr, .endPI] []
  | newLoop (cls : Cls) (prio : Int) (sid : Nat) : Passes c (.act (.newLoop cls prio sid))
      [.newLoop { id := sid, cls := cls, prio := prio, src := .none }, .note "new<"] []

/-- the instructions that enqueue the signal they carry: a user action in `X` as it is, `execute_new_loop` in the level
it opens -/
inductive Sends (X : Cfg) : Instr → Sig → Cfg → Prop
  | act (cls : Cls) (prio : Int) (src : Src) (sid : Nat) :
      Sends X (.act (.enq cls prio src sid)) { id := sid, cls := cls, prio := prio, src := src } X
  | newLoop (s : Sig) : Sends X (.newLoop s) s X.opened

/-- an event that is neither a console read nor a screen callback -/
def _root_.Simpleline.Ev.plain : Ev → Bool
  | .h .. | .hret _ | .note _ | .quitcb _ => true
  | _ => false

/-- the events an instruction may log: a screen callback logs itself -/
inductive Logs : Instr → Ev → Prop
  | plain {ins : Instr} {e : Ev} : e.plain = true → Logs ins e
  | cb (scr : Nat) (cb : Cb) (arg : Option Nat) (key : Option Str) : Logs (.callScr scr cb arg key) (.cb scr cb arg key)

structure Still (c X : Cfg) : Prop where
  queues : X.L.queues = c.L.queues
  active : X.L.active = c.L.active
  tr : X.tr = c.tr
  log : X.log = c.log
  readers : X.A.readers = c.A.readers
  processing : X.A.processing = c.A.processing

def Delivers (X Y : Cfg) : Prop := Y = X ∨ X.deliver = some Y

theorem delivers_emit (P : Prog) (X : Cfg) (e : Ev) : Delivers (emit0 X e) (X.emit P e) := emit_cases P X e

/-- What the step of `c`, whose code is `ins :: rest`, does. `X`, quiet with respect to `c`, is the configuration the
operation the constructor is named after is applied to. -/
inductive StepEff (P : Prog) (c : Cfg) (ins : Instr) (rest : List Instr) : Cfg → Prop
  /-- nothing seen: inert instructions pushed on `rest`, or on part of it if the step raises or skips to a catcher -/
  | calm {c' : Cfg} (new rest' : List Instr) : Quiet c c' → c'.code = new ++ rest' → rest'.Sublist rest →
      new.all Instr.inert = true → StepEff P c ins rest c'
  /-- the signal or line the instruction carries is handed on -/
  | pass {X : Cfg} (new : List Instr) (t : List Tr) : Quiet c X → X.code = rest → Passes c ins new t →
      StepEff P c ins rest (push { X with tr := t ++ X.tr } new)
  /-- the signal the instruction carries is enqueued -/
  | enq {X Y : Cfg} (s : Sig) (new : List Instr) : Quiet c X → X.code = rest → Sends X ins s Y →
      new.all Instr.inert = true → StepEff P c ins rest (push (Y.enqueue s) new)
  /-- an event is logged, the reader may deliver a line; `new` has the callback's script in it -/
  | emit {X : Cfg} (e : Ev) (new : List Instr) : Quiet c X → X.code = rest → Logs ins e →
      (P.NoForge → new.all Instr.inert = true) → StepEff P c ins rest (push (X.emit P e) new)
  /-- `take` found the active queue empty even after the reader delivered a line -/
  | idle {X c' : Cfg} : Quiet c X → X.code = rest → X.deliver = some c' → StepEff P c ins rest c'
  /-- the head of the active queue is taken for dispatch, possibly after a delivery -/
  | pop {X Y : Cfg} (e : Int × Nat × Sig) (es : List (Int × Nat × Sig)) (more : List Instr) : ins.isTakeI = true →
      Quiet c X → X.code = rest → Delivers X Y → Y.L.activeQ.entries = e :: es → more.all Instr.inert = true →
      StepEff P c ins rest (push (Y.pop e es) (.processSignal e.2.2 :: more))
  /-- `close_loop`: the level below becomes the active one again -/
  | closeLevel (q a : Nat) : ins = .popLevel → c.L.levels.dropLast.getLast? = some a →
      StepEff P c ins rest { ({ c with code := rest } : Cfg).trace (.closeLevel q) with
        L := { c.L with levels := c.L.levels.dropLast, active := a, runLoop := false } }
  /-- `getInput2`, `blockingInput`: a new `InputHandler` asks for input (`startRequest_eq` says what that does) -/
  | request {X : Cfg} (ih : Nat) (src : Src) (text : Str) (new : List Instr) : ins.isInputOp = true → Still c X →
      X.code = new ++ rest → new.all Instr.inert = true → StepEff P c ins rest (final (startRequest X ih src text))
  /-- the hand-off with a non-empty request stack -/
  | handoff {c' : Cfg} (s : Sig) (rs : List Nat) (r : Nat) : ins = .inputReceived s → c.A.inputStack = rs ++ [r] →
      c'.A = { c.A with inputStack := [], processing := false } → c'.code = rest → c'.log = c.log →
      c'.L = (enqueueAll c (handoffSigs c.A.reqs rs r s.line (c.nextSid + 1))).L →
      c'.tr = (enqueueAll c (handoffSigs c.A.reqs rs r s.line (c.nextSid + 1))).tr → StepEff P c ins rest c'
  /-- a handler receives the result meant for it; on success its one-shot callback, if still there, is pushed -/
  | ready {c' : Cfg} (n : Nat) (s : Sig) (new : List Instr) : ins = .inputReady n s → s.ih = n → Still c c' →
      c'.code = new ++ rest → (new = [] ∨ (s.ok = true ∧ ∃ scr, new = [.processInput scr s.line])) →
      StepEff P c ins rest c'

theorem Passes.calm {c X : Cfg} {ins : Instr} {new : List Instr} {t : List Tr} (h : Passes c ins new t)
    (hX : Quiet c X) : Calm c (push { X with tr := t ++ X.tr } new) := by
  cases h <;> exact hX.toCalm.view

theorem Sends.calm {c X Y : Cfg} {ins : Instr} {s : Sig} (h : Sends X ins s Y) (hX : Quiet c X) : Calm c Y := by
  cases h
  · exact hX.toCalm
  · exact hX.toCalm.opened

theorem Sends.code {X Y : Cfg} {ins : Instr} {s : Sig} (h : Sends X ins s Y) : Y.code = X.code := by
  cases h <;> rfl

theorem Sends.depth {X Y : Cfg} {ins : Instr} {s : Sig} (h : Sends X ins s Y) : readyDepth Y.tr = readyDepth X.tr := by
  cases h <;> rfl

theorem calm_closed (c : Cfg) (rest : List Instr) (q a : Nat) : Calm c { ({ c with code := rest } : Cfg).trace (.closeLevel q) with
    L := { c.L with levels := c.L.levels.dropLast, active := a, runLoop := false } } :=
  (Calm.refl c).view

/-! The side conditions of the following forms of the constructors hold by unfolding the configurations: they are
filled in by `rfl` after the configurations have been read off the goal. -/

variable {P : Prog} {c : Cfg} {ins : Instr} {rest : List Instr}

theorem StepEff.still {c' : Cfg} (h : Quiet c c')
    (hc : c'.code = rest := by rfl) : StepEff P c ins rest c' :=
  .calm [] rest h hc (.refl _) rfl

theorem StepEff.pushed {c' : Cfg} {new : List Instr} (h : Quiet c c')
    (hc : c'.code = new ++ rest := by rfl) (hn : new.all Instr.inert = true := by rfl) : StepEff P c ins rest c' :=
  .calm new rest h hc (.refl _) hn

theorem StepEff.passed {c' : Cfg} {new : List Instr} (h : Quiet c c')
    (hp : Passes c ins new []) (hc : c'.code = new ++ rest := by rfl) : StepEff P c ins rest c' := by
  obtain ⟨code, L, A, log, tr, sid, r1, r2, r3, r4, r5⟩ := c'
  cases hc
  exact .pass (X := ⟨rest, L, A, log, tr, sid, r1, r2, r3, r4, r5⟩) new [] h.view rfl hp

theorem StepEff.raised {X : Cfg} {k : Kind} (h : Quiet c X)
    (hc : X.code = rest := by rfl) : StepEff P c ins rest (final (X.raise k)) :=
  .calm [] _ (h.raise k) rfl (hc ▸ raise_code X k) rfl

theorem StepEff.redrawn {X : Cfg} (h : Quiet c X)
    (hc : X.code = rest := by rfl) : StepEff P c ins rest (final (.ok X.redraw)) :=
  .still h.redraw ((redraw_code X).trans hc)

theorem StepEff.logged {X : Cfg} {e : Ev} (h : Quiet c X)
    (he : e.plain = true := by rfl) (hc : X.code = rest := by rfl) : StepEff P c ins rest (X.emit P e) :=
  .emit e [] h hc (.plain he) (fun _ => rfl)

theorem StepEff.take {X : Cfg} {more : List Instr} (h : Quiet c X) (hi : ins.isTakeI = true := by rfl)
    (hm : more.all Instr.inert = true := by rfl) (hc : X.code = rest := by rfl) :
    StepEff P c ins rest (final (do let x ← X.take; pure (push x.2 (.processSignal x.1 :: more)))) := by
  obtain ⟨Y, hd, hbl | ⟨e, es, he, ht⟩⟩ := Machine.take_cases X
  · rw [hbl.2]
    rcases hd with rfl | ⟨-, hd⟩
    · exact .still h hc
    · exact .idle h hc hd
  · rw [ht]
    exact .pop e es more hi h hc (hd.imp_right And.right) he hm

theorem doAct_eff (P : Prog) {X : Cfg} (a : Act) (hX : Quiet c X) (hc : X.code = rest) :
    StepEff P c (.act a) rest (final (doAct X a)) := by
  subst hc
  cases a <;> dsimp only [doAct]
  case enq => exact .enq _ [] hX rfl (.act ..) rfl
  case regSource => exact .still (hX.addSource _ _)
  case newLoop => exact .passed hX.view (.newLoop ..)
  case closeLoop | pushModal | closeDirect | getUserInput => exact .pushed hX.view
  case proc cls => cases cls <;> exact .pushed hX.view
  case forceQuit => exact .still hX.view
  case raiseExit | raiseErr => exact .raised hX
  case schedule =>
    split
    · exact .still hX.view
    · exact .still ((hX.view (by rfl)).redraw.view rfl) (redraw_code _)
  case push => exact .redrawn hX.view
  case replace =>
    split
    · exact .raised hX
    · exact .redrawn hX.view
  case closeSig | redrawSig => exact .still (hX.view.enqueue rfl) (enqueue_code _ _)
  case schedRedraw => exact .redrawn hX

theorem step_eff (P : Prog) (hc : c.code = ins :: rest) :
    StepEff P c ins rest (final (step P c)) := by
  cases ins
  -- the loop over the request stack is summed up in `step_inputReceived`; the other cases are read off `step`
  case inputReceived s =>
    cases hl : c.A.inputStack.getLast? with
    | none =>
      rw [step_inputReceived_empty P c s rest hc (List.getLast?_eq_none_iff.mp hl)]
      exact .raised .of_view
    | some r =>
      obtain ⟨rs, hst⟩ := List.getLast?_eq_some_iff.mp hl
      rw [step_inputReceived P c s rest rs r hc hst]
      exact .handoff s rs r rfl hst rfl rfl (enqueueAll_log _ _) rfl rfl
  all_goals simp only [step, hc]
  case act a => exact doAct_eff P a .of_view rfl
  case catchExit | catchHandler | modalRet | catchPS | catchDraw | printLines | catchPI | endPI | classify =>
    exact .still .of_view
  case procWait | closeLoop | pushModal | getInput => exact .pushed .of_view
  case hret | note => exact .logged .of_view
  case kill => exact .raised .of_view
  case apprun | waitCheck =>
    split
    · exact .still .of_view
    · exact .pushed .of_view
  case quitCb =>
    split
    · exact .logged .of_view
    · exact .still .of_view
  case mainCheck | drawScreen => split <;> exact .pushed .of_view
  case restoreRun => split <;> exact .still .of_view
  case loopCheck | maybeInput =>
    split
    · exact .pushed .of_view
    · exact .still .of_view
  case getDispatch => exact .take .of_view
  case processSignal =>
    split
    · exact .passed .of_view (.processSignal _)
    · split
      · exact .pushed .of_view
      · exact .still .of_view
  case dispatch =>
    split
    · next hg =>
      split
      · exact .still .of_view
      · exact .passed .of_view (.dispatch _ _ _ _ hg)
    · exact .still .of_view
  case callH =>
    split
    · exact .pushed .of_view
    · exact .pushed .of_view
    · exact .pass _ _ (X := { c with code := rest }) .of_view rfl (.itm _ _)
    · exact .pass _ _ (X := { c with code := rest }) .of_view rfl (.ih _ _ _)
    · exact .logged .of_view
    · exact .emit _ _ .of_view rfl (.plain rfl) fun h => inert_script (pre := []) (post := [.hret _]) (h.2 _ _) rfl rfl
  case waitStep =>
    split
    · exact .take .of_view
    · exact .still .of_view
  case procIter =>
    split
    · exact .still .of_view
    · next he =>
      split
      · exact .still .of_view
      · split
        · exact .pop _ _ [.procIter _] (X := { c with code := rest }) rfl .of_view rfl (.inl rfl) he rfl
        · split
          · exact .pop _ _ [.procIter _] (X := { c with code := rest }) rfl .of_view rfl (.inl rfl) he rfl
          · exact .still .of_view
  case newLoop =>
    split
    · exact .still .of_view
    · exact .enq _ [.mainCheck _] (X := { c with code := rest }) .of_view rfl (.newLoop _) rfl
  case popLevel =>
    split
    · exact .raised .of_view
    · split
      · exact .raised .of_view
      · next ha => exact .closeLevel _ _ rfl ha
  case closeScreen =>
    split
    · exact .raised .of_view
    · split
      · exact .raised .of_view
      · exact .pushed .of_view
  case closeScreen2 | processScreen =>
    split
    · exact .raised .of_view
    · split <;> exact .pushed .of_view
  case closeScreen3 =>
    split
    · split
      · exact .raised (Quiet.redraw .of_view) (redraw_code _)
      · exact .redrawn .of_view
    · split
      · exact .raised .of_view
      · exact .still .of_view
  case afterSetup =>
    split
    · exact .pushed .of_view
    · split
      · exact .raised .of_view
      · split
        · exact .pushed .of_view
        · exact .redrawn .of_view
  case afterSetupFail =>
    split
    · exact .raised .of_view
    · exact .still .of_view
  case afterSetup2 => exact .pushed ((Quiet.refl c).addSource _ _).view
  case identCheck =>
    split
    · exact .raised .of_view
    · split
      · exact .calm [] _ .of_view rfl (List.dropWhile_sublist _) rfl
      · exact .pushed .of_view
  case callScr =>
    exact .emit _ _ .scr rfl (.cb ..) fun h => inert_script (post := [.scrRet ..]) (h.1 _ _ _) (by split <;> rfl) rfl
  case scrRet =>
    split
    · split
      · exact .still .of_view
      · exact .still ((Quiet.scr (rest := rest) (f := fun s => { s with ready := true })).addSource _ _).view
    · exact .still .of_view
    · exact .still .of_view
    · exact .still .of_view
  case printWidget =>
    split
    · exact .raised .of_view
    · split
      · exact .still .of_view
      · exact .pushed .of_view rfl (inert_go _ _ _ _ rfl)
  case getInput2 =>
    split
    · exact .still .scr
    · exact .request _ _ _ [] rfl ⟨rfl, rfl, rfl, rfl, rfl, rfl⟩ rfl rfl
  case blockingInput => exact .request _ _ _ [.waitInput _] rfl ⟨rfl, rfl, rfl, rfl, rfl, rfl⟩ rfl rfl
  case waitInput =>
    split
    · exact .still .of_view
    · split
      · exact .still .of_view
      · exact .pushed .of_view
  case inputReady =>
    split
    · exact .still .of_view
    · next hn =>
      have hs := Decidable.not_not.mp hn
      split
      · exact .ready _ _ [] rfl hs ⟨rfl, rfl, rfl, rfl, rfl, rfl⟩ rfl (.inl rfl)
      · next hok =>
        split
        · exact .ready _ _ [_] rfl hs ⟨rfl, rfl, rfl, rfl, rfl, rfl⟩ rfl (.inr ⟨Decidable.not_not.mp hok, _, rfl⟩)
        · exact .ready _ _ [] rfl hs ⟨rfl, rfl, rfl, rfl, rfl, rfl⟩ rfl (.inl rfl)
  case processInput => exact .passed .of_view (.processInput _ _)
  case countAndAct =>
    generalize hf : (fun s : ScreenObj => ({ s with err := if c.retAction = .error then s.err + 1 else 0 } : ScreenObj)) = f
    have hf : ∀ s, (f s).inputArgs = s.inputArgs := by subst hf; intro; rfl
    split
    · exact .raised (.scr hf)
    · split
      · split
        · exact .redrawn (.scr hf)
        · exact .pushed (.scr hf)
      · exact .still (.scr hf)
      · exact .redrawn (.scr hf)
      · exact .pushed (.scr hf)
      · split
        · exact .pushed (.scr hf)
        · exact .raised (.scr hf)
  case afterQuit =>
    split
    · exact .raised .of_view
    · exact .raised .of_view
    · exact .redrawn .of_view

theorem step_cases (P : Prog) (c : Cfg) :
    (c.code = [] ∧ final (step P c) = c) ∨
      ∃ ins rest c', c.code = ins :: rest ∧ final (step P c) = c' ∧ StepEff P c ins rest c' := by
  cases hc : c.code with
  | nil => exact .inl ⟨rfl, by rw [Machine.step_nil hc]; rfl⟩
  | cons ins rest => exact .inr ⟨ins, rest, _, rfl, rfl, step_eff P hc⟩

end Simpleline.Input
