/-
  TicketMachine object: the algebra of `TM.get` under the three methods, preservation of `TM.WF`, and the answer
  to one call of a sequence of calls (`TM.run_out_at`).
-/
import Simpleline.Lemmas.ObjectsAssoc

namespace Simpleline.Objects

variable {κ : Type} [DecidableEq κ]

theorem TM.get_eq_some {m : TM κ} {l : κ} {t : Nat} {b : Bool} :
    m.get l t = some b ↔ ∃ d, alookup l m.lines = some d ∧ alookup t d = some b := by
  simp [TM.get, Option.bind_eq_some_iff]

theorem TM.get_setLine (m : TM κ) (l : κ) (d' : List (Nat × Bool)) (c' : Nat) (l' : κ) (t' : Nat) :
    TM.get { lines := aset l d' m.lines, counter := c' } l' t' = if l = l' then alookup t' d' else m.get l' t' := by
  simp only [TM.get, alookup_aset]; split <;> simp

theorem TM.take_fst (m : TM κ) (l : κ) : (m.take l).1 = m.counter := rfl

theorem TM.take_counter (m : TM κ) (l : κ) : (m.take l).2.counter = m.counter + 1 := rfl

theorem TM.get_take (m : TM κ) (l l' : κ) (t' : Nat) :
    (m.take l).2.get l' t' = if l' = l ∧ t' = m.counter then some false else m.get l' t' := by
  simp only [TM.take, TM.get_setLine]
  by_cases hl : l = l'
  · subst hl
    simp only [if_true, true_and]
    cases hd : alookup l m.lines with
    | none => simp only [alookup, TM.get, hd]; grind
    | some d => simp only [alookup_aset, TM.get, hd]; grind
  · grind

theorem TM.mark_counter (m : TM κ) (l : κ) : (m.mark l).counter = m.counter := by
  unfold TM.mark; split <;> rfl

theorem TM.get_mark (m : TM κ) (l l' : κ) (t' : Nat) :
    (m.mark l).get l' t' = if l' = l then (m.get l' t').map (fun _ => true) else m.get l' t' := by
  unfold TM.mark
  split
  · next hd =>
    split
    · next hl => simp [TM.get, hl, hd]
    · rfl
  · next d hd =>
    rw [TM.get_setLine]
    by_cases hl : l = l'
    · subst hl
      simp [TM.get, hd, alookup_map_val (fun _ => true)]
    · rw [if_neg hl, if_neg (Ne.symm hl)]

theorem TM.check_counter (m : TM κ) (l : κ) (t : Nat) : (m.check l t).2.counter = m.counter := by
  unfold TM.check; split
  · rfl
  · split <;> rfl

theorem TM.check_fst (m : TM κ) (l : κ) (t : Nat) :
    (m.check l t).1 = match m.get l t with
      | some true => .ready
      | some false => .wait
      | none => .keyError := by
  unfold TM.check TM.get
  split
  · rename_i hd; simp [hd]
  · rename_i d hd
    simp only [hd, Option.bind_some]
    split <;> simp_all

theorem TM.check_ready_iff (m : TM κ) (l : κ) (t : Nat) : (m.check l t).1 = .ready ↔ m.get l t = some true := by
  rw [TM.check_fst]; split <;> simp_all

theorem TM.check_wait_iff (m : TM κ) (l : κ) (t : Nat) : (m.check l t).1 = .wait ↔ m.get l t = some false := by
  rw [TM.check_fst]; split <;> simp_all

theorem TM.check_keyError_iff (m : TM κ) (l : κ) (t : Nat) : (m.check l t).1 = .keyError ↔ m.get l t = none := by
  rw [TM.check_fst]; split <;> simp_all

theorem TM.check_snd_of_not_ready (m : TM κ) (l : κ) (t : Nat) (h : m.get l t ≠ some true) :
    (m.check l t).2 = m := by
  unfold TM.check
  split
  · rfl
  · rename_i d hd
    split
    · rfl
    · rename_i ht; exact absurd (by simp [TM.get, hd, ht]) h
    · rfl

theorem TM.check_snd_of_ready {m : TM κ} {l : κ} {t : Nat} {d : List (Nat × Bool)}
    (hd : alookup l m.lines = some d) (ht : alookup t d = some true) :
    (m.check l t).2 = { lines := aset l (aerase t d) m.lines, counter := m.counter } := by
  simp [TM.check, hd, ht]

/-- `hd'`: each key of the new dictionary is the ticket being handed out (the old counter) or was a ticket of that
line. -/
theorem TM.WF.setLine {m : TM κ} (h : m.WF) (l : κ) (d' : List (Nat × Bool)) (c' : Nat)
    (hc : m.counter ≤ c') (hn : (d'.map Prod.fst).Nodup)
    (hd' : ∀ q ∈ d', (q.1 = m.counter ∧ q.1 < c') ∨ ∃ d, (l, d) ∈ m.lines ∧ ∃ q0 ∈ d, q0.1 = q.1) :
    TM.WF { lines := aset l d' m.lines, counter := c' } := by
  -- a ticket of the new dictionary is below the new counter, and in no other line
  have hlt : ∀ q ∈ d', q.1 < c' := fun q hq =>
    (hd' q hq).elim (·.2) fun ⟨d, hd, q0, hq0, e⟩ => e ▸ Nat.lt_of_lt_of_le (h.idLt _ hd _ hq0) hc
  have hone : ∀ q ∈ d', ∀ p ∈ m.lines, ∀ q' ∈ p.2, q.1 = q'.1 → l = p.1 := fun q hq p hp q' hq' e =>
    (hd' q hq).elim (fun c => absurd (h.idLt p hp q' hq') (by omega))
      fun ⟨d, hd, q0, hq0, e0⟩ => h.oneLine _ hd _ hp _ hq0 _ hq' (e0.trans e)
  refine ⟨nodup_keys_aset _ _ _ h.linesNodup, ?_, ?_, ?_⟩
  · intro p hp
    rcases mem_aset hp with rfl | hp
    · exact hn
    · exact h.ticketsNodup p hp
  · intro p hp q hq
    rcases mem_aset hp with rfl | hp
    · exact hlt q hq
    · exact Nat.lt_of_lt_of_le (h.idLt p hp q hq) hc
  · intro p hp p' hp' q hq q' hq' e
    rcases mem_aset hp with rfl | hp <;> rcases mem_aset hp' with rfl | hp'
    · rfl
    · exact hone q hq p' hp' q' hq' e
    · exact (hone q' hq' p hp q hq e.symm).symm
    · exact h.oneLine p hp p' hp' q hq q' hq' e

omit [DecidableEq κ] in
theorem TM.WF.empty : TM.WF ({} : TM κ) := by
  refine ⟨by simp, ?_, ?_, ?_⟩ <;> simp

theorem TM.WF.step {m : TM κ} (h : m.WF) (op : TMOp κ) : (m.step op).2.WF := by
  cases op with
  | take l =>
    simp only [TM.step, TM.take]
    cases hd : alookup l m.lines with
    | none =>
      refine h.setLine l _ _ (Nat.le_succ _) (by simp) fun q hq => .inl ?_
      rw [List.mem_singleton.1 hq]
      exact ⟨rfl, Nat.lt_succ_self _⟩
    | some d =>
      have hd := mem_of_alookup hd
      refine h.setLine l _ _ (Nat.le_succ _) (nodup_keys_aset _ _ _ (h.ticketsNodup _ hd)) fun q hq => ?_
      rcases mem_aset hq with rfl | hq
      · exact .inl ⟨rfl, Nat.lt_succ_self _⟩
      · exact .inr ⟨d, hd, q, hq, rfl⟩
  | mark l =>
    simp only [TM.step, TM.mark]
    split
    · exact h
    · rename_i d hd
      have hd := mem_of_alookup hd
      refine h.setLine l _ _ (Nat.le_refl _) (keys_map_val (fun _ => true) d ▸ h.ticketsNodup _ hd) fun q hq => ?_
      obtain ⟨q0, hq0, rfl⟩ := List.mem_map.1 hq
      exact .inr ⟨d, hd, q0, hq0, rfl⟩
  | check l t =>
    simp only [TM.step]
    by_cases hr : m.get l t = some true
    · obtain ⟨d, hd, ht⟩ := TM.get_eq_some.1 hr
      rw [TM.check_snd_of_ready hd ht]
      have hd := mem_of_alookup hd
      exact h.setLine l _ _ (Nat.le_refl _) (((aerase_sublist t d).map Prod.fst).nodup (h.ticketsNodup _ hd))
        fun q hq => .inr ⟨d, hd, q, (aerase_sublist t d).subset hq, rfl⟩
    · rw [TM.check_snd_of_not_ready m l t hr]
      exact h

theorem TM.WF.run {m : TM κ} (h : m.WF) (ops : List (TMOp κ)) : (m.run ops).2.WF := by
  induction ops generalizing m with
  | nil => exact h
  | cons op ops ih => exact ih (h.step op)

theorem TM.WF.get_lt {m : TM κ} (h : m.WF) {l : κ} {t : Nat} {b : Bool} (hg : m.get l t = some b) :
    t < m.counter := by
  obtain ⟨d, hd, ht⟩ := TM.get_eq_some.1 hg
  exact h.idLt _ (mem_of_alookup hd) _ (mem_of_alookup ht)

theorem TM.WF.get_check {m : TM κ} (h : m.WF) (l l' : κ) (t t' : Nat) :
    (m.check l t).2.get l' t' = if l' = l ∧ t' = t ∧ m.get l t = some true then none else m.get l' t' := by
  by_cases hr : m.get l t = some true
  · obtain ⟨d, hd, ht⟩ := TM.get_eq_some.1 hr
    rw [TM.check_snd_of_ready hd ht, TM.get_setLine]
    by_cases hl : l = l'
    · subst hl
      simp only [if_true, true_and, hr, and_true]
      rw [alookup_aerase _ _ _ (h.ticketsNodup _ (mem_of_alookup hd))]
      simp only [TM.get, hd, Option.bind_some]
      grind
    · grind
  · rw [TM.check_snd_of_not_ready m l t hr]; simp [hr]

theorem TM.WF.get_take_iff {m : TM κ} (h : m.WF) (l l' : κ) (t' : Nat) (b : Bool) :
    (m.take l).2.get l' t' = some b ↔ m.get l' t' = some b ∨ (l' = l ∧ t' = m.counter ∧ b = false) := by
  rw [TM.get_take]
  split
  · next c =>
    obtain ⟨rfl, rfl⟩ := c
    refine ⟨fun e => .inr ⟨rfl, rfl, (Option.some.inj e).symm⟩, ?_⟩
    rintro (e | ⟨_, _, rfl⟩)
    · exact absurd (h.get_lt e) (Nat.lt_irrefl _)
    · rfl
  · next c => exact ⟨.inl, fun e => e.resolve_right fun e => c ⟨e.1, e.2.1⟩⟩

theorem TM.get_mark_iff (m : TM κ) (l l' : κ) (t' : Nat) (b : Bool) :
    (m.mark l).get l' t' = some b ↔
      if l' = l then b = true ∧ ∃ b0, m.get l' t' = some b0 else m.get l' t' = some b := by
  rw [TM.get_mark]
  split
  · simp only [Option.map_eq_some_iff]
    exact ⟨fun ⟨b0, e, hb⟩ => ⟨hb.symm, b0, e⟩, fun ⟨hb, b0, e⟩ => ⟨b0, e, hb.symm⟩⟩
  · exact Iff.rfl

theorem TM.WF.get_check_iff {m : TM κ} (h : m.WF) (l l' : κ) (t t' : Nat) (b : Bool) :
    (m.check l t).2.get l' t' = some b ↔ m.get l' t' = some b ∧ ¬ (l' = l ∧ t' = t ∧ b = true) := by
  rw [h.get_check]
  split
  · next c =>
    obtain ⟨rfl, rfl, c⟩ := c
    simp only [reduceCtorEq, true_and, false_iff, not_and, Decidable.not_not]
    intro e; rw [c] at e; exact (Option.some.inj e).symm
  · next c =>
    exact ⟨fun e => ⟨e, fun ⟨h1, h2, h3⟩ => c ⟨h1, h2, by rw [← h1, ← h2, e, h3]⟩⟩, fun e => e.1⟩


theorem TM.run_append (m : TM κ) (ops ops' : List (TMOp κ)) :
    m.run (ops ++ ops') = ((m.run ops).1 ++ ((m.run ops).2.run ops').1, ((m.run ops).2.run ops').2) := by
  induction ops generalizing m with
  | nil => simp [TM.run]
  | cons op ops ih => simp [TM.run, ih]

theorem TM.run_getElem? (m : TM κ) (ops : List (TMOp κ)) (i : Nat) :
    (m.run ops).1[i]? = ops[i]?.map fun op => ((m.run (ops.take i)).2.step op).1 := by
  induction ops generalizing m i with
  | nil => rfl
  | cons op ops ih =>
    cases i with
    | zero => rfl
    | succ i => exact ih (m.step op).2 i

theorem TM.run_out_at (m : TM κ) (pre post : List (TMOp κ)) (op : TMOp κ) :
    (m.run (pre ++ op :: post)).1[pre.length]? = some ((m.run pre).2.step op).1 := by
  rw [TM.run_getElem?]
  simp

theorem TM.step_counter (m : TM κ) (op : TMOp κ) :
    (m.step op).2.counter = m.counter + if op.isTake then 1 else 0 := by
  cases op <;> simp [TM.step, TMOp.isTake, TM.take_counter, TM.check_counter, TM.mark_counter]

theorem TM.run_counter (m : TM κ) (ops : List (TMOp κ)) :
    (m.run ops).2.counter = m.counter + ops.countP TMOp.isTake := by
  induction ops generalizing m with
  | nil => simp [TM.run]
  | cons op ops ih =>
    simp only [TM.run, ih, TM.step_counter, List.countP_cons]
    omega

end Simpleline.Objects
