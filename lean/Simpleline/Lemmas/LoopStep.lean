/-
  Master lemma: every machine transition is `Plain`, a `TakeTrans` or a `PutBackTrans` (see LoopOps).
  The instructions of the loop core instruction by instruction: each branch of `step` is a composition of the
  helpers whose effect on the view LoopOps describes. The application instructions (scheduler, input pipeline, user
  actions) are `Plain` by the walk `step_app` of `MachineClosed`.
-/
import Simpleline.Lemmas.LoopOps

namespace Simpleline

theorem Plain.setA {v : QView} {c : Cfg} (a : AppSt) (h : Plain v c.view) :
    Plain v ({ c with A := a } : Cfg).view := h

/-- A configuration that differs from `c` in code, application state or registers only; the chains below start
from it unless they start with a structural operation. The equation is found by unfolding, once the chain has
been matched against the goal. -/
theorem Plain.same {c c' : Cfg} (h : c'.view = c.view := by rfl) : Plain c.view c'.view :=
  h ▸ Plain.rfl'

theorem enqueue_code (c : Cfg) (s : Sig) (r : List Instr) :
    ({ c with code := r } : Cfg).enqueue s = { c.enqueue s with code := r } := by
  rw [Machine.enqueue_eq, Machine.enqueue_eq]

theorem deliver_code (c : Cfg) (r : List Instr) :
    ({ c with code := r } : Cfg).deliver = c.deliver.map (fun d => { d with code := r }) := by
  unfold Cfg.deliver
  dsimp only
  split
  · rfl
  · simp only [Cfg.newSig, Option.map_some]
    by_cases hf : c.L.forceQuit = true <;> simp [Cfg.enqueue, hf, Cfg.trace]

theorem TakeTrans.of_code {c c' : Cfg} {r : List Instr} (h : TakeTrans { c with code := r } c') : TakeTrans c c' := by
  obtain ⟨vm, h1 | ⟨h1, d, hd, rfl⟩, h2⟩ := h
  · exact ⟨vm, .inl h1, h2⟩
  · rw [deliver_code] at hd
    obtain ⟨d0, hd0, rfl⟩ := Option.map_eq_some_iff.1 hd
    exact ⟨_, .inr ⟨h1, d0, hd0, rfl⟩, h2⟩

theorem take_eff (c : Cfg) :
    match c.take with
    | .ok (_, c') => TakeTrans c c'
    | .error (_, c') => Plain c.view c'.view := by
  obtain ⟨c1, h1, ⟨-, h2⟩ | ⟨e, es, he, h2⟩⟩ := Machine.take_cases c <;> rw [h2]
  · rcases h1 with rfl | ⟨-, hd⟩
    · exact Plain.rfl'
    · exact Plain.deliver hd Plain.rfl'
  · refine ⟨c1.view, ?_, e, es, he, rfl⟩
    rcases h1 with rfl | ⟨h0, hd⟩
    · exact .inl rfl
    · exact .inr ⟨h0, c1, hd, rfl⟩

def EffR (c : Cfg) (r : Except (Outcome × Cfg) Cfg) : Prop :=
  match r with
  | .ok c' => Eff c c'
  | .error (_, c') => Eff c c'

@[simp] theorem EffR_ok (c c' : Cfg) : EffR c (.ok c') ↔ Eff c c' := Iff.rfl
@[simp] theorem EffR_error (c c' : Cfg) (o : Outcome) : EffR c (.error (o, c')) ↔ Eff c c' := Iff.rfl

theorem EffR.of_ExQ {c : Cfg} {r : Except (Outcome × Cfg) Cfg} (h : ExQ c.view r) : EffR c r := by
  unfold EffR; unfold ExQ at h
  split <;> simp only at h <;> exact .inl h

theorem EffR.ite {c : Cfg} {p : Prop} [Decidable p] {x y : Except (Outcome × Cfg) Cfg}
    (hx : EffR c x) (hy : EffR c y) : EffR c (if p then x else y) := by
  split <;> assumption

theorem EffR.same {c c' : Cfg} (h : c'.view = c.view := by rfl) : EffR c (.ok c') := .inl (.same h)

theorem EffR.raise {c c' : Cfg} (k : Kind) (h : Plain c.view c'.view) : EffR c (c'.raise k) :=
  .of_ExQ (.raise k h)

theorem EffR.take_bind {c0 : Cfg} {r : List Instr} (k : Sig → List Instr) :
    EffR c0 (do let (s, c) ← ({ c0 with code := r } : Cfg).take; pure (push c (k s))) := by
  have h := take_eff { c0 with code := r }
  split at h
  · next ht =>
    rw [ht]
    exact .inr (.inl (TakeTrans.of_code h))
  · next ht =>
    rw [ht]
    exact .inl h

theorem pop_none {v : QView} (q : Nat) (h : v.levels.dropLast.getLast? = none) :
    v.pop q = { v with levels := [], tr := .closeLevel q :: v.tr } := by
  unfold QView.pop; rw [h]

theorem pop_some {v : QView} (q a : Nat) (h : v.levels.dropLast.getLast? = some a) :
    v.pop q = { v with levels := v.levels.dropLast, active := a, runLoop := false, tr := .closeLevel q :: v.tr } := by
  unfold QView.pop; rw [h]

theorem EffR.of_app {c : Cfg} {r : Except (Outcome × Cfg) Cfg} (h : AppRes (fun m => Plain c.view m.view) r) :
    EffR c r := by
  obtain ⟨m, hm, rfl | ⟨k, -, rfl⟩ | rfl⟩ := h
  · exact .inl hm
  · exact .raise k hm
  · exact .inl hm

/-- The instructions of the loop core, one by one. In each case the result is read inside out: `.same` is the
configuration with the executed instruction dropped (and whatever the branch changes outside the view), then come the
helpers of the branch. A bare `.same` or `.inl` says that the transition is `Plain`; `.raise` is for branches that end
in `raise`. -/
theorem step_eff (P : Prog) (c0 : Cfg) : EffR c0 (step P c0) := by
  rcases hc : c0.code with _ | ⟨ins, rest⟩
  · unfold step; rw [hc]; exact .inl Plain.rfl'
  cases ha : Dispatch.otherI ins
  · unfold step
    rw [hc]
    clear hc
    -- one goal per instruction of the core, showing that instruction's branch of `step`
    cases ins <;> first | (cases ha; done) | with_reducible (conv => arg 2; whnf; zeta)
    case act a =>
      cases a <;> first | (cases ha; done) | exact .inl (.of_struct (.forceQuit _))
    case getDispatch => exact EffR.take_bind fun s => [.processSignal s]
    case waitStep cls t =>
      exact .ite (EffR.take_bind fun s => [.processSignal s, .waitCheck cls t]) (.inl (.trace _ rfl .same))
    case procIter =>
      split
      · exact .inl (.trace _ rfl .same)
      · rename_i e es he
        refine .ite (.inl (.trace _ rfl .same)) ?_
        split
        · exact .inr (.inl ⟨_, .inl rfl, e, es, he, rfl⟩)
        · exact .ite (.inr (.inl ⟨_, .inl rfl, e, es, he, rfl⟩)) (.inr (.inr ⟨e, es, he, rfl⟩))
    case apprun => exact .ite .same (.inl (.of_struct (.apprun _)))
    case restoreRun => exact .ite .same (.inl (.of_struct (.setRun _)))
    case newLoop s =>
      split
      · exact .same
      · rename_i hf
        exact .inl (.push _ (.enqueue s (.of_struct (.open _ (by simpa using hf)))))
    case popLevel =>
      split
      · exact .raise _ .same
      · rename_i q hq
        have hp := Plain.of_struct (StructOp.pop c0.view q hq)
        split
        · rename_i hl
          rw [pop_none q hl] at hp
          exact .raise _ hp
        · rename_i a hl
          rw [pop_some q a hl] at hp
          exact .inl hp
    case quitCb =>
      split
      · exact .inl (.emit P _ .same)
      · exact .same
    case mainCheck => exact .ite .same (.inl (.push _ (.trace _ rfl .same)))
    case processSignal => exact .ite .same (.ite .same (.inl (.trace _ rfl .same)))
    case dispatch =>
      split
      · exact .ite (.inl (.trace _ rfl .same)) .same
      · exact .inl (.trace _ rfl .same)
    case kill => exact .raise _ (.trace _ rfl .same)
    case callH =>
      split
      iterate 4 exact .inl (.push _ (.trace _ rfl .same))
      · exact .inl (.emit P _ (.trace _ rfl .same))
      · exact .inl (.push _ (.emit P _ (.trace _ rfl .same)))
    case hret => exact .inl (.emit P _ .same)
    case procWait => exact .inl (.push _ (.trace _ rfl .same))
    case waitCheck => exact .ite (.inl (.trace _ rfl .same)) .same
    case closeLoop => exact .inl (.push _ (.trace _ rfl (.trace _ rfl .same)))
    case loopCheck => exact .ite .same .same
    case catchExit | catchHandler => exact .same
  · exact .of_app (step_app (Plain.appClosed c0 rest) P hc ha)

end Simpleline
