/-
  C20d, GLib machine: what the instructions of a flat run do (micro steps), under the invariant of flat runs.
-/
import Simpleline.Lemmas.FlatBasic
import Simpleline.Lemmas.GMStepAll

namespace Simpleline.Flat
open Simpleline Simpleline.GLoop

theorem GSteps.trans {P : Prog} {a b c : G.Cfg} (h1 : GSteps P a b) (h2 : GSteps P b c) : GSteps P a c := by
  induction h1 with
  | refl => exact h2
  | head hs _ ih => exact .head hs (ih h2)

theorem GSteps.one {P : Prog} {c c' : G.Cfg} (h : G.step P c = .ok c') : GSteps P c c' := .head h (.refl _)

theorem GSteps.runFuel {P : Prog} {c c' : G.Cfg} (h : GSteps P c c') :
    ∃ k, ∀ j, G.runFuel P (k + j) c = G.runFuel P j c' := by
  induction h with
  | refl => exact ⟨0, fun j => by simp⟩
  | head hs _ ih =>
    obtain ⟨k, hk⟩ := ih
    refine ⟨k + 1, fun j => ?_⟩
    have : k + 1 + j = (k + j) + 1 := by omega
    rw [this, G.runFuel, hs]
    exact hk j

/-- the handler list a source of signal `s` carries, when the handlers are the initial ones -/
def hl (hs : List (Cls × HRef × Option Nat)) (s : Sig) : G.HList :=
  if hsOf (baseH ++ hs) s.cls ≠ [] then .live else if s.cls = .exception then .kill else .empty

theorem hlistFor_eq {hs : List (Cls × HRef × Option Nat)} {L : G.GSt} (h : L.handlers = baseH ++ hs) (s : Sig) :
    L.hlistFor s = hl hs s := by
  show (if hsOf L.handlers s.cls ≠ [] then _ else _) = _
  rw [h]; rfl

/-- One loop with one context (sources `srcs` in attach order, epoch `ep`, no signal sources registered); source ids
are distinct and below the counter, the signals flat, the handler lists as decided at enqueue time; exactly the source
`busy` is in dispatch; no force quit; the handlers are the initial ones; no reader thread; `st` are the invocation
counters and `lg` the log. -/
structure GSim (hs : List (Cls × HRef × Option Nat)) (c : G.Cfg) (st : List (Nat × Nat)) (srcs : List G.GSource)
    (busy : Option Nat) (run : Bool) (ep : Nat) (lg : List Ev) : Prop where
  ctxs : c.L.ctxs = [{ sources := srcs, epoch := ep, running := run, srcset := [] }]
  wf : ∀ g ∈ srcs, g.id < c.L.nextSrc ∧ sigOf (gsigOf g.sig) = g.sig ∧ g.hs = hl hs g.sig ∧ g.inCall = (busy == some g.id)
  nodup : srcs.Pairwise (fun a b => a.id ≠ b.id)
  busy_lt : ∀ b, busy = some b → b < c.L.nextSrc
  loops : c.L.loops = [0]
  fq : c.L.forceQuit = false
  handlers : c.L.handlers = baseH ++ hs
  readers : c.A.readers = []
  cnt : ∀ hid, gcallCount c.tr hid = cntOf st hid
  log : c.log = lg

variable {hs : List (Cls × HRef × Option Nat)} {c : G.Cfg} {st : List (Nat × Nat)} {srcs : List G.GSource}
  {busy : Option Nat} {run : Bool} {ep : Nat} {lg : List Ev}

/-- the loop-state fields the invariant reads are unchanged -/
def gsameL (L L' : G.GSt) : Prop :=
  L'.ctxs = L.ctxs ∧ L'.nextSrc = L.nextSrc ∧ L'.loops = L.loops ∧ L'.forceQuit = L.forceQuit ∧ L'.handlers = L.handlers

theorem gsameL_refl (L : G.GSt) : gsameL L L := ⟨rfl, rfl, rfl, rfl, rfl⟩

theorem GSim.frame (h : GSim hs c st srcs busy run ep lg) (c' : G.Cfg) (lg' : List Ev) (hL : gsameL c.L c'.L)
    (hr : c'.A.readers = c.A.readers) (htr : ∀ hid, gcallCount c'.tr hid = gcallCount c.tr hid) (hlog : c'.log = lg') :
    GSim hs c' st srcs busy run ep lg' := by
  obtain ⟨h1, h2, h3, h4, h5⟩ := hL
  exact ⟨h1.trans h.ctxs, by rw [h2]; exact h.wf, h.nodup, by rw [h2]; exact h.busy_lt, h3.trans h.loops, h4.trans h.fq,
    h5.trans h.handlers, hr.trans h.readers, fun hid => (htr hid).trans (h.cnt hid), hlog⟩

theorem gemit_eq (P : Prog) (c : G.Cfg) (e : Ev) (hr : c.A.readers = []) : c.emit P e = { c with log := e :: c.log } := by
  simp only [G.Cfg.emit, G.Cfg.deliver, hr]
  split <;> rfl

theorem ghandlersOf_eq {L : G.GSt} (h : L.handlers = baseH ++ hs) (k : Nat) :
    G.handlersOf L (.user k) = hsOf hs (.user k) := by
  show hsOf L.handlers (.user k) = _
  rw [h, hsOf_base]

/-- `enqueue_signal`: a new idle source is attached behind the others -/
theorem gstep_enq (P : Prog) (h : GSim hs c st srcs busy run ep lg) (g : GSig) (rest : List G.Instr)
    (hc : c.code = .act (actOf g) :: rest) :
    ∃ c' gn, G.step P c = .ok c' ∧ c'.code = rest ∧ gsigOf gn.sig = g ∧ GSim hs c' st (srcs ++ [gn]) busy run ep lg := by
  let gn : G.GSource := { id := c.L.nextSrc, sig := sigOf g, hs := hl hs (sigOf g) }
  refine ⟨{ c with code := rest,
                   L := { c.L with ctxs := [{ sources := srcs ++ [gn], epoch := ep, running := run, srcset := [] }],
                                   nextSrc := c.L.nextSrc + 1 },
                   tr := .attach 0 gn :: .m (.enq 0 (sigOf g)) :: c.tr }, gn, ?_, rfl, rfl, ?_⟩
  · have e1 : c.L.hlistFor (sigOf g) = hl hs (sigOf g) := hlistFor_eq h.handlers _
    simp [G.step, hc, G.doAct, actOf, G.Cfg.enqueue, G.Cfg.enq?, h.fq, G.GSt.route, h.loops, G.GSt.ctx, h.ctxs,
      G.GSt.setCtx, listSet, gn]
    exact ⟨⟨rfl, e1⟩, rfl⟩
  · refine ⟨rfl, ?_, ?_, ?_, h.loops, h.fq, h.handlers, h.readers, h.cnt, h.log⟩
    · intro x hx
      rcases List.mem_append.1 hx with hx | hx
      · have := h.wf x hx
        exact ⟨Nat.lt_succ_of_lt this.1, this.2⟩
      · simp only [List.mem_singleton] at hx
        subst hx
        refine ⟨Nat.lt_succ_self _, rfl, rfl, ?_⟩
        show false = _
        cases hb : busy with
        | none => rfl
        | some b =>
          have := h.busy_lt b hb
          have hne : b ≠ c.L.nextSrc := by omega
          simp [gn, hne]
    · rw [List.pairwise_append]
      refine ⟨h.nodup, by simp, ?_⟩
      intro a ha b hb
      simp only [List.mem_singleton] at hb
      subst hb
      have := (h.wf a ha).1
      show a.id ≠ c.L.nextSrc
      omega
    · intro b hb
      exact Nat.lt_succ_of_lt (h.busy_lt b hb)

theorem gsteps_enqs (P : Prog) (rest : List G.Instr) :
    ∀ (gs : List GSig) {c : G.Cfg} {srcs : List G.GSource}, GSim hs c st srcs busy run ep lg →
    c.code = gs.map (fun g => G.Instr.act (actOf g)) ++ rest →
    ∃ c' news, GSteps P c c' ∧ c'.code = rest ∧ news.map (fun x => gsigOf x.sig) = gs ∧
      GSim hs c' st (srcs ++ news) busy run ep lg
  | [], c, srcs, h, hc => ⟨c, [], .refl _, hc, rfl, by simpa using h⟩
  | g :: gs, c, srcs, h, hc => by
    obtain ⟨c1, gn, hs1, hc1, hg, h1⟩ := gstep_enq P h g _ hc
    obtain ⟨c2, news, hs2, hc2, hn, h2⟩ := gsteps_enqs P rest gs h1 hc1
    refine ⟨c2, gn :: news, .head hs1 hs2, hc2, by simp [hg, hn], by simpa using h2⟩

theorem gstep_callH (P : Prog) (h : GSim hs c st srcs busy run ep lg) (hid : Nat) (d : Option Nat) (g : GSig) (rest : List G.Instr)
    (hc : c.code = .callH (.user hid) d (sigOf g) :: rest) :
    ∃ c', G.step P c = .ok c' ∧ c'.code = (P.handlerScript hid (cntOf st hid)).map .act ++ .hret hid :: rest ∧
      GSim hs c' (bumpSt st hid) srcs busy run ep (.h hid g.id d 1 :: lg) := by
  refine ⟨{ c with code := (P.handlerScript hid (gcallCount c.tr hid)).map .act ++ .hret hid :: rest,
                   tr := .m (.call (.user hid) d (sigOf g)) :: c.tr, log := .h hid g.id d 1 :: c.log }, ?_, ?_, ?_⟩
  · simp only [G.step, hc, G.Cfg.trace]
    rw [gemit_eq]
    · simp [G.push, h.loops, gcallCount]
      rfl
    · exact h.readers
  · show _ ++ _ = _
    rw [h.cnt]
  · refine ⟨h.ctxs, h.wf, h.nodup, h.busy_lt, h.loops, h.fq, h.handlers, h.readers, ?_, ?_⟩
    · intro hid'
      rw [cntOf_bumpSt, ← h.cnt, ← h.cnt]
      show (List.filter _ (_ :: c.tr)).length = _
      rw [List.filter_cons]
      by_cases hh : hid' = hid
      · subst hh; simp [gcallCount]
      · have : ¬ hid = hid' := fun e => hh e.symm
        simp [gcallCount, hh, this]
    · show _ :: c.log = _
      rw [h.log]

theorem gstep_hret (P : Prog) (h : GSim hs c st srcs busy run ep lg) (hid : Nat) (rest : List G.Instr) (hc : c.code = .hret hid :: rest) :
    ∃ c', G.step P c = .ok c' ∧ c'.code = rest ∧ GSim hs c' st srcs busy run ep (.hret hid :: lg) := by
  refine ⟨{ c with code := rest, log := .hret hid :: c.log }, ?_, rfl,
    h.frame _ _ (gsameL_refl _) rfl (fun _ => rfl) (by show _ :: c.log = _; rw [h.log])⟩
  simp only [G.step, hc]
  rw [gemit_eq]
  exact h.readers

theorem gstep_catchRun (P : Prog) (h : GSim hs c st srcs busy run ep lg) (rest : List G.Instr) (hc : c.code = .catchRun :: rest) :
    ∃ c', G.step P c = .ok c' ∧ c'.code = rest ∧ GSim hs c' st srcs busy run ep lg := by
  refine ⟨{ c with code := rest }, ?_, rfl, h.frame _ _ (gsameL_refl _) rfl (fun _ => rfl) h.log⟩
  simp only [G.step, hc]

theorem gstep_gCall_some (P : Prog) (h : GSim hs c st srcs busy run ep lg) (g : GSig) (i : Nat) (rest : List G.Instr) (r : HRef)
    (d : Option Nat) (hc : c.code = .gCall (sigOf g) .live i :: rest) (hh : (hsOf hs (.user g.cls))[i]? = some (r, d)) :
    ∃ c', G.step P c = .ok c' ∧ c'.code = .callH r d (sigOf g) :: .gCall (sigOf g) .live (i + 1) :: rest ∧
      GSim hs c' st srcs busy run ep lg := by
  refine ⟨{ c with code := .callH r d (sigOf g) :: .gCall (sigOf g) .live (i + 1) :: rest }, ?_, rfl,
    h.frame _ _ (gsameL_refl _) rfl (fun _ => rfl) h.log⟩
  have hh' : (G.handlersOf ({ c with code := rest } : G.Cfg).L (Cls.user g.cls))[i]? = some (r, d) := by
    rw [← ghandlersOf_eq h.handlers] at hh; exact hh
  simp [G.step, hc, hh', h.fq, G.push]

theorem gstep_gCall_none (P : Prog) (h : GSim hs c st srcs busy run ep lg) (g : GSig) (i : Nat) (rest : List G.Instr)
    (hc : c.code = .gCall (sigOf g) .live i :: rest) (hh : (hsOf hs (.user g.cls))[i]? = none) :
    ∃ c', G.step P c = .ok c' ∧ c'.code = rest ∧ GSim hs c' st srcs busy run ep lg := by
  exact ⟨_, G.step_gCall_end P hc (.inr (.inr ⟨rfl, (congrArg (·[i]?) (ghandlersOf_eq h.handlers g.cls)).trans hh⟩)), rfl,
    h.frame _ _ (gsameL_refl _) rfl (fun _ => rfl) h.log⟩

theorem gstep_gCall_empty (P : Prog) (h : GSim hs c st srcs busy run ep lg) (s : Sig) (i : Nat) (rest : List G.Instr)
    (hc : c.code = .gCall s .empty i :: rest) :
    ∃ c', G.step P c = .ok c' ∧ c'.code = rest ∧ GSim hs c' st srcs busy run ep lg := by
  exact ⟨_, G.step_gCall_end P hc (.inr (.inl rfl)), rfl, h.frame _ _ (gsameL_refl _) rfl (fun _ => rfl) h.log⟩

theorem gstep_runH (P : Prog) (h : GSim hs c st srcs busy run ep lg) (b : G.GSource) (rest : List G.Instr)
    (hc : c.code = .runH 0 b :: rest) :
    ∃ c', G.step P c = .ok c' ∧ c'.code = .gCall b.sig b.hs 0 :: .catchRun :: .endRun 0 b :: rest ∧
      GSim hs c' st srcs busy run ep lg := by
  exact ⟨_, G.step_runH P hc h.fq, rfl, h.frame _ _ (gsameL_refl _) rfl (fun _ => rfl) h.log⟩

theorem gstep_gRun (P : Prog) (h : GSim hs c st srcs busy true ep lg) (rest : List G.Instr) (hc : c.code = .gRun 0 :: rest) :
    ∃ c', G.step P c = .ok c' ∧ c'.code = .gIter 0 .block :: .gRun 0 :: rest ∧ GSim hs c' st srcs busy true ep lg := by
  refine ⟨{ c with code := .gIter 0 .block :: .gRun 0 :: rest }, ?_, rfl,
    h.frame _ _ (gsameL_refl _) rfl (fun _ => rfl) h.log⟩
  simp [G.step, hc, G.Cfg.ctx, G.GSt.ctx, h.ctxs, G.push]

theorem gstep_apprun (P : Prog) (hP : Flat P) (h : GSim hs c st srcs busy run ep lg) (rest : List G.Instr)
    (hc : c.code = .apprun :: rest) :
    ∃ c', G.step P c = .ok c' ∧ c'.code = .gRun 0 :: .quitCb :: rest ∧ GSim hs c' st srcs busy true ep lg := by
  refine ⟨{ c with code := .gRun 0 :: .quitCb :: rest,
                   L := { c.L with forceQuit := false,
                                   ctxs := [{ sources := srcs, epoch := ep, running := true, srcset := [] }] } }, ?_, rfl, ?_⟩
  · simp [G.step, hc, hP.1, h.loops, G.push, G.Cfg.setCtx, G.GSt.setCtx, h.ctxs, listSet]
  · exact ⟨rfl, h.wf, h.nodup, h.busy_lt, h.loops, rfl, h.handlers, h.readers, h.cnt, h.log⟩

end Simpleline.Flat
