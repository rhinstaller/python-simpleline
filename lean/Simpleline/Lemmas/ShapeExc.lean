/-
  Exceptions and the bracket structure: in `Chained` code
  * an ordinary exception raised by a body instruction unwinds body instructions only (plus the
    `catchHandler` that catches it): never a `mainCheck`/`loopCheck`/`catchExit`;
  * `ExitMainLoop` leaves at most the quit callback.
-/
import Simpleline.Lemmas.ShapeChain

namespace Simpleline

namespace Shape

theorem nonLC_fclass {h : Instr} (hh : h.isLC = false) : h.fclass.le .bodyM = true := by
  cases h <;> first | rfl | contradiction

theorem nonLC_allows {h b : Instr} (hh : h.isLC = false) (ha : h.fclass.allows b = true) :
    b.isLC = false ∨ b = .catchHandler ∨ b = .apprun := by
  have hb : FClass.bodyM.allows b = true := FClass.le_allows (nonLC_fclass hh) b ha
  simp only [FClass.allows, Bool.or_eq_true, Bool.and_eq_true, Bool.not_eq_true'] at hb
  rcases hb with hb | hb
  · exact .inl hb.1
  · split at hb <;> first | exact .inr (.inl rfl) | exact .inr (.inr rfl) | cases hb

theorem unwind_err_chained {h : Instr} {rest : List Instr} (hc : Chained (h :: rest)) (hh : h.isLC = false) :
    match unwindTo .err rest with
    | some post => ∃ pre, rest = pre ++ post ∧ ∀ i ∈ pre, i.isLC = false ∨ i = .catchHandler
    | none => ∀ i ∈ rest, i.isLC = false ∨ i = .apprun := by
  induction rest generalizing h with
  | nil => intro i hi; cases hi
  | cons b rest ih =>
    have hadj : h.fclass.allows b = true := hc.1
    rcases nonLC_allows hh hadj with hb | rfl | rfl
    · by_cases hcatch : b.catchesErr = true
      · cases b <;> first | (cases hcatch; done) | (cases hb; done) | skip
        case catchPS => exact ⟨[.catchPS], rfl, by simp [Instr.isLC]⟩
        case catchDraw => exact ⟨[.catchDraw], rfl, by simp [Instr.isLC]⟩
        case catchPI scr =>
          show ∃ pre, _ = pre ++ (rest.dropWhile _).drop 1 ∧ _
          have hc2 := hc.2
          cases rest with
          | nil => exact ⟨[.catchPI scr], rfl, by simp [Instr.isLC]⟩
          | cons x rest =>
            have hx : FClass.caa.allows x = true := hc2.1
            cases x <;> first | (cases hx; done) | skip
            rename_i scr'
            have hc3 := hc2.2
            cases rest with
            | nil => exact ⟨[.catchPI scr, .countAndAct scr'], rfl, by simp [Instr.isLC]⟩
            | cons y rest =>
              have hy : FClass.endpi.allows y = true := hc3.1
              cases y <;> first | (cases hy; done) | skip
              exact ⟨[.catchPI scr, .countAndAct scr', .endPI], rfl, by simp [Instr.isLC]⟩
      · have hcatch' : b.catchesErr = false := by simpa using hcatch
        rw [unwindTo_skip (k := .err) _ hcatch']
        have := ih hc.2 hb
        split at this
        · rename_i post hpost
          obtain ⟨pre, h1, h2⟩ := this
          refine ⟨b :: pre, by rw [h1]; rfl, ?_⟩
          intro i hi
          rcases List.mem_cons.1 hi with rfl | hi
          · exact .inl hb
          · exact h2 i hi
        · rename_i hnone
          intro i hi
          rcases List.mem_cons.1 hi with rfl | hi
          · exact .inl hb
          · exact this i hi
    · exact ⟨[.catchHandler], rfl, by simp⟩
    · rw [chained_apprun hc.2]
      show ∀ i ∈ [Instr.apprun], _
      simp

theorem unwindTo_exit_some {l post : List Instr} (h : unwindTo .exit l = some post) :
    ∃ pre, l = pre ++ .catchExit :: post := by
  rcases Machine.split_first (·.catches .exit) l with hn | ⟨pre, ins, rest, rfl, hp, hi⟩
  · rw [unwindTo_none hn] at h; cases h
  · rw [unwindTo_catch hp hi] at h
    cases ins <;> cases hi
    cases h
    exact ⟨pre, rfl⟩

theorem unwind_exit_chained {l : List Instr} (hc : Chained l) : overCode ((unwindTo .exit l).getD []) = true := by
  cases h : unwindTo .exit l with
  | none => rfl
  | some post =>
    obtain ⟨pre, rfl⟩ := unwindTo_exit_some h
    have h1 : Chained (.catchExit :: post) := hc.of_append
    cases post with
    | nil => rfl
    | cons x post =>
      have hx : FClass.quit.allows x = true := h1.1
      cases x <;> first | (cases hx; done) | skip
      have h2 : followsC FClass.none post := h1.2.1
      cases post with
      | nil => rfl
      | cons y post => cases h2

/-- `identCheck` is directly followed by its `catchPS`: the "screen changed" exit skips nothing -/
theorem identSkip_chained {top : Entry} {rest : List Instr} (hc : Chained (.identCheck top :: rest)) :
    rest.dropWhile notCatchPS = rest := by
  have h : followsC FClass.cps rest := hc.1
  cases rest with
  | nil => rfl
  | cons x rest =>
    have hx : FClass.cps.allows x = true := h
    cases x <;> first | (cases hx; done) | rfl

theorem canRaise_nonLC {h : Instr} {k : Kind} (hr : h.canRaise k = true) : h.isLC = false := by
  cases h <;> first | rfl | (cases k <;> cases hr; done)

theorem canRaise_err_nonLC {h : Instr} (hr : h.canRaise .err = true) : h.isLC = false :=
  canRaise_nonLC hr

end Shape

end Simpleline
