/-
  Refuting `LayoutOK` and `RespectsWidth` (C13b): by a label that is two rows high, and from
  kernel-checked evaluations of concrete renders.
-/
import Simpleline.Lemmas.LayoutOKLabel
import Simpleline.Lemmas.ContainersRender

namespace Simpleline

theorem render_ok_of_isSome {α : Type} (x : Except RErr α) (h : x.toOption.isSome = true) : ∃ r, x = .ok r := by
  cases x with
  | error e => simp [Except.toOption] at h
  | ok r => exact ⟨r, rfl⟩

/-- the exception of a failed computation (for kernel-checked statements about concrete renders:
`Wd` has no decidable equality) -/
def errOf {α : Type} : Except RErr α → Option RErr
  | .error e => some e
  | .ok _ => none

section labels

variable {cc : CharClass} {cm : Bool} {columns : Nat} {cw : Option Int} {spacing : Nat} {k : KeyPat}
  {items : List Wd} {w : Int} {r : Wd} {items' : List Wd} {labels : List (Option NumW)}
  (sh : ListShape cc cm columns cw spacing (some k) items w r items' labels)
include sh

theorem layoutOK_label_rows (ok : LayoutOK (usedWidth cw columns spacing w) labels (items'.map Wd.lines))
    (i : Nat) (hi : i < items.length) (s : WSt)
    (hs : renderTextSt cc {} (k.label i) (k.label i).length = .ok s) : s.buf.length ≤ 1 := by
  have h1 := ok.label_rows i (by rw [shape_grids_length sh]; exact hi)
  obtain ⟨s', hs', hb, _⟩ := shape_labelBuf_some sh i hi
  rw [hs, Except.ok.injEq] at hs'
  rwa [hb, ← hs'] at h1

theorem not_layoutOK_of_label_rows (i : Nat) (hi : i < items.length) (n : Nat) (hn : 2 ≤ n)
    (hlab : (renderTextSt cc {} (k.label i) (k.label i).length).toOption.map (fun s => s.buf.length) = some n) :
    ¬ LayoutOK (usedWidth cw columns spacing w) labels (items'.map Wd.lines) := by
  intro ok
  cases hs : renderTextSt cc {} (k.label i) (k.label i).length with
  | error e => rw [hs] at hlab; cases hlab
  | ok s =>
    have := layoutOK_label_rows sh ok i hi s hs
    rw [hs] at hlab
    simp only [Except.toOption, Option.map_some, Option.some.injEq] at hlab
    omega

theorem not_layoutOK_of_newline (hne : items ≠ []) (hnl : '\n' ∈ k.pre ++ k.post) :
    ¬ LayoutOK (usedWidth cw columns spacing w) labels (items'.map Wd.lines) := by
  intro ok
  have hi : 0 < items.length := List.length_pos_iff.2 hne
  obtain ⟨s, hs, _⟩ := shape_labelBuf_some sh 0 hi
  have hmem : '\n' ∈ k.label 0 := by
    simp only [KeyPat.label, List.mem_append] at hnl ⊢
    rcases hnl with h | h
    · exact Or.inl (Or.inl h)
    · exact Or.inr h
  have := render_newline_rows cc {} (k.label 0) (k.label 0).length (label_pos k 0) hmem s hs
  have := layoutOK_label_rows sh ok 0 hi s hs
  omega

end labels

theorem not_respects_of_row {cc : CharClass} {it : Wd} {w : Int} (rows : List (List Char))
    (hr : (it.render cc w).toOption.map Wd.lines = some rows) (row : List Char) (hrow : row ∈ rows)
    (hlen : w.toNat < row.length) : ¬ RespectsWidth cc it w := by
  intro h
  cases hx : it.render cc w with
  | error e => rw [hx] at hr; cases hr
  | ok r =>
    rw [hx] at hr
    simp only [Except.toOption, Option.map_some, Option.some.injEq] at hr
    have := h r hx row (hr ▸ hrow)
    omega

end Simpleline
