/-
  The pending instructions never forge an input signal, and the library's two input handlers are only
  ever invoked with signals of their own class (needs `NoForge` and `UserHandlers`).
-/
import Simpleline.Lemmas.InputInv
import Simpleline.Lemmas.InputOrderCode

namespace Simpleline.Input
open InputOrder

/-- `InputThreadManager`'s handler is registered for `InputReceivedSignal` only, first in line, and every
`InputHandler`'s handler for `InputReadySignal` only -/
structure HandlersOK (c : Cfg) : Prop where
  itm : ∀ x ∈ c.L.handlers, x.2.1 = .itm → x.1 = .inputReceived
  ih : ∀ x ∈ c.L.handlers, ∀ n, x.2.1 = .ih n → x.1 = .inputReady
  first : ∃ us, handlersOf c.L .inputReceived = (.itm, none) :: us ∧ ∀ u ∈ us, u.1 ≠ .itm

theorem handlersOK_reach {P : Prog} {c0 c : Cfg} (h0 : Started c0) (hU : UserHandlers c0) (h : Reach P c0 c) :
    HandlersOK c := by
  have hh := (objInv_reach h0 h).handlers
  obtain ⟨hs, hh0⟩ := h0.handlers
  have hU' : ∀ x ∈ hs, x.2.1.isApp = true := fun x hx => hU x (by rw [hh0]; exact hx)
  have hmem : ∀ x ∈ c.L.handlers, x = (.render, .render, none) ∨ x = (.close, .close, none) ∨
      x = (.inputReceived, .itm, none) ∨ x ∈ hs ∨ ∃ n, x = ihReg n := by
    intro x hx
    rw [hh] at hx
    rcases List.mem_append.mp hx with hx | hx
    · simp only [hh0, List.cons_append, List.nil_append, List.mem_cons] at hx
      rcases hx with hx | hx | hx | hx
      · exact Or.inl hx
      · exact Or.inr (Or.inl hx)
      · exact Or.inr (Or.inr (Or.inl hx))
      · exact Or.inr (Or.inr (Or.inr (Or.inl hx)))
    · obtain ⟨n, _, rfl⟩ := List.mem_map.mp hx
      exact Or.inr (Or.inr (Or.inr (Or.inr ⟨n, rfl⟩)))
  refine ⟨?_, ?_, ?_⟩
  · intro x hx hi
    rcases hmem x hx with rfl | rfl | rfl | hx | ⟨n, rfl⟩
    · cases hi
    · cases hi
    · rfl
    · have := hU' x hx; rw [hi] at this; cases this
    · cases hi
  · intro x hx n hi
    rcases hmem x hx with rfl | rfl | rfl | hx | ⟨m, rfl⟩
    · cases hi
    · cases hi
    · cases hi
    · have := hU' x hx; rw [hi] at this; cases this
    · rfl
  · refine ⟨((hs.filter (·.1 = .inputReceived)).map (·.2)), ?_, ?_⟩
    · unfold handlersOf
      rw [hh]
      simp only [hh0, List.cons_append, List.nil_append, List.filter_cons, List.filter_append]
      simp [ihReg, List.filter_eq_nil_iff]
    · intro u hu hi
      obtain ⟨x, hx, rfl⟩ := List.mem_map.mp hu
      have := hU' x (List.mem_filter.mp hx).1
      rw [hi] at this; cases this

theorem slot_itm {c : Cfg} (hH : HandlersOK c) {s : Sig} {i : Nat} {h : HRef} {d : Option Nat}
    (hg : (handlersOf c.L s.cls)[i]? = some (h, d)) : h = .itm ↔ s.cls = .inputReceived ∧ i = 0 := by
  obtain ⟨us, hus, hno⟩ := hH.first
  constructor
  · intro hh
    have hc : s.cls = .inputReceived := hH.itm _ (handlersOf_mem hg) hh
    refine ⟨hc, ?_⟩
    rw [hc, hus] at hg
    cases i with
    | zero => rfl
    | succ i => exact absurd hh (hno _ (List.mem_of_getElem? hg))
  · rintro ⟨hc, rfl⟩
    rw [hc, hus] at hg
    cases hg; rfl

def _root_.Simpleline.Instr.clean : Instr → Bool
  | .act a => !a.forges
  | .newLoop s => !s.cls.isInput
  | .callH .itm _ s => s.cls = .inputReceived
  | .callH (.ih _) _ s => s.cls = .inputReady
  | .inputReceived s => s.cls = .inputReceived
  | .inputReady _ s => s.cls = .inputReady
  | _ => true

def cleanCode (code : List Instr) : Prop := ∀ ins ∈ code, ins.clean = true

@[simp] theorem cleanCode_nil : cleanCode [] := by simp [cleanCode]
@[simp] theorem cleanCode_cons (i : Instr) (is : List Instr) : cleanCode (i :: is) ↔ i.clean = true ∧ cleanCode is := by
  simp [cleanCode]
@[simp] theorem cleanCode_append (is js : List Instr) : cleanCode (is ++ js) ↔ cleanCode is ∧ cleanCode js := by
  simp [cleanCode, or_imp, forall_and]

theorem cleanCode_sublist {is js : List Instr} (h : is.Sublist js) (hj : cleanCode js) : cleanCode is :=
  fun ins hi => hj ins (h.subset hi)

theorem cleanCode_raise {c : Cfg} (k : Kind) (h : cleanCode c.code) : cleanCode (final (c.raise k)).code :=
  cleanCode_sublist (raise_code c k) h

theorem clean_of_inert {i : Instr} (h : i.inert = true) : i.clean = true := by
  cases i <;> first | rfl | exact h | cases h

theorem cleanCode_inert {is : List Instr} (h : is.all Instr.inert = true) : cleanCode is :=
  fun i hi => clean_of_inert (List.all_eq_true.mp h i hi)

theorem startRequest_clean (c : Cfg) (ih : Nat) (requester : Src) (text : Str) (h : cleanCode c.code) :
    cleanCode (final (startRequest c ih requester text)).code := by
  rw [startRequest_eq]
  split
  · exact cleanCode_raise _ h
  · split <;> simpa using h

theorem clean_callH {c : Cfg} {s : Sig} {i : Nat} {h : HRef} {d : Option Nat} (hH : HandlersOK c)
    (hg : (handlersOf c.L s.cls)[i]? = some (h, d)) : (Instr.callH h d s).clean = true := by
  have hm := handlersOf_mem hg
  cases h <;> simp only [Instr.clean, decide_eq_true_eq]
  · exact hH.itm _ hm rfl
  · exact hH.ih _ hm _ rfl

theorem Passes.clean {c : Cfg} {ins : Instr} {new : List Instr} {t : List Tr} (h : Passes c ins new t) (hH : HandlersOK c)
    (hi : ins.clean = true) : cleanCode new := by
  cases h <;> simp only [cleanCode_cons, cleanCode_nil, and_true]
  case processSignal => rfl
  case dispatch hg => exact ⟨clean_callH hH hg, rfl, rfl⟩
  case itm | ih => exact hi
  case processInput => exact ⟨rfl, rfl, rfl, rfl, rfl⟩
  case newLoop => exact ⟨hi, rfl⟩

/-- handing on keeps the `InputReceivedSignal` carried: the thread manager's handler is the first of its class -/
theorem Passes.recv {c : Cfg} {ins : Instr} {new : List Instr} {t : List Tr} (h : Passes c ins new t) (hH : HandlersOK c) :
    Rv new = ins.recvSig?.toList := by
  cases h with
  | dispatch s i h d hg =>
    have := slot_itm hH hg
    cases h <;> simp [Rv, Instr.recvSig?] at this ⊢
    all_goals first | exact this | simp [this]
  | _ => simp [Rv, Instr.recvSig?]

theorem Sends.not_input {X Y : Cfg} {ins : Instr} {s : Sig} (h : Sends X ins s Y) (hi : ins.clean = true) : s.cls.isInput = false := by
  cases h <;> simpa [Instr.clean, Act.forges] using hi

theorem Delivers.code {X Y : Cfg} (h : Delivers X Y) : Y.code = X.code := by
  rcases h with rfl | h
  · rfl
  · exact deliver_code h

theorem cleanCode_step (P : Prog) (c : Cfg) (hP : P.NoForge) (hH : HandlersOK c) (hc : cleanCode c.code) :
    cleanCode (final (step P c)).code := by
  obtain ⟨hcode, hf⟩ | ⟨ins, rest, c', hcode, hf, h⟩ := step_cases P c <;> rw [hf]
  · exact hc
  rw [hcode, cleanCode_cons] at hc
  obtain ⟨hins, hrest⟩ := hc
  cases h with
  | calm new rest' _ hc' hsub hn =>
    rw [hc', cleanCode_append]; exact ⟨cleanCode_inert hn, cleanCode_sublist hsub hrest⟩
  | pass new t _ hX hp => rw [push_code, hX, cleanCode_append]; exact ⟨hp.clean hH hins, hrest⟩
  | enq s new _ hX hs hn =>
    rw [push_code, enqueue_code, hs.code, hX, cleanCode_append]; exact ⟨cleanCode_inert hn, hrest⟩
  | emit e new _ hX _ hn => rw [push_code, emit_code, hX, cleanCode_append]; exact ⟨cleanCode_inert (hn hP), hrest⟩
  | idle _ hX hd => rw [deliver_code hd, hX]; exact hrest
  | pop e es more _ _ hX hd _ hm =>
    rw [push_code, pop_code, hd.code, hX, cleanCode_append]
    exact ⟨(cleanCode_cons _ _).mpr ⟨rfl, cleanCode_inert hm⟩, hrest⟩
  | closeLevel => exact hrest
  | request ih src text new _ _ hX hn =>
    exact startRequest_clean _ _ _ _ (by rw [hX, cleanCode_append]; exact ⟨cleanCode_inert hn, hrest⟩)
  | handoff s rs r _ _ _ hc' => rw [hc']; exact hrest
  | ready n s new _ _ _ hc' hnew =>
    rw [hc', cleanCode_append]
    rcases hnew with rfl | ⟨_, scr, rfl⟩ <;> exact ⟨by simp [Instr.clean], hrest⟩

theorem cleanCode_reach {P : Prog} {c0 c : Cfg} (h0 : Started c0) (hU : UserHandlers c0) (hF : NoForge P c0)
    (h : Reach P c0 c) : cleanCode c.code := by
  refine reach_step_induction (I := fun c => cleanCode c.code) ?_ ?_ ?_ h
  · exact cleanCode_inert (inert_init h0 hF.2)
  · intro c hr hi
    exact cleanCode_step P c hF.1 (handlersOK_reach h0 hU hr) hi
  · intro c c' _ hi hd
    rw [deliver_code hd]; exact hi

end Simpleline.Input
