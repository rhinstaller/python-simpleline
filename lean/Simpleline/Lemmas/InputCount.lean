/-
  Counting for "a typed line is handed to at most one `input` callback" (C06): signals that carry a
  given line, and how often the log shows the line read and handed to an `input` callback.
-/
import Simpleline.Lemmas.InputFlightInv

namespace Simpleline.Input

def lineIs (l : Str) (s : Sig) : Bool := s.carriesLine && decide (s.line = l)

theorem lineIs_of_not_input {l : Str} {s : Sig} (h : s.cls.isInput = false) : lineIs l s = false := by
  unfold lineIs Sig.carriesLine; cases hs : s.cls <;> simp_all [Cls.isInput]

def readCount (l : Str) (log : List Ev) : Nat := (readLines log).count l
def inputCount (l : Str) (log : List Ev) : Nat := (inputLines log).count l

theorem readCount_cons_read (l k : Str) (log : List Ev) :
    readCount l (.read k :: log) = readCount l log + (if k = l then 1 else 0) := by
  unfold readCount
  rw [readLines_cons_read, List.count_append]
  simp [List.count_cons]

theorem readCount_cons (l : Str) (e : Ev) (log : List Ev) (h : e.isRead = false) :
    readCount l (e :: log) = readCount l log := by
  unfold readCount; rw [readLines_cons _ _ h]

def _root_.Simpleline.Ev.inputLine? : Ev → Option Str
  | .cb _ .input _ (some k) => some k
  | _ => none

theorem inputLines_cons (e : Ev) (log : List Ev) :
    inputLines (e :: log) = inputLines log ++ e.inputLine?.toList := by
  unfold inputLines
  cases e with
  | cb scr cb a key => cases cb <;> cases key <;> simp [Ev.inputLine?]
  | _ => simp [Ev.inputLine?]

theorem inputCount_cons (l : Str) (e : Ev) (log : List Ev) :
    inputCount l (e :: log) = inputCount l log + (if e.inputLine? = some l then 1 else 0) := by
  unfold inputCount
  rw [inputLines_cons, List.count_append]
  cases h : e.inputLine? with
  | none => simp
  | some k => simp [List.count_cons]

theorem inputCount_cons_read (l k : Str) (log : List Ev) : inputCount l (.read k :: log) = inputCount l log := by
  rw [inputCount_cons]; rfl

end Simpleline.Input
