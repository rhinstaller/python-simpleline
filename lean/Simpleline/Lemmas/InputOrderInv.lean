/-
  C06b: invariants of every reachable configuration (needs `NoForge` and `UserHandlers`), by cases on `Input.StepEff`:
  `DepthOK`: the successful `InputReadySignal`s the code still carries towards their handler (`nPre`) are at
  most `readyDepth` of the history; `LastInv`: every `InputReceivedSignal` on its way to the thread manager, in
  a queue or in the code, carries the line read last, and every `InputReadySignal` in a queue has priority 0; where
  a new line is read it needs `Guard` (from `FlightOK` of C18).  `PostTop` (what carries a line stands only at the
  head) comes from `AtOnce` of the shape view.  `TakeQuiet`: a take finds no ready signal still carried by the code.
-/
import Simpleline.Lemmas.InputOrderSilent
import Simpleline.Lemmas.InputOnce
import Simpleline.Lemmas.InputFlightInv
import Simpleline.Lemmas.InputHandoff
import Simpleline.Lemmas.ShapeMarkers

namespace Simpleline.InputOrder
open Input

def DepthOK (k : Nat) (c : Cfg) : Prop := nPre k c.code ≤ readyDepth c.tr

theorem DepthOK.mono {k : Nat} {c c' : Cfg} (h : DepthOK k c) (hc : nPre k c'.code ≤ nPre k c.code)
    (hd : readyDepth c'.tr = readyDepth c.tr) : DepthOK k c' := by
  unfold DepthOK at *; omega

theorem DepthOK.silent {k : Nat} {c c' : Cfg} (h : DepthOK k c) (hs : Silent c c') : DepthOK k c' :=
  h.mono (nPre_carriers hs.code) hs.depth

theorem DepthOK.deliver {k : Nat} {c c' : Cfg} (h : DepthOK k c) (hd : c.deliver = some c') : DepthOK k c' :=
  h.mono (by rw [deliver_code hd]; exact Nat.le_refl _) (rd_deliver hd)

theorem rd_enqueueAll (sigs : List Sig) (c : Cfg) : readyDepth (enqueueAll c sigs).tr = readyDepth c.tr := by
  induction sigs generalizing c with
  | nil => rfl
  | cons x xs ih => rw [enqueueAll_cons, ih, rd_enqueue]

/-- handing a signal on keeps the bound: the call of the handler of its `InputHandler` is where the depth drops -/
theorem _root_.Simpleline.Input.Passes.depth {c0 c : Cfg} {ins : Instr} {new : List Instr} {t : List Tr}
    (h : Passes c ins new t) (hH : HandlersOK c) (hR : ReadyHandlers c0 c) (tr : List Tr) :
    nPre (k0 c0) new + readyDepth tr ≤ (ins.pre (k0 c0)).length + readyDepth (t ++ tr) := by
  cases h with
  | processSignal s => simp [pre_dispatch_zero]
  | dispatch s i h d hg =>
    have := congrArg List.length (pre_dispatch hH hR hg)
    rw [List.length_append] at this
    have e : (Instr.pre (k0 c0) Instr.catchHandler).length = 0 := rfl
    simp only [nPre_cons, nPre_nil, List.nil_append]
    omega
  | ih n d s =>
    simp only [nPre_cons, nPre_nil, List.singleton_append, readyDepth, Instr.pre]
    split <;> simp <;> omega
  | _ => simp [Instr.pre, readyDepth]

theorem depth_step {c0 : Cfg} (P : Prog) (c : Cfg) (hP : P.NoForge) (hH : HandlersOK c) (hR : ReadyHandlers c0 c)
    (hf : DepthOK (k0 c0) c) : DepthOK (k0 c0) (final (step P c)) := by
  obtain ⟨_, hfin⟩ | ⟨ins, rest, c', hc, hfin, h⟩ := Input.step_cases P c <;> rw [hfin]
  · exact hf
  have hf' : (ins.pre (k0 c0)).length + nPre (k0 c0) rest ≤ readyDepth c.tr := by
    unfold DepthOK at hf; rwa [hc, nPre_cons] at hf
  have hb : DepthOK (k0 c0) { c with code := rest } := Nat.le_trans (Nat.le_add_left _ _) hf'
  cases h with
  | calm new rest' hX hc' hsub hn => exact hb.silent (hX.silent (hc' ▸ carriers_pushed hn hsub))
  | @pass X new t hX hc' hp =>
    have := hp.depth hH hR X.tr
    have := hX.depth
    show nPre (k0 c0) (new ++ X.code) ≤ readyDepth (t ++ X.tr)
    rw [hc', nPre_append]
    omega
  | enq s new hX hc' hs hn =>
    refine hb.mono ?_ ((rd_enqueue _ s).trans (hs.depth.trans hX.depth))
    rw [push_code, enqueue_code, hs.code, hc', nPre_append, nPre_of_inert hn, Nat.zero_add]
    exact Nat.le_refl _
  | emit e new hX hc' _ hn =>
    refine hb.mono ?_ ((rd_emit P _ e).trans hX.depth)
    rw [push_code, emit_code, hc', nPre_append, nPre_of_inert (hn hP), Nat.zero_add]
    exact Nat.le_refl _
  | idle hX hc' hd => exact (hb.silent (hX.silent (hc' ▸ carriers_sublist _))).deliver hd
  | @pop X Y e es more _ hX hc' hd _ hm =>
    have hY : DepthOK (k0 c0) Y := by
      have := hb.silent (hX.silent (hc' ▸ carriers_sublist _))
      rcases hd with rfl | hd
      · exact this
      · exact this.deliver hd
    unfold DepthOK at hY ⊢
    simp only [push_code, pop_code, push_tr, pop_tr, List.cons_append, nPre_cons, nPre_append, nPre_of_inert hm,
      readyDepth, Instr.pre]
    split <;> simp <;> omega
  | closeLevel q a => exact hb
  | request ih src text new _ hX hc' hn =>
    rcases request_cases ih src text (hX.silent (hc' ▸ carriers_pushed hn (.refl _))) with hs | ⟨c1, hs, hr⟩
    · exact hb.silent hs
    · exact (hb.silent hs).mono (by rw [hr.code]; exact Nat.le_refl _) (by rw [hr.tr])
  | handoff s rs r _ _ _ hc' _ _ hT =>
    exact hb.mono (by rw [hc']; exact Nat.le_refl _) (by rw [hT]; exact rd_enqueueAll _ _)
  | ready n s new _ _ hX hc' hnew =>
    refine hb.mono ?_ (by rw [hX.tr])
    rcases hnew with rfl | ⟨_, scr, rfl⟩ <;> simp [hc', Instr.pre]

theorem depth_reach {P : Prog} {c0 c : Cfg} (h0 : Started c0) (hU : UserHandlers c0) (hF : NoForge P c0)
    (h : Reach P c0 c) : DepthOK (k0 c0) c := by
  refine reach_step_induction (I := DepthOK (k0 c0)) ?_ ?_ ?_ h
  · rw [DepthOK, nPre_of_inert (inert_init h0 hF.2), h0.tr]
    exact Nat.le_refl 0
  · intro c hr hi
    exact depth_step P c hF.1 (handlersOK_reach h0 hU hr) (readyHandlers_reach h0 hU hr) hi
  · intro c c' _ hi hd
    exact hi.deliver hd

/-- when the next instruction takes a signal, the rest of the code carries no successful `InputReadySignal`
towards its handler (the static alternative to `NoReadyReentry`) -/
def TakeQuiet (k : Nat) (c : Cfg) : Prop :=
  ∀ ins rest, c.code = ins :: rest → ins.isTakeI = true → nPre k rest = 0

def PostTop (c : Cfg) : Prop := postFree c.code.tail

theorem postTop_reach {P : Prog} {c0 c : Cfg} (h0 : Started c0) (h : Reach P c0 c) : PostTop c := by
  intro i hi
  have h1 := Shape.reach_atOnce h0 h i hi
  cases i <;> first | rfl | cases h1

def lastL (log : List Ev) : Option Str := (readLines log).getLast?

theorem lastL_cons_read (l : Str) (log : List Ev) : lastL (.read l :: log) = some l := by
  simp [lastL, readLines_cons_read]

theorem lastL_cons (e : Ev) (log : List Ev) (h : e.isRead = false) : lastL (e :: log) = lastL log := by
  unfold lastL; rw [readLines_cons _ _ h]

structure LastInv (c : Cfg) : Prop where
  q : queuesL (lastL c.log) c.L.queues
  code : codeL (lastL c.log) c.code

def Guard (c : Cfg) : Prop := c.A.readers ≠ [] → irQ c.L.queues = 0 ∧ irCode c.code = 0

theorem codeL_of_irCode {last' : Option Str} {code : List Instr} (h : irCode code = 0) : codeL last' code := by
  rw [irCode_eq, List.length_eq_zero_iff] at h
  exact codeL_iff.mpr fun s hs => by rw [h] at hs; cases hs

theorem queuesL_of_irQ {last last' : Option Str} {c : Cfg} (hq : queuesL last c.L.queues) (h : irQ c.L.queues = 0) :
    queuesL last' c.L.queues := by
  rw [queuesL_pending] at hq ⊢
  rw [irQ_pending, List.countP_eq_zero] at h
  exact fun s hs => ⟨fun hc => absurd (by simp [isIR, hc]) (h s hs), (hq s hs).2⟩

theorem LastInv.deliver {c c' : Cfg} (h : LastInv c) (hg : Guard c) (hd : c.deliver = some c') : LastInv c' := by
  obtain ⟨r, rs, hr, rfl⟩ := deliver_eq hd
  have hq := hg (by rw [hr]; simp)
  refine ⟨?_, ?_⟩
  · simp only [enqueue_log, lastL_cons_read]
    refine queuesL_enqueue ⟨fun _ => rfl, fun hc => by cases hc⟩ (queuesL_of_irQ h.q hq.1)
  · simp only [enqueue_log, enqueue_code]
    exact codeL_of_irCode hq.2

theorem LastInv.emit {c : Cfg} (h : LastInv c) (hg : Guard c) (P : Prog) (e : Ev) (he : e.isRead = false) :
    LastInv (c.emit P e) := by
  have h0 : LastInv (emit0 c e) :=
    ⟨by simpa [lastL_cons _ _ he] using h.q, by simpa [lastL_cons _ _ he] using h.code⟩
  rcases emit_cases P c e with h1 | h1
  · rw [h1]; exact h0
  · exact h0.deliver hg h1

theorem LastInv.silent {c c' : Cfg} (h : LastInv c) (hs : Silent c c') : LastInv c' :=
  ⟨by rw [hs.log]; exact hs.sigs _ h.q, by rw [hs.log]; exact codeL_carriers hs.code h.code⟩

theorem LastInv.push {c : Cfg} {is : List Instr} (h : LastInv c) (hi : codeL (lastL c.log) is) : LastInv (push c is) :=
  ⟨h.q, by simp [hi, h.code]⟩

theorem LastInv.enqueue {c : Cfg} {s : Sig} (h : LastInv c) (hs : sigL (lastL c.log) s) : LastInv (c.enqueue s) :=
  ⟨by rw [enqueue_log]; exact queuesL_enqueue hs h.q, by rw [enqueue_log, enqueue_code]; exact h.code⟩

theorem Guard.quiet {c X : Cfg} {rest : List Instr} (hg : Guard { c with code := rest }) (hX : Quiet c X)
    (hc : X.code = rest) : Guard X := by
  unfold Guard; rw [hX.readers, hX.toCalm.irQ, hc]; exact hg

theorem handoffSigs_sigL (last : Option Str) (reqs : List Request) (rs : List Nat) (r : Nat) (line : Str) (sid : Nat) :
    ∀ x ∈ handoffSigs reqs rs r line sid, sigL last x := by
  intro x hx
  simp only [handoffSigs, List.mem_cons] at hx
  rcases hx with rfl | hx
  · exact ⟨fun hc => (by cases hc), fun _ => rfl⟩
  · have := failSigs_all reqs rs (sid + 1) x hx
    exact ⟨fun hc => (by rw [this.1] at hc; cases hc), fun _ => this.2.1⟩

theorem recvL_processSignal {last : Option Str} {s : Sig} (h : sigL last s) : (Instr.processSignal s).recvL last := by
  intro s' hs
  simp only [Instr.recvSig?] at hs
  split at hs
  · cases hs; exact h.1 ‹_›
  · cases hs

theorem _root_.Simpleline.Input.Passes.codeL {c : Cfg} {ins : Instr} {new : List Instr} {t : List Tr} {last : Option Str}
    (h : Passes c ins new t) (hH : HandlersOK c) (hi : ins.recvL last) : codeL last new :=
  codeL_iff.mpr fun s hs => hi s (by rw [h.recv hH] at hs; simpa using hs)

theorem LastInv_step (P : Prog) (c : Cfg) (hP : P.NoForge) (hc : cleanCode c.code) (hH : HandlersOK c) (hg : Guard c)
    (h : LastInv c) : LastInv (final (step P c)) := by
  obtain ⟨_, hfin⟩ | ⟨ins, rest, c', hcode, hfin, hm⟩ := Input.step_cases P c <;> rw [hfin]
  · exact h
  have hcl : ins.clean = true := hc ins (by rw [hcode]; exact List.mem_cons_self)
  obtain ⟨hins, hrest⟩ : ins.recvL (lastL c.log) ∧ codeL (lastL c.log) rest := by
    have := h.code; rwa [hcode, codeL_cons] at this
  have hb : LastInv { c with code := rest } := ⟨h.q, hrest⟩
  have hgb : Guard { c with code := rest } := fun hr =>
    ⟨(hg hr).1, by have := (hg hr).2; rw [hcode, irCode_cons] at this; exact (Nat.add_eq_zero_iff.mp this).2⟩
  have quiet {X : Cfg} (hX : Quiet c X) (hc' : X.code = rest) : LastInv X :=
    hb.silent (hX.silent (hc' ▸ carriers_sublist _))
  cases hm with
  | calm new rest' hX hc' hsub hn => exact hb.silent (hX.silent (hc' ▸ carriers_pushed hn hsub))
  | @pass X new t hX hc' hp =>
    refine ⟨(quiet hX hc').q, ?_⟩
    show codeL (lastL X.log) (new ++ X.code)
    rw [codeL_append, hX.log]
    exact ⟨hp.codeL hH hins, hc' ▸ hrest⟩
  | @enq X Y s new hX hc' hs hn =>
    have hY : LastInv Y := by
      cases hs with
      | act => exact quiet hX hc'
      | newLoop s => exact ⟨hX.toCalm.opened.queuesL _ (hX.log ▸ h.q), (quiet hX hc').code⟩
    refine (hY.enqueue (sigL_of_not_input (hs.not_input hcl))).push (codeL_of_inert hn _)
  | emit e new hX hc' hl hn =>
    exact ((quiet hX hc').emit (hgb.quiet hX hc') P e hl.isRead).push (codeL_of_inert (hn hP) _)
  | idle hX hc' hd => exact (quiet hX hc').deliver (hgb.quiet hX hc') hd
  | @pop X Y e es more _ hX hc' hd he hm =>
    have hY : LastInv Y := by
      rcases hd with rfl | hd
      · exact quiet hX hc'
      · exact (quiet hX hc').deliver (hgb.quiet hX hc') hd
    have := queuesL_pop he hY.q
    refine LastInv.push ⟨this.1, hY.code⟩ ?_
    rw [codeL_cons]
    exact ⟨recvL_processSignal this.2, codeL_of_inert hm _⟩
  | closeLevel q a => exact ⟨h.q, hrest⟩
  | request ih src text new _ hX hc' hn =>
    rcases request_cases ih src text (hX.silent (hc' ▸ carriers_pushed hn (.refl _))) with hs | ⟨c1, hs, hr⟩
    · exact hb.silent hs
    · have h1 := hb.silent hs
      exact ⟨by rw [hr.log, hr.L]; exact h1.q, by rw [hr.log, hr.code]; exact h1.code⟩
  | handoff s rs r _ _ _ hc' hlog hL =>
    refine ⟨?_, by rw [hlog, hc']; exact hrest⟩
    rw [hL, hlog]
    exact queuesL_enqueueAll _ _ (handoffSigs_sigL _ _ _ _ _ _) h.q
  | ready n s new _ _ hX hc' hnew =>
    refine ⟨by rw [hX.log, hX.queues]; exact h.q, ?_⟩
    rw [hX.log, hc', codeL_append]
    refine ⟨?_, hrest⟩
    rcases hnew with rfl | ⟨_, scr, rfl⟩ <;> simp [Instr.recvL, Instr.recvSig?]

theorem guard_reach {P : Prog} {c0 c : Cfg} (h0 : Started c0) (hU : UserHandlers c0) (hF : NoForge P c0)
    (h : Reach P c0 c) : Guard c := by
  intro hrd
  have := (reader_busy_of_inv (inputInv_reach h0 hU hF h) hrd).2.2
  rw [irQueued_eq] at this
  exact this.2

theorem lastInv_reach {P : Prog} {c0 c : Cfg} (h0 : Started c0) (hU : UserHandlers c0) (hF : NoForge P c0)
    (h : Reach P c0 c) : LastInv c := by
  refine reach_step_induction (I := LastInv) ?_ ?_ ?_ h
  · refine ⟨?_, codeL_of_inert (inert_init h0 hF.2) _⟩
    intro q hq e he
    simp only [h0.queues, List.mem_singleton] at hq
    subst hq; cases he
  · intro c hr hi
    exact LastInv_step P c hF.1 (cleanCode_reach h0 hU hF hr) (handlersOK_reach h0 hU hr) (guard_reach h0 hU hF hr) hi
  · intro c c' hr hi hd
    exact hi.deliver (guard_reach h0 hU hF hr) hd

end Simpleline.InputOrder
