/-
  `heappush` / `heappop`: heap property preserved, multiset preserved, the popped element is the root,
  which is a minimum.
-/
import Simpleline.Lemmas.HeapSiftup

namespace Simpleline.Heapq

variable {α : Type}

theorem heappush_size (lt : α → α → Bool) (a : Array α) (x : α) : (heappush lt a x).size = a.size + 1 := by
  simp [heappush, siftdown_size]

theorem heappush_isHeap {lt : α → α → Bool} (so : StrictOrd lt) (a : Array α) (x : α) (H : IsHeap lt a) :
    IsHeap lt (heappush lt a x) := by
  unfold heappush
  apply siftdown_isHeap so _ _ (by simp)
  simp only [Array.size_push, Nat.pred_eq_sub_one, Nat.add_sub_cancel]
  refine ⟨fun i hi hi0 hik => ?_, fun c hc hc0 hck hk0 => ?_⟩
  · have hi' : i < a.size := by simp only [Array.size_push] at hi; omega
    rw [Array.getElem_push_lt hi', Array.getElem_push_lt (parent_lt hi')]
    exact H i hi' hi0
  · -- no position of the pushed list has the last one as its parent
    have := parent_lt_self hc0
    simp only [Array.size_push] at hc
    omega

theorem heappush_perm (lt : α → α → Bool) (a : Array α) (x : α) :
    (heappush lt a x).toList.Perm (x :: a.toList) := by
  unfold heappush
  refine (siftdown_perm ..).toList.trans ?_
  simp only [Array.toList_push]
  exact List.perm_append_singleton x a.toList

theorem heappop_none {lt : α → α → Bool} {a : Array α} : heappop lt a = none ↔ a.size = 0 := by
  unfold heappop
  split
  · next h =>
    have : a.size ≠ 0 := by omega
    dsimp only; split <;> simp [this]
  · next h =>
    have : a.size = 0 := by omega
    simp [this]

/-- one formula for both branches of `heappop`: after the pop of a one-element list there is no place for the
last element to take and nothing to sift -/
theorem heappop_eq_some {lt : α → α → Bool} {a a' : Array α} {r : α} (h : heappop lt a = some (r, a')) :
    ∃ h0 : 0 < a.size, r = a[0] ∧ a' = siftup lt (a.pop.setIfInBounds 0 a[a.size - 1]) 0 := by
  unfold heappop at h
  split at h
  · next h0 =>
    refine ⟨h0, ?_⟩
    dsimp only at h
    split at h
    · next h1 =>
      simp only [Option.some.injEq, Prod.mk.injEq] at h
      exact ⟨by rw [← h.1]; simp, h.2.symm⟩
    · next h1 =>
      simp only [Option.some.injEq, Prod.mk.injEq] at h
      simp only [Array.size_pop] at h1
      refine ⟨by rw [← h.1]; congr 1; omega, ?_⟩
      rw [← h.2, siftup, dif_neg (by simpa using h1), Array.setIfInBounds_eq_of_size_le (by simpa using h1)]
  · simp at h

theorem heappop_perm {lt : α → α → Bool} {a a' : Array α} {r : α} (h : heappop lt a = some (r, a')) :
    a.toList.Perm (r :: a'.toList) := by
  obtain ⟨h0, rfl, rfl⟩ := heappop_eq_some h
  refine .trans ?_ (List.Perm.cons _ (siftup_perm ..).toList.symm)
  -- the root moved behind the rest is the list with its first and last element exchanged
  have e : (a.pop.setIfInBounds 0 a[a.size - 1]).push a[0] = a.swap 0 (a.size - 1) := by
    apply Array.ext
    · simp; omega
    · intro i h1 h2
      simp only [Array.getElem_swap, Array.getElem_push, get_set, Array.size_setIfInBounds, Array.size_pop,
        Array.getElem_pop]
      grind
  have p : (a.swap 0 (a.size - 1)).Perm a := Array.swap_perm _ _
  rw [← e] at p
  refine p.toList.symm.trans ?_
  rw [Array.toList_push]
  exact List.perm_append_singleton _ _

theorem heappop_isHeap {lt : α → α → Bool} (so : StrictOrd lt) {a a' : Array α} {r : α}
    (h : heappop lt a = some (r, a')) (H : IsHeap lt a) : IsHeap lt a' := by
  obtain ⟨h0, rfl, rfl⟩ := heappop_eq_some h
  exact siftup_isHeap so _ (H.pop.holeHeap_root _)

theorem heappop_min {lt : α → α → Bool} (so : StrictOrd lt) {a a' : Array α} {r : α}
    (h : heappop lt a = some (r, a')) (H : IsHeap lt a) : ∀ y ∈ a.toList, lt y r = false := by
  obtain ⟨h0, rfl, rfl⟩ := heappop_eq_some h
  intro y hy
  obtain ⟨i, hi, rfl⟩ := List.getElem_of_mem hy
  exact H.root_le so i (by simpa using hi)

end Simpleline.Heapq
