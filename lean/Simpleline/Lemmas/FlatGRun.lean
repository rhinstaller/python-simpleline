/-
  C20d, GLib machine: single steps under the invariant `GSim`, each with the code and the `GSim` parameters it leads
  to, for the instructions of the dispatch cycle: `gDisp` (the dispatch of a batch element begins), `endRun` and
  `gAfter` (it ends), `gIter` (a batch is collected, or the machine blocks when no source is attached).
-/
import Simpleline.Lemmas.FlatG

namespace Simpleline.Flat
open Simpleline Simpleline.GLoop

/-- the stand-in's `in_call = True` on source `sid` -/
def markIn (sid : Nat) (g : G.GSource) : G.GSource := if g.id = sid then { g with inCall := true } else g

@[simp] theorem markIn_id (sid : Nat) (g : G.GSource) : (markIn sid g).id = g.id := by unfold markIn; split <;> rfl
@[simp] theorem markIn_sig (sid : Nat) (g : G.GSource) : (markIn sid g).sig = g.sig := by unfold markIn; split <;> rfl
@[simp] theorem markIn_hs (sid : Nat) (g : G.GSource) : (markIn sid g).hs = g.hs := by unfold markIn; split <;> rfl

variable {hs : List (Cls × HRef × Option Nat)} {c : G.Cfg} {st : List (Nat × Nat)} {srcs : List G.GSource}
  {run : Bool} {ep : Nat} {lg : List Ev}

theorem gstep_gDisp (P : Prog) (h : GSim hs c st srcs none run ep lg) (b : G.GSource) (rest : List G.Instr)
    (hc : c.code = .gDisp 0 ep b :: rest) (hb : b ∈ srcs) :
    ∃ c', G.step P c = .ok c' ∧ c'.code = .runH 0 b :: .gAfter 0 b.id :: rest ∧
      GSim hs c' st (srcs.map (markIn b.id)) (some b.id) run ep lg := by
  cases hfind : srcs.find? (fun x => x.id = b.id) with
  | none =>
    have := List.find?_eq_none.1 hfind b hb
    simp at this
  | some cur =>
    have hcur : cur.inCall = false := by
      have := (h.wf cur (List.mem_of_find?_eq_some hfind)).2.2.2
      simpa using this
    refine ⟨{ c with code := .runH 0 b :: .gAfter 0 b.id :: rest,
                     L := { c.L with ctxs := [{ sources := srcs.map (markIn b.id), epoch := ep, running := run, srcset := [] }] },
                     tr := .m (.take 0 b.sig) :: .disp 0 ep b :: c.tr }, ?_, rfl, ?_⟩
    · simp [G.step, hc, G.Cfg.ctx, G.GSt.ctx, h.ctxs, hfind, hcur, G.Cfg.setInCall, G.Cfg.setCtx, G.GSt.setCtx, listSet,
        G.Cfg.gtrace, G.Cfg.trace, G.push]
      intro a _; rfl
    · refine ⟨rfl, ?_, ?_, ?_, h.loops, h.fq, h.handlers, h.readers, h.cnt, h.log⟩
      · intro g' hg'
        obtain ⟨g, hg, rfl⟩ := List.mem_map.1 hg'
        have := h.wf g hg
        refine ⟨by simpa using this.1, by simpa using this.2.1, by simpa using this.2.2.1, ?_⟩
        unfold markIn
        by_cases hid : g.id = b.id
        · simp [hid]
        · have hne : ¬ b.id = g.id := fun e => hid e.symm
          have hg4 : g.inCall = false := by simpa using this.2.2.2
          simp [hid, hne, hg4]
      · rw [List.pairwise_map]
        simpa using h.nodup
      · intro x hx
        cases hx
        exact (h.wf b hb).1

theorem gstep_endRun (P : Prog) (h : GSim hs c st srcs (some sid) run ep lg) (b : G.GSource) (hsid : b.id = sid) (rest : List G.Instr)
    (hc : c.code = .endRun 0 b :: rest) :
    ∃ c', G.step P c = .ok c' ∧ c'.code = rest ∧ GSim hs c' st (srcs.filter (fun g => g.id ≠ sid)) none run ep lg := by
  subst hsid
  refine ⟨{ c with code := rest,
                   L := { c.L with ctxs := [{ sources := srcs.filter (fun g => g.id ≠ b.id), epoch := ep, running := run, srcset := [] }],
                                   tickets := mark c.L.tickets b.sig.cls },
                   tr := .destroy 0 b.id :: c.tr }, ?_, rfl, ?_⟩
  · simp [G.step, hc, G.Cfg.destroy, G.Cfg.setCtx, G.GSt.setCtx, h.ctxs, listSet, G.Cfg.gtrace]
  · refine ⟨rfl, ?_, h.nodup.filter _, (fun _ hx => by cases hx), h.loops, h.fq, h.handlers, h.readers, h.cnt, h.log⟩
    intro g hg
    obtain ⟨hg, hne⟩ := List.mem_filter.1 hg
    have := h.wf g hg
    refine ⟨this.1, this.2.1, this.2.2.1, ?_⟩
    have hne' : ¬ b.id = g.id := by
      intro e; simp [e] at hne
    rw [this.2.2.2]
    simp [hne']

theorem gstep_gAfter (P : Prog) (h : GSim hs c st srcs none run ep lg) (sid : Nat) (hsid : ∀ g ∈ srcs, g.id ≠ sid) (rest : List G.Instr)
    (hc : c.code = .gAfter 0 sid :: rest) :
    ∃ c', G.step P c = .ok c' ∧ c'.code = rest ∧ GSim hs c' st srcs none run ep lg := by
  have e1 : srcs.map (fun g => if g.id = sid then { g with inCall := false } else g) = srcs := by
    conv => rhs; rw [← List.map_id srcs]
    apply List.map_congr_left
    intro g hg
    simp [hsid g hg]
  refine ⟨{ c with code := rest,
                   L := { c.L with ctxs := [{ sources := srcs, epoch := ep, running := run, srcset := [] }] } }, ?_, rfl,
    ⟨rfl, h.wf, h.nodup, h.busy_lt, h.loops, h.fq, h.handlers, h.readers, h.cnt, h.log⟩⟩
  simp [G.step, hc, G.Cfg.destroy, G.Cfg.setInCall, G.Cfg.setCtx, G.GSt.setCtx, h.ctxs, listSet, e1]
  exact hsid

theorem ready_eq (h : GSim hs c st srcs none run ep lg) : srcs.filter (fun g => !g.inCall) = srcs := by
  rw [List.filter_eq_self]
  intro g hg
  have := (h.wf g hg).2.2.2
  simp at this
  simp [this]

theorem gstep_gIter (P : Prog) (h : GSim hs c st srcs none true ep lg) (p : Int) (hp : G.minPrio srcs = some p) (rest : List G.Instr)
    (hc : c.code = .gIter 0 .block :: rest) :
    ∃ c', G.step P c = .ok c' ∧
      c'.code = (srcs.filter fun g => g.sig.prio = p).map (fun g => G.Instr.gDisp 0 (ep + 1) g) ++ rest ∧
      GSim hs c' st srcs none true (ep + 1) lg := by
  refine ⟨{ c with code := (srcs.filter fun g => g.sig.prio = p).map (fun g => G.Instr.gDisp 0 (ep + 1) g) ++ rest,
                   L := { c.L with ctxs := [{ sources := srcs, epoch := ep + 1, running := true, srcset := [] }] },
                   tr := .iter 0 (ep + 1) p srcs (srcs.filter fun g => g.sig.prio = p) :: c.tr }, ?_, rfl, ?_⟩
  · have hr := ready_eq h
    simp [G.step, hc, G.Cfg.ctx, G.GSt.ctx, h.ctxs, G.Cfg.setCtx, G.GSt.setCtx, listSet, G.Ctx.ready, hr, G.Cfg.deliver,
      h.readers, hp, G.push, G.Cfg.gtrace]
  · exact ⟨rfl, h.wf, h.nodup, h.busy_lt, h.loops, h.fq, h.handlers, h.readers, h.cnt, h.log⟩

theorem gstep_gIter_blocked (P : Prog) (h : GSim hs c st [] none true ep lg) (rest : List G.Instr)
    (hc : c.code = .gIter 0 .block :: rest) :
    ∃ c', G.step P c = .error (.blocked, c') ∧ c'.log = lg := by
  refine ⟨{ c with code := rest, L := { c.L with ctxs := [{ sources := [], epoch := ep + 1, running := true, srcset := [] }] } },
    ?_, h.log⟩
  simp [G.step, hc, G.Cfg.ctx, G.GSt.ctx, h.ctxs, G.Cfg.setCtx, G.GSt.setCtx, listSet, G.Ctx.ready, G.Cfg.deliver,
    h.readers, G.minPrio]

end Simpleline.Flat
