/-
  One iteration of the wrap loop of `textwrap` (`wrapStep`; C11 and C11b): stage by stage one step of the
  greedy rule of `Spec/GreedySpec.lean`, whose termination argument it inherits; what else the theorems
  about the loop need of an iteration follows from `wrapStep_cases`.
-/
import Simpleline.Spec.GreedySpec

namespace Simpleline

@[simp] theorem totalLen_nil : totalLen [] = 0 := rfl

@[simp] theorem totalLen_cons (c : List Char) (cs : List (List Char)) :
    totalLen (c :: cs) = c.length + totalLen cs := by
  simp [totalLen]

@[simp] theorem totalLen_append (a b : List (List Char)) :
    totalLen (a ++ b) = totalLen a + totalLen b := by
  simp [totalLen]

theorem totalLen_eq_flatten (cs : List (List Char)) : totalLen cs = cs.flatten.length := by
  induction cs with
  | nil => rfl
  | cons c cs ih => simp [ih]

theorem chunksWidth_eq_totalLen (cs : List (List Char)) : chunksWidth cs = totalLen cs :=
  (totalLen_eq_flatten cs).symm

@[simp] theorem wrapMeasure_nil : wrapMeasure [] = 0 := rfl

theorem chunksMeasure_eq_wrapMeasure (cs : List (List Char)) : chunksMeasure cs = wrapMeasure cs := by
  rw [chunksMeasure, wrapMeasure, chunksWidth_eq_totalLen]

theorem dropLead_cases (cc : CharClass) (haveLines : Bool) (chunks : List (List Char)) :
    dropLead cc haveLines chunks = chunks ∨
    ∃ c, chunks = c :: dropLead cc haveLines chunks ∧ blank cc c = true ∧ haveLines = true := by
  cases chunks with
  | nil => left; rfl
  | cons c cs =>
    simp only [dropLead]
    split
    · next h =>
      right
      simp only [Bool.and_eq_true] at h
      exact ⟨c, rfl, h.2, h.1⟩
    · left; rfl

theorem mem_of_mem_dropLead {cc : CharClass} {haveLines : Bool} {chunks : List (List Char)}
    {x : List Char} (h : x ∈ dropLead cc haveLines chunks) : x ∈ chunks := by
  rcases dropLead_cases cc haveLines chunks with h1 | ⟨c, h1, _⟩
  · rwa [h1] at h
  · rw [h1]; exact List.mem_cons_of_mem c h

theorem dropLead_false (cc : CharClass) (chunks : List (List Char)) : dropLead cc false chunks = chunks := by
  cases chunks <;> simp [dropLead]

theorem dropLead_eq_dropBlankHead (cc : CharClass) (haveLines : Bool) (chunks : List (List Char)) :
    dropLead cc haveLines chunks =
      if (!haveLines) = true then chunks else dropBlankHead cc chunks := by
  cases chunks with
  | nil => cases haveLines <;> rfl
  | cons c cs => cases haveLines <;> simp [dropLead, dropBlankHead]

theorem takeFit_eq_fitCount (w : Nat) : ∀ (len : Nat) (cs : List (List Char)), len ≤ w →
    takeFit w len cs = (cs.take (fitCount (w - len) cs), cs.drop (fitCount (w - len) cs))
  | _, [], _ => by simp [takeFit, fitCount]
  | len, c :: cs, h => by
    unfold takeFit fitCount
    by_cases hc : len + c.length ≤ w
    · have hc' : c.length ≤ w - len := by omega
      have hsub : w - (len + c.length) = w - len - c.length := by omega
      rw [if_pos hc, if_pos hc', takeFit_eq_fitCount w (len + c.length) cs hc, hsub]
      rfl
    · have hc' : ¬ c.length ≤ w - len := by omega
      rw [if_neg hc, if_neg hc']
      rfl

theorem takeFit_all (w : Nat) : ∀ (len : Nat) (cs : List (List Char)), len + totalLen cs ≤ w →
    takeFit w len cs = (cs, [])
  | _, [], _ => rfl
  | len, c :: cs, h => by
    rw [totalLen_cons] at h
    rw [takeFit, if_pos (by omega), takeFit_all w (len + c.length) cs (by omega)]

theorem takeFit_snd (w : Nat) : ∀ (len : Nat) (cs : List (List Char)) (c : List Char)
    (rest : List (List Char)), (takeFit w len cs).2 = c :: rest →
    w < len + totalLen (takeFit w len cs).1 + c.length
  | _, [], c, rest, h => by simp [takeFit] at h
  | len, d :: cs, c, rest, h => by
    unfold takeFit at h ⊢
    split
    · next hc =>
      rw [if_pos hc] at h
      have := takeFit_snd w (len + d.length) cs c rest h
      simp only [totalLen_cons]
      omega
    · next hc =>
      rw [if_neg hc] at h
      simp only [List.cons.injEq] at h
      obtain ⟨rfl, _⟩ := h
      simp only [totalLen_nil]
      omega

theorem nthIs_isHyphen (c : List Char) (i : Nat) : nthIs isHyphen c i = true ↔ c[i]? = some '-' := by
  unfold nthIs
  cases c[i]? with
  | none => simp
  | some x => simp [isHyphen]

theorem rfindHyphen_some (c : List Char) : ∀ (s h : Nat), rfindHyphen c s = some h →
    h < s ∧ c[h]? = some '-' ∧ ∀ i, h < i → i < s → c[i]? ≠ some '-'
  | 0, h, hh => by simp [rfindHyphen] at hh
  | s + 1, h, hh => by
    unfold rfindHyphen at hh
    split at hh
    · next hs =>
      simp only [Option.some.injEq] at hh
      subst hh
      exact ⟨Nat.lt_succ_self _, (nthIs_isHyphen c s).1 hs, fun i h1 h2 => by omega⟩
    · next hs =>
      obtain ⟨h1, h2, h3⟩ := rfindHyphen_some c s h hh
      refine ⟨by omega, h2, fun i hi1 hi2 => ?_⟩
      by_cases hi : i = s
      · subst hi
        exact fun e => hs ((nthIs_isHyphen c i).2 e)
      · exact h3 i hi1 (by omega)

/-- The rule of `_handle_long_word` for the place of the cut in a room of `s` columns: at `s`, or
earlier right after a hyphen — the last hyphen before column `s`, provided the chunk has a
character other than a hyphen before it. -/
theorem cutPoint_rule (c : List Char) (s : Nat) :
    cutPoint c s = s ∨
    (cutPoint c s < s ∧ 2 ≤ cutPoint c s ∧ c[cutPoint c s - 1]? = some '-' ∧
      (∃ x ∈ c.take (cutPoint c s - 1), x ≠ '-') ∧
      ∀ i, cutPoint c s ≤ i → i < s → c[i]? ≠ some '-') := by
  unfold cutPoint
  split
  · next h hh =>
    obtain ⟨h1, h2, h3⟩ := rfindHyphen_some c s h hh
    split
    · next hcond =>
      by_cases hs : h + 1 = s
      · left; exact hs
      · right
        obtain ⟨hpos, hany⟩ := hcond
        simp only [List.any_eq_true, bne_iff_ne] at hany
        refine ⟨by omega, by omega, by simpa using h2, by simpa using hany, fun i hi1 hi2 => ?_⟩
        exact h3 i (by omega) hi2
    · left; rfl
  · left; rfl

theorem cutPoint_le (chunk : List Char) (space : Nat) : cutPoint chunk space ≤ space := by
  rcases cutPoint_rule chunk space with h | h <;> omega

/-- the inner loop followed by `_handle_long_word` is `greedyLine` -/
theorem fitBreak_eq_greedyLine (w : Nat) (cs : List (List Char)) :
    breakLong w (totalLen (takeFit w 0 cs).1) (takeFit w 0 cs).1 (takeFit w 0 cs).2 =
      greedyLine w cs := by
  rw [takeFit_eq_fitCount w 0 cs (Nat.zero_le _), Nat.sub_zero]
  unfold greedyLine
  simp only []
  cases cs.drop (fitCount w cs) with
  | nil => rfl
  | cons c rest =>
    simp only [breakLong]
    by_cases hc : c.length ≤ w
    · rw [if_pos hc, if_neg (by omega)]
    · rw [if_neg hc, if_pos (by omega), chunksWidth_eq_totalLen]

@[simp] theorem dropTrail_nil (cc : CharClass) : dropTrail cc [] = [] := rfl

theorem dropTrail_concat (cc : CharClass) (cur : List (List Char)) (p : List Char) :
    dropTrail cc (cur ++ [p]) = if blank cc p = true then cur else cur ++ [p] := by
  simp [dropTrail]

theorem dropTrail_cases (cc : CharClass) (cur : List (List Char)) :
    dropTrail cc cur = cur ∨ ∃ l, cur = dropTrail cc cur ++ [l] ∧ blank cc l = true := by
  rcases List.eq_nil_or_concat cur with rfl | ⟨init, l, rfl⟩
  · left; rfl
  · rw [List.concat_eq_append, dropTrail_concat]
    split
    · next h => right; exact ⟨l, rfl, h⟩
    · left; rfl

theorem mem_of_mem_dropTrail {cc : CharClass} {cur : List (List Char)} {x : List Char}
    (h : x ∈ dropTrail cc cur) : x ∈ cur := by
  rcases dropTrail_cases cc cur with h1 | ⟨l, h1, _⟩
  · rwa [h1] at h
  · rw [h1]; exact List.mem_append_left _ h

theorem dropTrail_eq_dropBlankLast (cc : CharClass) (cur : List (List Char)) :
    dropTrail cc cur = dropBlankLast cc cur := by
  rcases List.eq_nil_or_concat cur with rfl | ⟨init, l, rfl⟩
  · rfl
  · rw [List.concat_eq_append, dropTrail_concat]
    simp only [dropBlankLast, List.reverse_append, List.reverse_cons, List.reverse_nil,
      List.nil_append, List.cons_append, dropBlankHead]
    split <;> simp

theorem blank_nil (cc : CharClass) : blank cc [] = true := rfl

/-- the chunks of the current line before the trailing blank chunk is dropped -/
def stepCur (cc : CharClass) (w : Nat) (haveLines : Bool) (chunks : List (List Char)) :
    List (List Char) :=
  (breakLong w (totalLen (takeFit w 0 (dropLead cc haveLines chunks)).1)
    (takeFit w 0 (dropLead cc haveLines chunks)).1
    (takeFit w 0 (dropLead cc haveLines chunks)).2).1

section step

variable (cc : CharClass) (w : Nat) (haveLines : Bool) (chunks : List (List Char))

theorem wrapStep_fst :
    (wrapStep cc w haveLines chunks).1 =
      if (dropTrail cc (stepCur cc w haveLines chunks)).isEmpty then none
      else some (dropTrail cc (stepCur cc w haveLines chunks)).flatten := rfl

theorem wrapStep_snd :
    (wrapStep cc w haveLines chunks).2 =
      (breakLong w (totalLen (takeFit w 0 (dropLead cc haveLines chunks)).1)
        (takeFit w 0 (dropLead cc haveLines chunks)).1
        (takeFit w 0 (dropLead cc haveLines chunks)).2).2 := rfl

theorem stepCur_eq_greedyLine :
    stepCur cc w haveLines chunks = (greedyLine w (dropLead cc haveLines chunks)).1 := by
  rw [stepCur, fitBreak_eq_greedyLine]

theorem wrapStep_snd_eq_greedyLine :
    (wrapStep cc w haveLines chunks).2 = (greedyLine w (dropLead cc haveLines chunks)).2 := by
  rw [wrapStep_snd, fitBreak_eq_greedyLine]

theorem wrapStep_measure_lt (hw : 1 ≤ w) (hne : chunks ≠ []) :
    wrapMeasure (wrapStep cc w haveLines chunks).2 < wrapMeasure chunks := by
  rw [wrapStep_snd_eq_greedyLine, dropLead_eq_dropBlankHead, ← chunksMeasure_eq_wrapMeasure,
    ← chunksMeasure_eq_wrapMeasure]
  refine greedy_rest_lt cc w (!haveLines) chunks ?_
  rintro (h | h)
  · exact hne h
  · omega

theorem wrapStep_fst_some (l : List Char) (h : (wrapStep cc w haveLines chunks).1 = some l) :
    dropTrail cc (stepCur cc w haveLines chunks) ≠ [] ∧
    l = (dropTrail cc (stepCur cc w haveLines chunks)).flatten := by
  rw [wrapStep_fst] at h
  split at h
  · cases h
  · next hne =>
    simp only [Option.some.injEq] at h
    exact ⟨by simpa using hne, h.symm⟩

theorem wrapStep_fst_getD :
    (wrapStep cc w haveLines chunks).1.getD [] =
      (dropTrail cc (stepCur cc w haveLines chunks)).flatten := by
  rw [wrapStep_fst]
  split
  · next h =>
    simp only [List.isEmpty_iff] at h
    simp [h]
  · rfl

/-- What an iteration does with the chunks left after the leading blank one was dropped: it divides
them into the current line, which fits, and the chunks left - or a chunk longer than the width comes
next, and its beginning is put on the line too. -/
theorem wrapStep_cases :
    (stepCur cc w haveLines chunks ++ (wrapStep cc w haveLines chunks).2 =
        dropLead cc haveLines chunks ∧
      totalLen (stepCur cc w haveLines chunks) ≤ w) ∨
    ∃ pre c post, dropLead cc haveLines chunks = pre ++ c :: post ∧ totalLen pre ≤ w ∧
      w < c.length ∧
      stepCur cc w haveLines chunks = pre ++ [c.take (cutPoint c (w - totalLen pre))] ∧
      (wrapStep cc w haveLines chunks).2 = c.drop (cutPoint c (w - totalLen pre)) :: post := by
  rw [stepCur_eq_greedyLine, wrapStep_snd_eq_greedyLine]
  generalize dropLead cc haveLines chunks = cs
  have hfit := fitCount_fits w cs
  have hcs := List.take_append_drop (fitCount w cs) cs
  unfold greedyLine
  simp only []
  split
  · next h => rw [h] at hcs; exact .inl ⟨hcs, chunksWidth_eq_totalLen _ ▸ hfit⟩
  · next c rest h =>
    rw [h] at hcs
    rw [chunksWidth_eq_totalLen] at hfit ⊢
    split
    · exact .inl ⟨hcs, hfit⟩
    · exact .inr ⟨_, c, rest, hcs.symm, hfit, by omega, rfl, rfl⟩

theorem stepCur_flatten :
    (stepCur cc w haveLines chunks).flatten ++ (wrapStep cc w haveLines chunks).2.flatten =
      (dropLead cc haveLines chunks).flatten := by
  rcases wrapStep_cases cc w haveLines chunks with ⟨h, _⟩ | ⟨pre, c, post, h, _, _, h1, h2⟩
  · rw [← List.flatten_append, h]
  · rw [h, h1, h2]
    simp only [List.flatten_append, List.flatten_cons, List.flatten_nil, List.append_nil,
      List.append_assoc]
    rw [← List.append_assoc (c.take _), List.take_append_drop]

theorem wrapStep_struct :
    ∃ lead trail : List Char,
      chunks.flatten = lead ++ (wrapStep cc w haveLines chunks).1.getD [] ++ trail ++
        (wrapStep cc w haveLines chunks).2.flatten ∧
      blank cc lead = true ∧ blank cc trail = true := by
  have h1 := stepCur_flatten cc w haveLines chunks
  rw [wrapStep_fst_getD]
  obtain ⟨lead, hlead, hbl⟩ : ∃ lead, chunks.flatten = lead ++ (dropLead cc haveLines chunks).flatten ∧
      blank cc lead = true := by
    rcases dropLead_cases cc haveLines chunks with h | ⟨c, h, hb, _⟩
    · exact ⟨[], by rw [h]; rfl, rfl⟩
    · exact ⟨c, by conv => lhs; rw [h, List.flatten_cons], hb⟩
  obtain ⟨trail, htrail, hbt⟩ : ∃ trail, (stepCur cc w haveLines chunks).flatten =
      (dropTrail cc (stepCur cc w haveLines chunks)).flatten ++ trail ∧ blank cc trail = true := by
    rcases dropTrail_cases cc (stepCur cc w haveLines chunks) with h | ⟨l, h, hb⟩
    · exact ⟨[], by rw [h]; simp, rfl⟩
    · exact ⟨l, by conv => lhs; rw [h]; simp, hb⟩
  refine ⟨lead, trail, ?_, hbl, hbt⟩
  rw [hlead, ← h1, htrail]
  simp only [List.append_assoc]

theorem wrapStep_line_subset (l : List Char) (h : (wrapStep cc w haveLines chunks).1 = some l) :
    l ⊆ chunks.flatten := by
  obtain ⟨lead, trail, he, _, _⟩ := wrapStep_struct cc w haveLines chunks
  rw [h] at he
  intro x hx
  rw [he]
  simp [hx]

theorem wrapStep_rest_subset :
    (wrapStep cc w haveLines chunks).2.flatten ⊆ chunks.flatten := by
  obtain ⟨lead, trail, he, _, _⟩ := wrapStep_struct cc w haveLines chunks
  intro x hx
  rw [he]
  simp [hx]

theorem wrapStep_line_length (l : List Char) (h : (wrapStep cc w haveLines chunks).1 = some l) :
    l.length ≤ w := by
  obtain ⟨_, rfl⟩ := wrapStep_fst_some cc w haveLines chunks l h
  have h1 : totalLen (stepCur cc w haveLines chunks) ≤ w := by
    rcases wrapStep_cases cc w haveLines chunks with ⟨_, h⟩ | ⟨pre, c, post, _, _, _, h1, _⟩
    · exact h
    · have := cutPoint_le c (w - totalLen pre)
      rw [h1]
      simp only [totalLen_append, totalLen_cons, totalLen_nil, List.length_take]
      omega
  rw [← totalLen_eq_flatten]
  rcases dropTrail_cases cc (stepCur cc w haveLines chunks) with h2 | ⟨p, h2, _⟩
  · rw [h2]; exact h1
  · rw [h2, totalLen_append] at h1; omega

theorem wrapStep_rest_ne (hch : ∀ c ∈ chunks, c ≠ []) :
    ∀ c ∈ (wrapStep cc w haveLines chunks).2, c ≠ [] := by
  intro d hd
  rcases wrapStep_cases cc w haveLines chunks with ⟨h, _⟩ | ⟨pre, c, post, h, _, hc, _, h2⟩
  · exact hch d (mem_of_mem_dropLead (h ▸ List.mem_append_right _ hd))
  · rw [h2] at hd
    rcases List.mem_cons.1 hd with rfl | hd
    · have := cutPoint_le c (w - totalLen pre)
      intro h0
      have := congrArg List.length h0
      simp only [List.length_drop, List.length_nil] at this
      omega
    · exact hch d (mem_of_mem_dropLead (by rw [h]; simp [hd]))

/-- A produced line is not empty: its chunks are chunks of the text, or the beginning of a long
chunk, which is dropped as a trailing blank chunk if there was no room for any of it. -/
theorem wrapStep_line_ne (hch : ∀ c ∈ chunks, c ≠ [])
    (l : List Char) (h : (wrapStep cc w haveLines chunks).1 = some l) : l ≠ [] := by
  obtain ⟨hne, rfl⟩ := wrapStep_fst_some cc w haveLines chunks l h
  obtain ⟨x, xs, hcur⟩ := List.exists_cons_of_ne_nil hne
  suffices x ≠ [] by simp [hcur, this]
  have hx : x ∈ dropTrail cc (stepCur cc w haveLines chunks) := by simp [hcur]
  rcases wrapStep_cases cc w haveLines chunks with ⟨h, _⟩ | ⟨pre, c, post, h, _, _, h1, _⟩
  · exact hch x (mem_of_mem_dropLead (h ▸ List.mem_append_left _ (mem_of_mem_dropTrail hx)))
  · have hpre : ∀ y ∈ pre, y ≠ [] := fun y hy => hch y (mem_of_mem_dropLead (by rw [h]; simp [hy]))
    rw [h1, dropTrail_concat] at hx
    split at hx
    · exact hpre x hx
    · next hb =>
      rcases List.mem_append.1 hx with hx | hx
      · exact hpre x hx
      · rw [List.mem_singleton.1 hx]
        exact fun h0 => hb (h0 ▸ blank_nil cc)

end step

end Simpleline
