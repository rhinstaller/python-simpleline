/-
  The loop-relevant *view* of a configuration and the micro-operations every machine transition is
  made of (proof device for C01 / C03).

  Every transition is one of
  * `Plain`: at most one *structural* operation (`StructOp`: register a source with the active queue,
    force-quit, `run()` start, restore `_run_loop`, open a level, pop a level) followed by any number of
    enqueues and uninteresting trace events (`EnqSteps`);
  * `TakeTrans`: (a delivery by the reader thread when the active queue is empty, then) removal of the
    head of the active queue;
  * `PutBackTrans`: the put-back of `process_signals`' partial batch (queues untouched).
-/
import Simpleline.Lemmas.LoopQueue
import Simpleline.Lemmas.MachineClosed

namespace Simpleline

/-- What C01 and C03 speak about, and nothing else of a configuration: the queue objects, the stack of levels
(`MainLoop._event_queues`, as indices into `queues`), the active queue, `_run_loop`, `_force_quit`, the trace. -/
structure QView where
  queues : List EQueue
  levels : List Nat
  active : Nat
  runLoop : Bool
  forceQuit : Bool
  tr : List Tr

def Cfg.view (c : Cfg) : QView := ⟨c.L.queues, c.L.levels, c.L.active, c.L.runLoop, c.L.forceQuit, c.tr⟩

@[simp] theorem view_queues (c : Cfg) : c.view.queues = c.L.queues := rfl
@[simp] theorem view_levels (c : Cfg) : c.view.levels = c.L.levels := rfl
@[simp] theorem view_active (c : Cfg) : c.view.active = c.L.active := rfl
@[simp] theorem view_runLoop (c : Cfg) : c.view.runLoop = c.L.runLoop := rfl
@[simp] theorem view_forceQuit (c : Cfg) : c.view.forceQuit = c.L.forceQuit := rfl
@[simp] theorem view_tr (c : Cfg) : c.view.tr = c.tr := rfl

def QView.queue (v : QView) (q : Nat) : EQueue := v.queues.getD q {}

/-- `LoopSt.route` on the view: `c.view.route src = c.L.route src` by `rfl` -/
def QView.route (v : QView) (src : Src) : Nat :=
  match v.levels.reverse.find? (fun q => (v.queues.getD q {}).sources.contains src) with
  | some q => q
  | none => v.active

def QView.enq (v : QView) (s : Sig) : QView :=
  if v.forceQuit then { v with tr := .dropped s :: v.tr }
  else { v with queues := listSet v.queues (v.route s.src) (·.put s), tr := .enq (v.route s.src) s :: v.tr }

theorem view_enqueue (c : Cfg) (s : Sig) : (c.enqueue s).view = c.view.enq s := by
  unfold Cfg.enqueue QView.enq
  rw [view_forceQuit]
  split <;> rfl

/-- trace events that are not about queues / levels -/
def Tr.boring : Tr → Bool
  | .enq .. | .dropped .. | .take .. | .putBack .. | .forceQuit | .openLevel .. | .closeLevel .. => false
  | _ => true

def QView.note (v : QView) (t : Tr) : QView := { v with tr := t :: v.tr }

def QView.pop (v : QView) (q : Nat) : QView :=
  match v.levels.dropLast.getLast? with
  | none => { v with levels := [], tr := .closeLevel q :: v.tr }
  | some a => { v with levels := v.levels.dropLast, active := a, runLoop := false, tr := .closeLevel q :: v.tr }

inductive EnqSteps : QView → QView → Prop
  | refl (v : QView) : EnqSteps v v
  | enq {v v' : QView} (s : Sig) : EnqSteps v v' → EnqSteps v (v'.enq s)
  | note {v v' : QView} (t : Tr) : t.boring = true → EnqSteps v v' → EnqSteps v (v'.note t)

/-- The operations that change which queue objects, levels, sources or flags there are; none of them changes the
entries of an existing queue. -/
inductive StructOp : QView → QView → Prop
  | addSrc (v : QView) (s : Src) :
      StructOp v { v with queues := listSet v.queues v.active (addSource · s) }
  | forceQuit (v : QView) :
      StructOp v { v with forceQuit := true, levels := [], runLoop := false, tr := .forceQuit :: v.tr }
  | apprun (v : QView) : StructOp v { v with forceQuit := false, runLoop := true }
  | setRun (v : QView) : StructOp v { v with runLoop := true }
  | «open» (v : QView) : v.forceQuit = false →
      StructOp v { v with queues := v.queues ++ [{}], active := v.queues.length,
                          levels := v.levels ++ [v.queues.length],
                          tr := .openLevel v.queues.length v.runLoop :: v.tr }
  | pop (v : QView) (q : Nat) : v.levels.getLast? = some q → StructOp v (v.pop q)

def Plain (v v' : QView) : Prop := ∃ vm, (vm = v ∨ StructOp v vm) ∧ EnqSteps vm v'

def TakeV (v v' : QView) : Prop :=
  ∃ e es, (v.queue v.active).entries = e :: es ∧
    v' = { v with queues := listSet v.queues v.active (fun q => { q with entries := es }),
                  tr := .take v.active e.2.2 :: v.tr }

def TakeTrans (c c' : Cfg) : Prop :=
  ∃ vm, (vm = c.view ∨ (c.L.activeQ.entries = [] ∧ ∃ d, c.deliver = some d ∧ vm = d.view)) ∧ TakeV vm c'.view

def PutBackTrans (c c' : Cfg) : Prop :=
  ∃ e es, c.L.activeQ.entries = e :: es ∧
    c'.view = { c.view with tr := .procEnd :: .putBack c.L.active e.2.2 :: c.tr }

def Eff (c c' : Cfg) : Prop := Plain c.view c'.view ∨ TakeTrans c c' ∨ PutBackTrans c c'

theorem Plain.rfl' {v : QView} : Plain v v := ⟨v, .inl rfl, .refl v⟩

theorem Plain.of_struct {v v' : QView} (h : StructOp v v') : Plain v v' := ⟨v', .inr h, .refl v'⟩

theorem Plain.enq {v v' : QView} (s : Sig) : Plain v v' → Plain v (v'.enq s)
  | ⟨vm, h1, h2⟩ => ⟨vm, h1, h2.enq s⟩

theorem Plain.note {v v' : QView} (t : Tr) (ht : t.boring = true) : Plain v v' → Plain v (v'.note t)
  | ⟨vm, h1, h2⟩ => ⟨vm, h1, h2.note t ht⟩

theorem Plain.enqueue {v : QView} {c : Cfg} (s : Sig) (h : Plain v c.view) : Plain v (c.enqueue s).view := by
  rw [view_enqueue]; exact h.enq s

theorem Plain.trace {v : QView} {c : Cfg} (t : Tr) (ht : t.boring = true) (h : Plain v c.view) :
    Plain v (c.trace t).view := h.note t ht

theorem Plain.push {v : QView} {c : Cfg} (is : List Instr) (h : Plain v c.view) : Plain v (push c is).view := h

/-- To the view of the loop the helpers are enqueues and uninteresting events: `Plain v ·.view` is an instance of
`HelperClosed`, everything outside the view being free. (`take` is no helper to this view: it removes a signal.) -/
theorem Plain.closed (v : QView) : HelperClosed (fun c => Plain v c.view) where
  enqueue s h := h.enqueue s
  sid _ h := h
  exit h := h.note .exit rfl
  read _ _ _ _ h := h
  drop _ h := h

theorem Tr.boring_of_isApp {t : Tr} (h : t.isApp = true) : t.boring = true := by
  cases t <;> first | rfl | cases h

/-- To the view of the loop an application instruction registers at most a source with the active queue, and does so
first; the rest are enqueues and uninteresting events: the instance of `AppClosed`. -/
theorem Plain.appClosed (c0 : Cfg) (rest : List Instr) : AppClosed c0 rest (fun m => Plain c0.view m.view) where
  enqueue s h := h.enqueue s
  sid _ h := h
  read _ _ _ _ h := h
  base := Plain.rfl'
  source src := .of_struct (.addSrc _ src)
  skipPS _ _ := Plain.rfl'
  free := fun {m m'} _ hL htr _ h => (show m'.view = m.view by unfold Cfg.view; rw [hL, htr]) ▸ h
  event t ht h := h.note t (Tr.boring_of_isApp ht)
  logged _ _ h := h
  pushed _ _ _ h := h
  handler _ _ _ h := h

theorem Plain.redraw {v : QView} {c : Cfg} (h : Plain v c.view) : Plain v c.redraw.view := (Plain.closed v).redraw h

theorem Plain.deliver {v : QView} {c d : Cfg} (hd : c.deliver = some d) (h : Plain v c.view) : Plain v d.view :=
  (Plain.closed v).deliver hd h

theorem Plain.emit {v : QView} {c : Cfg} (P : Prog) (e : Ev) (h : Plain v c.view) : Plain v (c.emit P e).view :=
  (Plain.closed v).emit P e h

theorem deliver_view {c d : Cfg} (h : c.deliver = some d) : ∃ s, d.view = c.view.enq s := by
  rcases Machine.deliver_cases c with ⟨-, h'⟩ | ⟨r, rs, -, h'⟩ <;> rw [h'] at h <;> cases h
  exact ⟨_, view_enqueue _ _⟩

def ExQ (v : QView) (r : Except (Outcome × Cfg) Cfg) : Prop :=
  match r with
  | .ok c' => Plain v c'.view
  | .error (_, c') => Plain v c'.view

@[simp] theorem ExQ_ok (v : QView) (c : Cfg) : ExQ v (.ok c) ↔ Plain v c.view := Iff.rfl
@[simp] theorem ExQ_error (v : QView) (o : Outcome) (c : Cfg) : ExQ v (.error (o, c)) ↔ Plain v c.view := Iff.rfl

theorem ExQ_iff (v : QView) (r : Except (Outcome × Cfg) Cfg) : ExQ v r ↔ Plain v (final r).view := by
  rcases r with ⟨_, _⟩ | _ <;> exact Iff.rfl

theorem ExQ.unwind {v : QView} (k : Kind) (code : List Instr) (c : Cfg) (h : Plain v c.view) :
    ExQ v (unwind k code c) := by
  rcases Machine.unwind_cases k code c with ⟨-, he⟩ | ⟨pre, ins, rest, -, -, -, he⟩ <;> rw [he]
  · exact h
  · rcases Machine.caughtBy_cases ins c with e | ⟨src, e⟩ <;> rw [e]
    · exact h
    · rw [Machine.excEnq_eq]; exact Plain.enqueue _ h

theorem ExQ.raise {v : QView} {c : Cfg} (k : Kind) (h : Plain v c.view) : ExQ v (c.raise k) :=
  (ExQ_iff v _).2 ((Plain.closed v).raise k h)

theorem ExQ.ite {v : QView} {p : Prop} [Decidable p] {x y : Except (Outcome × Cfg) Cfg}
    (hx : ExQ v x) (hy : ExQ v y) : ExQ v (if p then x else y) := by
  split <;> assumption

theorem ExQ.startRequest {v : QView} {c : Cfg} (ih : Nat) (r : Src) (t : Str) (h : Plain v c.view) :
    ExQ v (startRequest c ih r t) :=
  Input.startRequest_eq c ih r t ▸ .ite (.raise _ h) (.ite h h)

theorem Plain.newIH {v : QView} {c : Cfg} (src : Src) (skip : Bool) (cb : Option Nat) (h : Plain v c.view) :
    Plain v (newIH c src skip cb).2.view := h

end Simpleline
