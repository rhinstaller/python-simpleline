/-
  `PriorityQueue.get` (`minEntry`) returns a minimal entry; FIFO among equal priorities.
-/
import Simpleline.Lemmas.ThreadCount

namespace Simpleline.Threads
open List
variable {s s' : TState} {t : Nat} {e : Ev}

theorem entryLe_refl (a : Int × Nat × Nat) : entryLe a a = true := by simp [entryLe]
theorem entryLe_trans {a b c : Int × Nat × Nat} (h1 : entryLe a b = true) (h2 : entryLe b c = true) :
    entryLe a c = true := by
  simp only [entryLe, Bool.or_eq_true, decide_eq_true_eq, Bool.and_eq_true, beq_iff_eq] at *
  omega
theorem entryLe_total (a b : Int × Nat × Nat) : entryLe a b = true ∨ entryLe b a = true := by
  simp only [entryLe, Bool.or_eq_true, decide_eq_true_eq, Bool.and_eq_true, beq_iff_eq]
  omega

theorem minEntry_eq_none {l : List (Int × Nat × Nat)} : minEntry l = none ↔ l = [] := by
  cases l with
  | nil => simp [minEntry]
  | cons e es =>
    simp only [minEntry, reduceCtorEq, iff_false]
    split
    · simp
    · split <;> simp

theorem minEntry_le {l : List (Int × Nat × Nat)} {m} (h : minEntry l = some m) :
    ∀ e ∈ l, entryLe m e = true := by
  induction l generalizing m with
  | nil => simp [minEntry] at h
  | cons x es ih =>
    simp only [minEntry] at h
    split at h
    · rename_i hn
      simp at h; subst h
      rw [minEntry_eq_none.1 hn]
      simp [entryLe_refl]
    · rename_i m' hm'
      split at h <;> simp at h <;> subst h
      · rename_i hle
        intro e he
        rcases List.mem_cons.1 he with rfl | he
        · exact entryLe_refl _
        · exact entryLe_trans hle (ih hm' e he)
      · rename_i hle
        intro e he
        rcases List.mem_cons.1 he with rfl | he
        · rcases entryLe_total e m' with h | h
          · exact absurd h hle
          · exact h
        · exact ih hm' e he

theorem minEntry_fifo {l : List (Int × Nat × Nat)} {m} (h : minEntry l = some m) :
    ∀ e ∈ l, e.1 = m.1 → m.2.1 ≤ e.2.1 := by
  intro e he hp
  have := minEntry_le h e he
  simp only [entryLe, Bool.or_eq_true, decide_eq_true_eq, Bool.and_eq_true, beq_iff_eq] at this
  omega

/-- the history invariant behind FIFO: `P` = the put records of the schedule so far -/
structure FInv (P : List PutRec) (s : TState) : Prop where
  /-- arrival numbers handed out are below the queue's counter -/
  lt : ∀ r ∈ P, r.2.2.2 < (s.q r.1).seq
  /-- what was put waits in its queue, as the entry the record describes, or has been dispatched -/
  acc : ∀ r ∈ P, (r.2.2.1, r.2.2.2, r.2.1) ∈ (s.q r.1).entries ∨ (r.1, r.2.1) ∈ s.dispatched
  /-- every entry of a queue has its record -/
  recd : ∀ q, ∀ e ∈ (s.q q).entries, (q, e.2.2, e.1, e.2.1) ∈ P
  /-- so has the entry taken last, which `putBack` may return to its queue -/
  taken : ∀ q m, s.lastTaken = some (q, m) → (q, m.2.2, m.1, m.2.1) ∈ P
  /-- per queue, arrival numbers grow in the order of the puts -/
  mono : P.Pairwise fun r1 r2 => r1.1 = r2.1 → r1.2.2.2 < r2.2.2.2
  /-- same queue, same priority: the later arrival is dispatched after the earlier (`dispatched` is newest first) -/
  fifo : ∀ r1 ∈ P, ∀ r2 ∈ P, r1.1 = r2.1 → r1.2.2.1 = r2.2.2.1 → r1.2.2.2 < r2.2.2.2 →
    ∀ l1 l2, s.dispatched = l1 ++ (r2.1, r2.2.1) :: l2 → (r1.1, r1.2.1) ∈ l2

theorem rec_unique {P : List PutRec} (hnd : (P.map (·.2.1)).Nodup) {r1 r2 : PutRec} (h1 : r1 ∈ P) (h2 : r2 ∈ P)
    (hid : r1.2.1 = r2.2.1) : r1 = r2 := by
  induction P with
  | nil => simp at h1
  | cons x P ih =>
    simp only [List.map_cons, List.nodup_cons] at hnd
    have key : ∀ r ∈ P, r.2.1 ≠ x.2.1 := fun r hr e =>
      hnd.1 (e ▸ List.mem_map_of_mem (f := fun r : PutRec => r.2.1) hr)
    rcases List.mem_cons.1 h1 with e1 | h1' <;> rcases List.mem_cons.1 h2 with e2 | h2'
    · rw [e1, e2]
    · subst e1; exact absurd hid.symm (key r2 h2')
    · subst e2; exact absurd hid (key r1 h1')
    · exact ih hnd.2 h1' h2'

theorem finv_step (h : TInv s) (hq : QInv s) {P : List PutRec} (hf : FInv P s) (hs : TStep s t e s')
    (hnd : ((P ++ e.putRec).map (·.2.1)).Nodup)
    (hdisp : ∀ x ∈ (s.pc t).preId, x ∉ s.dispatchedIds) : FInv (P ++ e.putRec) s' := by
  cases qeff h hq hs with
  | none he hent hseq hd hlt _ =>
    rw [he, append_nil]
    refine ⟨?_, ?_, ?_, ?_, hf.mono, ?_⟩
    · intro r hr; rw [hseq]; exact hf.lt r hr
    · intro r hr; rw [hent, hd]; exact hf.acc r hr
    · intro q e he; rw [hent] at he; exact hf.recd q e he
    · intro q m h; rw [hlt] at h; exact hf.taken q m h
    · intro r1 h1 r2 h2 hq hp ho l1 l2 hl; rw [hd] at hl; exact hf.fifo r1 h1 r2 h2 hq hp ho l1 l2 hl
  | put q0 sid prio he hent hseq hd hlt _ =>
    -- the id put was in the hands of the stepping thread, so it has not been dispatched
    have hsid : ∀ q, (q, sid) ∉ s.dispatched := fun q hmem =>
      hdisp sid (putId_mem_preId hs (by simp [Ev.putId, he])) (mem_map_of_mem (f := fun x : Nat × Nat => x.2) hmem)
    rw [he]
    refine ⟨?_, ?_, ?_, ?_, ?_, ?_⟩
    · intro r hr
      rw [hseq]
      rcases List.mem_append.1 hr with hr | hr
      · have := hf.lt r hr; split <;> omega
      · simp at hr; subst hr; simp
    · intro r hr
      rw [hent, hd, mem_ite_cons]
      rcases List.mem_append.1 hr with hr | hr
      · exact (hf.acc r hr).imp_left .inr
      · simp at hr; subst hr; exact .inl (.inl ⟨rfl, rfl⟩)
    · intro q e he
      rw [hent, mem_ite_cons] at he
      rcases he with ⟨rfl, rfl⟩ | he
      · simp
      · exact List.mem_append_left _ (hf.recd q e he)
    · intro q m h; rw [hlt] at h; exact List.mem_append_left _ (hf.taken q m h)
    · rw [List.pairwise_append]
      refine ⟨hf.mono, by simp, ?_⟩
      intro r1 h1 r2 h2
      simp at h2; subst h2
      intro hq; simp at hq
      have := hf.lt r1 h1; rw [hq] at this; exact this
    · intro r1 h1 r2 h2 hq hp ho l1 l2 hl
      rw [hd] at hl
      rcases List.mem_append.1 h2 with h2 | h2
      · rcases List.mem_append.1 h1 with h1 | h1
        · exact hf.fifo r1 h1 r2 h2 hq hp ho l1 l2 hl
        · simp at h1; subst h1
          have := hf.lt r2 h2
          simp at hq ho; rw [← hq] at this; omega
      · simp at h2; subst h2
        exact absurd (by rw [hl]; simp) (hsid q0)
  | get q0 m he _ hm hent hseq hd hlt _ =>
    rw [he, append_nil] at hnd ⊢
    have hmem := minEntry_mem hm
    have hmrec := hf.recd q0 m hmem
    refine ⟨?_, ?_, ?_, ?_, hf.mono, ?_⟩
    · intro r hr; rw [hseq]; exact hf.lt r hr
    · intro r hr
      rw [hent, hd]
      rcases hf.acc r hr with h | h
      · by_cases hc : r.1 = q0 ∧ (r.2.2.1, r.2.2.2, r.2.1) = m
        · right; rw [← hc.1, ← hc.2]; simp
        · left; split <;> rename_i hc'
          · exact (List.mem_erase_of_ne fun e => hc ⟨hc', e⟩).2 h
          · exact h
      · exact Or.inr (List.mem_cons_of_mem _ h)
    · intro q e he
      rw [hent] at he
      split at he
      · exact hf.recd q e (List.mem_of_mem_erase he)
      · exact hf.recd q e he
    · intro q m' h
      rw [hlt] at h; simp at h; obtain ⟨rfl, rfl⟩ := h; exact hmrec
    · intro r1 h1 r2 h2 hq hp ho l1 l2 hl
      rw [hd] at hl
      cases l1 with
      | nil =>
        simp only [List.nil_append, List.cons.injEq, Prod.mk.injEq] at hl
        obtain ⟨⟨hq2, hid⟩, rfl⟩ := hl
        -- `r2` is the record of `m`, the minimal entry: an earlier `r1` of its priority cannot be waiting still
        have : r2 = (q0, m.2.2, m.1, m.2.1) := rec_unique hnd h2 hmrec hid.symm
        subst this
        simp only at hq hp ho
        rcases hf.acc r1 h1 with h | h
        · exfalso
          rw [hq] at h
          have := minEntry_fifo hm _ h (by simpa using hp)
          simp at this; omega
        · rw [hq] at h ⊢; exact hq ▸ h
      | cons d l1 =>
        simp only [List.cons_append, List.cons.injEq] at hl
        exact hf.fifo r1 h1 r2 h2 hq hp ho l1 l2 hl.2
  | putBack q0 m ds he hlt hd hent hseq hd' hlt' _ =>
    rw [he, append_nil] at hnd ⊢
    have hmrec := hf.taken q0 m hlt
    refine ⟨?_, ?_, ?_, ?_, hf.mono, ?_⟩
    · intro r hr; rw [hseq]; exact hf.lt r hr
    · intro r hr
      rw [hent, hd', mem_ite_cons]
      rcases hf.acc r hr with h | h
      · exact .inl (.inr h)
      · rw [hd] at h
        rcases List.mem_cons.1 h with h | h
        · simp only [Prod.mk.injEq] at h
          have : r = (q0, m.2.2, m.1, m.2.1) := rec_unique hnd hr hmrec h.2
          subst this
          exact .inl (.inl ⟨rfl, rfl⟩)
        · exact .inr h
    · intro q e he
      rw [hent, mem_ite_cons] at he
      rcases he with ⟨rfl, rfl⟩ | he
      · exact hmrec
      · exact hf.recd q e he
    · intro q m' h; rw [hlt'] at h; simp at h
    · intro r1 h1 r2 h2 hq hp ho l1 l2 hl
      rw [hd'] at hl
      exact hf.fifo r1 h1 r2 h2 hq hp ho ((q0, m.2.2) :: l1) l2 (by rw [hd, hl]; simp)

theorem finv_run {src0 : List Nat} {sched : List (Nat × Ev)} {s : TState}
    (hr : run (initState src0) sched = some s) (hd : DistinctIds sched) : FInv (puts sched) s := by
  refine run_induction (P := fun sched s => DistinctIds sched → FInv (puts sched) s) ?_ ?_ sched s hr hd
  · intro _
    refine ⟨?_, ?_, ?_, ?_, ?_, ?_⟩ <;> simp [puts, init_q_entries]
    simp [initState]
  · intro pre s t e s' hpre ih hs hrun hd'
    have hreach : TReach src0 s := ⟨pre, hpre⟩
    have hdp := distinct_prefix hd'
    rw [puts_snoc]
    refine finv_step (tinv_reach hreach) (qcinv_reach hreach).1 (ih hdp) hs ?_ (preId_not_dispatched hpre hdp t)
    have := putIds_nodup hrun hd'
    rwa [putIds, puts_snoc] at this

/-- FIFO among equal priorities, on the history: `a` among the earlier puts `P`, `b` among the later puts `Q`, same
queue and priority; if `b` has been dispatched then `a` was dispatched before it -/
theorem fifo_dispatch {src0 : List Nat} {sched : List (Nat × Ev)} {s : TState}
    (hr : run (initState src0) sched = some s) (hd : DistinctIds sched)
    {q a b : Nat} {p : Int} {oa ob : Nat} {P Q : List PutRec} (hp : puts sched = P ++ Q)
    (ha : (q, a, p, oa) ∈ P) (hb : (q, b, p, ob) ∈ Q) (hdisp : (q, b) ∈ s.dispatched) :
    oa < ob ∧ ∃ l1 l2, s.dispatched = l1 ++ (q, b) :: l2 ∧ (q, a) ∈ l2 := by
  have hf := finv_run hr hd
  rw [hp] at hf
  have hlt : oa < ob := (List.pairwise_append.1 hf.mono).2.2 _ ha _ hb rfl
  obtain ⟨l1, l2, hl⟩ := List.append_of_mem hdisp
  exact ⟨hlt, l1, l2, hl,
    hf.fifo _ (mem_append_left _ ha) _ (mem_append_right _ hb) rfl rfl hlt l1 l2 hl⟩

end Simpleline.Threads
