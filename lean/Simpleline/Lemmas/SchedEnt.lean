/-
  Stack entries and their identities: every entry on the stack or referred to by a pending instruction
  has an identity below `nextEid`, the identity determines the entry, and the identities on the stack
  are distinct (`EntInv`).
-/
import Simpleline.Lemmas.SchedInv

namespace Simpleline

theorem stackAfter_cases (c : Cfg) :
    c.stackAfter = (c.A.stack, c.A.nextEid) ∨
    (∃ e, e.eid = c.A.nextEid ∧ e.modal = false ∧ c.stackAfter = (e :: c.A.stack, c.A.nextEid + 1)) ∨
    (∃ e, e.eid = c.A.nextEid ∧ c.stackAfter = (c.A.stack ++ [e], c.A.nextEid + 1)) ∨
    (∃ e old, c.A.stack.getLast? = some old ∧ e.eid = c.A.nextEid ∧ e.modal = old.modal ∧
      c.stackAfter = (c.A.stack.dropLast ++ [e], c.A.nextEid + 1)) ∨
    (c.A.stack ≠ [] ∧ c.stackAfter = (c.A.stack.dropLast, c.A.nextEid)) := by
  unfold Cfg.stackAfter
  cases c.stackOp with
  | none => simp
  | some op =>
    cases op <;> simp only [Spec.Op.apply, Spec.Stack.schedule, Spec.Stack.push, Spec.Stack.replace, Spec.Stack.pop,
      Spec.Stack.top, Spec.Stack.beneath, Spec.Op.creates]
    case schedule scr args => exact .inr (.inl ⟨⟨c.A.nextEid, scr, args, false⟩, rfl, rfl, by simp⟩)
    case push scr args => exact .inr (.inr (.inl ⟨⟨c.A.nextEid, scr, args, false⟩, rfl, by simp⟩))
    case pushModal scr args => exact .inr (.inr (.inl ⟨⟨c.A.nextEid, scr, args, true⟩, rfl, by simp⟩))
    case replace scr args =>
      cases h : c.A.stack.getLast? with
      | none => simp
      | some old => exact .inr (.inr (.inr (.inl ⟨⟨c.A.nextEid, scr, args, old.modal⟩, old, rfl, rfl, rfl, by simp⟩)))
    case close frm =>
      simp only [Spec.Stack.close, Spec.Stack.top, Spec.Stack.beneath]
      cases h : c.A.stack.getLast? with
      | none => simp
      | some old =>
        by_cases hrf : frm ≠ none ∧ frm ≠ some (.scr old.screen)
        · simp [hrf]
        · refine .inr (.inr (.inr (.inr ⟨?_, by simp [hrf]⟩)))
          intro h0; simp [h0] at h
    all_goals
      cases h : c.A.stack.getLast? with
      | none => simp
      | some old =>
        refine .inr (.inr (.inr (.inr ⟨?_, by simp⟩)))
        intro h0; simp [h0] at h

def Instr.entries : Instr → List Entry
  | .modalRet e | .closeScreen2 e _ | .closeScreen3 e | .afterSetup e | .afterSetupFail e | .afterSetup2 e
  | .identCheck e | .drawScreen e | .maybeInput e => [e]
  | _ => []

def codeEnts (code : List Instr) : List Entry := code.flatMap Instr.entries

def Cfg.ents (c : Cfg) : List Entry := c.A.stack ++ codeEnts c.code

theorem external_entries {i : Instr} (h : i.external = true) : i.entries = [] := by
  cases i <;> first | rfl | cases h

theorem PushedBy.nil {P : Prog} {c : Cfg} {ins : Instr} : PushedBy P c ins [] :=
  .external fun _ h => absurd h List.not_mem_nil

theorem Pushed.cases {P : Prog} {c : Cfg} {ins : Instr} {pushed : List Instr} (h : Pushed P c ins pushed) :
    PushedBy P c ins pushed := by
  unfold Pushed at h
  split at h
  · exact .external h
  · cases ins <;> simp only [SPushed] at h
    case pushModal => obtain ⟨s, rfl⟩ := h; exact .pushModal
    case closeScreen =>
      rcases h with rfl | ⟨e, he, hacc, rfl⟩
      · exact .nil
      · exact .close he hacc
    case closeScreen2 =>
      rcases h with rfl | rfl | rfl
      · exact .nil
      · exact .closeModal
      · exact .closePlain
    case processScreen =>
      rcases h with rfl | ⟨top, ht, ⟨hr, rfl⟩ | ⟨hr, rfl⟩⟩
      · exact .nil
      · exact .ready ht hr
      · exact .setup ht hr
    case afterSetup =>
      rcases h with ⟨h, rfl⟩ | ⟨h, rfl | ⟨e, he, rfl⟩⟩
      · exact .setupOk h
      · exact .nil
      · exact .discardModal h he
    case afterSetup2 => subst h; exact .refresh
    case identCheck =>
      rcases h with rfl | ⟨l, hl, heid, rfl⟩
      · exact .nil
      · exact .draw hl heid
    case drawScreen => subst h; exact .show
    case maybeInput =>
      rcases h with rfl | rfl
      · exact .nil
      · exact .input
    case callScr => obtain ⟨pre, acts, ret, hpre, rfl⟩ := h; exact .callScr hpre
    case getInput => subst h; exact .prompt
    case processInput => subst h; exact .processInput
    case countAndAct =>
      rcases h with rfl | ⟨top, ht, rfl⟩ | rfl | ⟨q, hq, rfl⟩
      · exact .nil
      · exact .again ht
      · exact .external fun _ h => List.mem_singleton.1 h ▸ rfl
      · exact .quit hq
    all_goals subst h; exact .nil

theorem PushedBy.entries {P : Prog} {c : Cfg} {ins : Instr} {rest pushed : List Instr} (h : PushedBy P c ins pushed)
    (hc : c.code = ins :: rest) :
    ∀ e ∈ codeEnts pushed, e ∈ c.A.stack ∨ e ∈ ins.entries ∨ e ∈ c.stackAfter.1 := by
  have none {l : List Instr} (h : ∀ i ∈ l, i.entries = []) (e : Entry) (he : e ∈ codeEnts l) :
      e ∈ c.A.stack ∨ e ∈ ins.entries ∨ e ∈ c.stackAfter.1 := by
    rw [codeEnts, List.flatMap_eq_nil_iff.2 h] at he; cases he
  have top {e' : Entry} (h : c.A.stack.getLast? = some e') (e : Entry) (he : e ∈ [e']) :
      e ∈ c.A.stack ∨ e ∈ ins.entries ∨ e ∈ c.stackAfter.1 :=
    .inl (List.mem_singleton.1 he ▸ List.mem_of_getLast? h)
  cases h
  case external h => exact none fun i hi => external_entries (h i hi)
  case callScr hpre => exact none fun i hi => by rcases mem_script hpre hi with rfl | ⟨a, rfl⟩ | rfl <;> rfl
  case pushModal scr args _ =>
    have h := (Cfg.stackAfter_apply (c := c) (op := .pushModal scr args) (by simp only [Cfg.stackOp, hc]) rfl).1
    exact fun e he => .inr (.inr (by rw [h]; exact List.mem_append_right _ he))
  case close he _ => exact top he
  case ready ht _ => exact top ht
  case setup ht _ => exact top ht
  case discardModal he => exact top he
  case draw => exact fun e he => .inr (.inl (by simpa [codeEnts, Instr.entries] using he))
  case «show» => exact fun e he => nomatch he
  case input => exact fun e he => nomatch he
  all_goals exact fun e he => .inr (.inl he)

theorem Pushed.entries {P : Prog} {c : Cfg} {ins : Instr} {rest pushed : List Instr} (h : Pushed P c ins pushed)
    (hc : c.code = ins :: rest) :
    ∀ e ∈ codeEnts pushed, e ∈ c.A.stack ∨ e ∈ ins.entries ∨ e ∈ c.stackAfter.1 :=
  h.cases.entries hc

theorem codeEnts_append (a b : List Instr) : codeEnts (a ++ b) = codeEnts a ++ codeEnts b := by
  simp [codeEnts]

theorem codeEnts_suffix {a b : List Instr} (h : a <:+ b) : ∀ e ∈ codeEnts a, e ∈ codeEnts b := by
  obtain ⟨t, rfl⟩ := h
  intro e he
  simp [codeEnts_append, he]

structure EntInv (c : Cfg) : Prop where
  lt : ∀ e ∈ c.ents, e.eid < c.A.nextEid
  inj : ∀ e1 ∈ c.ents, ∀ e2 ∈ c.ents, e1.eid = e2.eid → e1 = e2
  nodup : (c.A.stack.map (·.eid)).Nodup

theorem EntInv_init {c0 : Cfg} (h : Started c0) : EntInv c0 := by
  obtain ⟨init, handlers, quitCb, stdin, rfl⟩ := h
  have : (initCfg init handlers quitCb stdin).ents = [] := by
    simp [Cfg.ents, initCfg, codeEnts, Instr.entries]
  constructor
  · simp [this]
  · simp [this]
  · simp [initCfg]

theorem EntInv_dlv {c : Cfg} (h : EntInv c) : EntInv c.dlv := by
  have hf := SFrame.dlv c
  have : c.dlv.ents = c.ents := by rw [Cfg.ents, hf.stack, dlv_code]; rfl
  exact ⟨by rw [this, hf.nextEid]; exact h.lt, by rw [this]; exact h.inj, by rw [hf.stack]; exact h.nodup⟩

theorem stackAfter_mem (c : Cfg) :
    c.A.nextEid ≤ c.stackAfter.2 ∧ ∃ e0 : Entry, e0.eid = c.A.nextEid ∧
      ∀ e ∈ c.stackAfter.1, e ∈ c.A.stack ∨ (e = e0 ∧ c.stackAfter.2 = c.A.nextEid + 1) := by
  rcases stackAfter_cases c with h | ⟨e0, h0, _, h⟩ | ⟨e0, h0, h⟩ | ⟨e0, old, _, h0, _, h⟩ | ⟨_, h⟩ <;> rw [h]
  · exact ⟨Nat.le_refl _, ⟨c.A.nextEid, 0, none, false⟩, rfl, fun e he => .inl he⟩
  · exact ⟨Nat.le_succ _, e0, h0, fun e he => (List.mem_cons.1 he).elim (fun h => .inr ⟨h, rfl⟩) .inl⟩
  · exact ⟨Nat.le_succ _, e0, h0, fun e he =>
      (List.mem_append.1 he).elim .inl fun h => .inr ⟨List.mem_singleton.1 h, rfl⟩⟩
  · exact ⟨Nat.le_succ _, e0, h0, fun e he =>
      (List.mem_append.1 he).elim (fun h => .inl (List.dropLast_subset _ h)) fun h => .inr ⟨List.mem_singleton.1 h, rfl⟩⟩
  · exact ⟨Nat.le_refl _, ⟨c.A.nextEid, 0, none, false⟩, rfl, fun e he => .inl (List.dropLast_subset _ he)⟩

theorem ents_step (P : Prog) (c : Cfg) :
    c.A.nextEid ≤ (sOutCfg (step P c)).A.nextEid ∧
    ∃ e0 : Entry, e0.eid = c.A.nextEid ∧
      ∀ e ∈ (sOutCfg (step P c)).ents, e ∈ c.ents ∨ (e = e0 ∧ (sOutCfg (step P c)).A.nextEid = c.A.nextEid + 1) := by
  have hst := (step_state P c).stack
  have hs1 : (sOutCfg (step P c)).A.stack = c.stackAfter.1 := congrArg Prod.fst hst
  have hs2 : (sOutCfg (step P c)).A.nextEid = c.stackAfter.2 := congrArg Prod.snd hst
  have hcode : ∀ e ∈ codeEnts (sOutCfg (step P c)).code, e ∈ c.ents ∨ e ∈ c.stackAfter.1 := by
    rcases hc : c.code with _ | ⟨ins, rest⟩
    · rw [Machine.step_nil hc, sOutCfg_error, hc]; exact fun e he => nomatch he
    · obtain ⟨pushed, ⟨suf, hcd, hsuf⟩, hp⟩ := (step_eff P c ins rest hc).code
      intro e he
      rw [hcd, codeEnts_append, List.mem_append] at he
      rcases he with he | he
      · rcases hp.entries hc e he with h | h | h
        · exact .inl (List.mem_append_left _ h)
        · exact .inl (List.mem_append_right _ (by rw [hc, codeEnts, List.flatMap_cons]; exact List.mem_append_left _ h))
        · exact .inr h
      · exact .inl (List.mem_append_right _ (by
          rw [hc, codeEnts, List.flatMap_cons]; exact List.mem_append_right _ (codeEnts_suffix hsuf e he)))
  obtain ⟨hle, e0, h0, hmem⟩ := stackAfter_mem c
  rw [hs2]
  refine ⟨hle, e0, h0, fun e he => ?_⟩
  have : e ∈ c.ents ∨ e ∈ c.stackAfter.1 := by
    rcases List.mem_append.1 he with he | he
    · exact .inr (hs1 ▸ he)
    · exact hcode e he
  rcases this with h | h
  · exact .inl h
  · exact (hmem e h).imp_left (List.mem_append_left _)

theorem EntInv_step {P : Prog} {c : Cfg} (h : EntInv c) : EntInv (sOutCfg (step P c)) := by
  obtain ⟨hle, e0, h0, hents⟩ := ents_step P c
  refine ⟨?_, ?_, ?_⟩
  · intro e he
    rcases hents e he with h' | ⟨rfl, h'⟩
    · exact Nat.lt_of_lt_of_le (h.lt e h') hle
    · omega
  · intro e1 he1 e2 he2 heq
    -- the one new entry has the identity `c.A.nextEid`, which is above that of every old one
    rcases hents e1 he1 with h1 | ⟨rfl, h1⟩ <;> rcases hents e2 he2 with h2 | ⟨rfl, h2⟩
    · exact h.inj e1 h1 e2 h2 heq
    · have := h.lt e1 h1; omega
    · have := h.lt e2 h2; omega
    · rfl
  · rw [show (sOutCfg (step P c)).A.stack = c.stackAfter.1 from congrArg Prod.fst (step_state P c).stack]
    have hlt : ∀ e ∈ c.A.stack, e.eid < c.A.nextEid := fun e he => h.lt e (List.mem_append_left _ he)
    have hdrop : (c.A.stack.dropLast.map (·.eid)).Nodup :=
      List.Nodup.sublist ((List.dropLast_sublist _).map _) h.nodup
    rcases stackAfter_cases c with h' | ⟨e, he, _, h'⟩ | ⟨e, he, h'⟩ | ⟨e, old, _, he, _, h'⟩ | ⟨_, h'⟩ <;> rw [h']
    · exact h.nodup
    · simp only [List.map_cons, List.nodup_cons]
      refine ⟨?_, h.nodup⟩
      intro hm
      obtain ⟨x, hx, hxe⟩ := List.mem_map.1 hm
      have := hlt x hx; omega
    · simp only [List.map_append, List.map_cons, List.map_nil, List.nodup_append]
      refine ⟨h.nodup, by simp, ?_⟩
      intro a ha b hb
      obtain ⟨x, hx, rfl⟩ := List.mem_map.1 ha
      simp at hb
      have := hlt x hx; omega
    · simp only [List.map_append, List.map_cons, List.map_nil, List.nodup_append]
      refine ⟨hdrop, by simp, ?_⟩
      intro a ha b hb
      obtain ⟨x, hx, rfl⟩ := List.mem_map.1 ha
      simp at hb
      have := hlt x (List.dropLast_subset _ hx); omega
    · exact hdrop

theorem Reach.entInv {P : Prog} {c0 c : Cfg} (h0 : Started c0) (h : Reach P c0 c) : EntInv c :=
  h.induct (EntInv_init h0) (fun _ _ => EntInv_step) (fun _ _ => EntInv_dlv)
end Simpleline
