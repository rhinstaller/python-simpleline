/-
  Every activation on the call stack serves an open level, or its level has been closed by
  `close_loop` (a `.closeLevel` event) or removed by `force_quit`.
-/
import Simpleline.Lemmas.ShapeFrame

namespace Simpleline

def ClosedInv (v : SV) : Prop :=
  ∀ q ∈ markersA v.code, q ∈ v.levels ∨ Tr.closeLevel q ∈ v.ev ∨ Tr.forceQuit ∈ v.ev

namespace Shape

theorem level_step {P : Prog} {v v' : SV} {evs : List Tr} {q : Nat} (hs : SStepE P v evs v')
    (hq : q ∈ v.levels) :
    q ∈ v'.levels ∨ Tr.closeLevel q ∈ evs ∨ Tr.forceQuit ∈ evs := by
  have pop : ∀ {q0 : Nat}, v.levels.getLast? = some q0 → q ∈ v.levels.dropLast ∨ q = q0 := by
    intro q0 hl
    obtain ⟨l', hl'⟩ := List.getLast?_eq_some_iff.1 hl
    rw [hl'] at hq ⊢
    rw [List.dropLast_concat]
    exact (List.mem_append.1 hq).imp_right List.mem_singleton.1
  cases hs with
  | forceQuit _ => exact .inr (.inr (List.mem_cons_self ..))
  | «open» _ _ => exact .inl (List.mem_append_left _ hq)
  | pop _ hl _ => exact (pop hl).imp_right fun (h : q = _) => .inl (h ▸ List.mem_cons_self ..)
  | popExit _ hl hn =>
    refine .inr (.inl ((pop hl).elim (fun h => ?_) fun (h : q = _) => h ▸ List.mem_cons_of_mem _ (List.mem_cons_self ..)))
    rw [List.getLast?_eq_none_iff.1 hn] at h; cases h
  | stutter | batch _ _ | halt _ _ | raise _ _ | kill _ | enqAct _ | schedule _ | pushScr _ | replace _ _ | apprun _
  | restore _ _ | pushModal _ | closeScreen _ _ | discard _ _ | identSkip _ _ _ => exact .inl hq

theorem closed_step {P : Prog} {v v' : SV} {evs : List Tr} (hch : Chained v.code) (hi : ClosedInv v)
    (hs : SStepE P v evs v') : ClosedInv v' := by
  intro q hq
  rw [SStepE.ev_eq hs]
  have old : q ∈ markersA v.code → q ∈ v'.levels ∨ Tr.closeLevel q ∈ evs ++ v.ev ∨ Tr.forceQuit ∈ evs ++ v.ev := by
    intro hq
    rcases hi q hq with h | h | h
    · exact (level_step hs h).imp_right (.imp (List.mem_append_left _) (List.mem_append_left _))
    · exact .inr (.inl (List.mem_append_right _ h))
    · exact .inr (.inr (List.mem_append_right _ h))
  rcases sstepE_markers_sub (sstepE_level hch hs) with ⟨h, _⟩ | ⟨h, _, hl⟩
  · exact old (h.subset hq)
  · rcases List.mem_cons.1 (h ▸ hq) with rfl | hq
    · exact .inl (hl ▸ List.mem_append_right _ (List.mem_singleton_self _))
    · exact old hq

theorem reach_closed {P : Prog} {c0 c : Cfg} (h0 : Started c0) (h : Reach P c0 c) : ClosedInv c.sv := by
  refine reach_sv_inv (H := fun _ => True) h0 h (fun _ _ => trivial) ?_
    (fun hb hi hs _ => closed_step hb.chained hi hs) trivial
  obtain ⟨init, handlers, quitCb, stdin, rfl⟩ := h0
  exact fun q hq => .inl (show q ∈ [0] from markersA_init init ▸ hq)

end Shape

end Simpleline
