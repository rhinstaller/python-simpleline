/-
  The queue contents of the thread model.  `QEff`: what a step does to entries, arrival counters and the dispatch
  record (`qeff`; its put-back case needs `QInv.taken`, since `tstep` does not look at the head of `dispatched`).
  `QInv` (arrival numbers distinct and below the counter, `lastTaken` is what `putBack` needs) is preserved along it, and
  the counting law `QEff.count` gives `CInv`: what has been put stays in a queue or in `dispatched`.
-/
import Simpleline.Lemmas.ThreadInv

namespace Simpleline.Threads
open List
variable {s s' : TState} {t : Nat} {e : Ev}

structure QInv (s : TState) : Prop where
  arrLt : ∀ q, ∀ e ∈ (s.q q).entries, e.2.1 < (s.q q).seq
  arrNodup : ∀ q, ((s.q q).entries.map (·.2.1)).Nodup
  taken : ∀ q m, s.lastTaken = some (q, m) →
    q < s.queues.length ∧ (∃ ds, s.dispatched = (q, m.2.2) :: ds) ∧ m.2.1 < (s.q q).seq ∧
      ∀ e ∈ (s.q q).entries, e.2.1 ≠ m.2.1

theorem minEntry_mem {l : List (Int × Nat × Nat)} {m} (h : minEntry l = some m) : m ∈ l := by
  induction l generalizing m with
  | nil => simp [minEntry] at h
  | cons e es ih =>
    simp only [minEntry] at h
    split at h
    · simp at h; simp [h]
    · rename_i m' hm'
      split at h <;> simp at h <;> subst h
      · simp
      · exact mem_cons_of_mem _ (ih hm')

/-- A step does nothing or one operation of `PriorityQueue`; `e.putRec`: what it adds to the history of puts. -/
inductive QEff (s s' : TState) (e : Ev) : Prop
  | none (he : e.putRec = []) (hent : ∀ q, (s'.q q).entries = (s.q q).entries)
      (hseq : ∀ q, (s'.q q).seq = (s.q q).seq) (hd : s'.dispatched = s.dispatched)
      (hlt : s'.lastTaken = s.lastTaken) (hids : s'.entryIds = s.entryIds)
  | put (q0 sid : Nat) (prio : Int) (he : e.putRec = [(q0, sid, prio, (s.q q0).seq)])
      (hent : ∀ q, (s'.q q).entries =
        if q = q0 then (prio, (s.q q).seq, sid) :: (s.q q).entries else (s.q q).entries)
      (hseq : ∀ q, (s'.q q).seq = if q = q0 then (s.q q).seq + 1 else (s.q q).seq)
      (hd : s'.dispatched = s.dispatched) (hlt : s'.lastTaken = s.lastTaken)
      (hids : s'.entryIds.Perm (sid :: s.entryIds))
  | get (q0 : Nat) (m : Int × Nat × Nat) (he : e.putRec = []) (hq0 : q0 < s.queues.length)
      (hm : minEntry (s.q q0).entries = some m)
      (hent : ∀ q, (s'.q q).entries = if q = q0 then (s.q q).entries.erase m else (s.q q).entries)
      (hseq : ∀ q, (s'.q q).seq = (s.q q).seq) (hd : s'.dispatched = (q0, m.2.2) :: s.dispatched)
      (hlt : s'.lastTaken = some (q0, m)) (hids : s.entryIds.Perm (m.2.2 :: s'.entryIds))
  | putBack (q0 : Nat) (m : Int × Nat × Nat) (ds : List (Nat × Nat)) (he : e.putRec = [])
      (hlt : s.lastTaken = some (q0, m)) (hd : s.dispatched = (q0, m.2.2) :: ds)
      (hent : ∀ q, (s'.q q).entries = if q = q0 then m :: (s.q q).entries else (s.q q).entries)
      (hseq : ∀ q, (s'.q q).seq = (s.q q).seq) (hd' : s'.dispatched = ds) (hlt' : s'.lastTaken = none)
      (hids : s'.entryIds.Perm (m.2.2 :: s.entryIds))

theorem entryIds_setQ_cons (s : TState) {q : Nat} (f : TQ → TQ) (h : q < s.queues.length) (x : Int × Nat × Nat)
    (hf : (f (s.q q)).entries = x :: (s.q q).entries) : (s.setQ q f).entryIds.Perm (x.2.2 :: s.entryIds) := by
  rw [perm_iff_count]
  intro a
  have := count_entryIds_setQ s q f a h
  rw [hf, map_cons, count_cons] at this
  rw [count_cons]; omega

theorem entryIds_setQ_erase (s : TState) {q : Nat} (f : TQ → TQ) (h : q < s.queues.length) {m : Int × Nat × Nat}
    (hm : m ∈ (s.q q).entries) (hf : (f (s.q q)).entries = (s.q q).entries.erase m) :
    s.entryIds.Perm (m.2.2 :: (s.setQ q f).entryIds) := by
  rw [perm_iff_count]
  intro a
  have := count_entryIds_setQ s q f a h
  have hc := ((perm_cons_erase hm).map (·.2.2)).count_eq a
  rw [map_cons, count_cons] at hc
  rw [hf] at this
  rw [count_cons]; omega

theorem qeff (h : TInv s) (hq : QInv s) (hs : TStep s t e s') : QEff s s' e := by
  have hv := h.valid t
  cases hs
  case put sg q0 f hpc =>
    rw [hpc] at hv
    exact .put q0 sg.sid sg.prio rfl (setQ_q_app (·.entries) s q0 _ hv) (setQ_q_app (·.seq) s q0 _ hv) rfl rfl
      (by exact entryIds_setQ_cons s _ hv (sg.prio, (s.q q0).seq, sg.sid) rfl)
  case get m hpc ht hm =>
    exact .get s.active m rfl h.actValid hm (setQ_q_app (·.entries) s _ _ h.actValid)
      (setQ_q_fix (·.seq) s _ _ fun _ => rfl) rfl rfl
      (by exact entryIds_setQ_erase s _ h.actValid (minEntry_mem hm) rfl)
  case putBack q0 m d ds hpc ht hlt hd =>
    obtain ⟨hq0, ⟨ds', hds⟩, _⟩ := hq.taken q0 m hlt
    obtain rfl : ds' = ds := (cons.inj (hds.symm.trans hd)).2
    exact .putBack q0 m ds' rfl hlt hds (setQ_q_app (·.entries) s q0 _ hq0) (setQ_q_fix (·.seq) s _ _ fun _ => rfl)
      rfl rfl (by exact entryIds_setQ_cons s _ hq0 m rfl)
  all_goals
    refine .none rfl (fun q => ?_) (fun q => ?_) rfl rfl ?_ <;>
      simp (disch := exact fun _ => rfl) only [tstate, setQ_q_fix TQ.entries, setQ_q_fix TQ.seq]

theorem mem_ite_cons {α} {c : Prop} [Decidable c] {x e : α} {l : List α} :
    e ∈ (if c then x :: l else l) ↔ (c ∧ e = x) ∨ e ∈ l := by
  split <;> simp [*]

theorem not_mem_map_erase {α β} [BEq α] [LawfulBEq α] {f : α → β} {l : List α} {a : α} (h : (l.map f).Nodup)
    (ha : a ∈ l) : ∀ x ∈ l.erase a, f x ≠ f a := by
  have hp := (perm_cons_erase ha).map f
  have := hp.nodup_iff.1 h
  rw [map_cons, nodup_cons] at this
  exact fun x hx e => this.1 (e ▸ mem_map_of_mem hx)

theorem qinv_step (h : TInv s) (hq : QInv s) (hs : TStep s t e s') : QInv s' := by
  have hlen := length_step hs
  cases qeff h hq hs with
  | none _ hent hseq hd hlt _ =>
    refine ⟨fun q => ?_, fun q => ?_, fun q m hm => ?_⟩
    · rw [hent, hseq]; exact hq.arrLt q
    · rw [hent]; exact hq.arrNodup q
    · rw [hent, hseq, hd]; rw [hlt] at hm
      exact (hq.taken q m hm).imp_left (Nat.lt_of_lt_of_le · hlen)
  | put q0 sid prio _ hent hseq hd hlt _ =>
    -- the new entry carries the counter, which is above every arrival number of the queue, the taken one included
    refine ⟨fun q => ?_, fun q => ?_, fun q m hm => ?_⟩
    · rw [hent, hseq]; split
      · exact forall_mem_cons.2 ⟨Nat.lt_succ_self _, fun x hx => Nat.lt_succ_of_lt (hq.arrLt q x hx)⟩
      · exact hq.arrLt q
    · rw [hent]; split
      · refine nodup_cons.2 ⟨fun hmem => ?_, hq.arrNodup q⟩
        obtain ⟨x, hx, hxe⟩ := mem_map.1 hmem
        exact Nat.ne_of_lt (hq.arrLt q x hx) hxe
      · exact hq.arrNodup q
    · rw [hent, hseq, hd]; rw [hlt] at hm
      obtain ⟨h1, h2, h3, h4⟩ := hq.taken q m hm
      refine ⟨Nat.lt_of_lt_of_le h1 hlen, h2, ?_, ?_⟩ <;> split
      · exact Nat.lt_succ_of_lt h3
      · exact h3
      · exact forall_mem_cons.2 ⟨Nat.ne_of_gt h3, h4⟩
      · exact h4
  | get q0 m _ hq0 hm hent hseq hd hlt _ =>
    have hmem := minEntry_mem hm
    refine ⟨fun q => ?_, fun q => ?_, fun q m' hm' => ?_⟩
    · rw [hent, hseq]; split
      · exact fun x hx => hq.arrLt q x (mem_of_mem_erase hx)
      · exact hq.arrLt q
    · rw [hent]; split
      · exact (hq.arrNodup q).sublist (erase_sublist.map _)
      · exact hq.arrNodup q
    · rw [hlt] at hm'
      obtain ⟨rfl, rfl⟩ := Prod.mk.inj (Option.some.inj hm')
      rw [hent, hseq, hd, if_pos rfl]
      exact ⟨Nat.lt_of_lt_of_le hq0 hlen, ⟨_, rfl⟩, hq.arrLt q0 m hmem,
        not_mem_map_erase (f := fun x : Int × Nat × Nat => x.2.1) (hq.arrNodup q0) hmem⟩
  | putBack q0 m ds _ hlt hd hent hseq hd' hlt' _ =>
    -- the entry taken last kept its arrival number out of use
    obtain ⟨_, _, h3, h4⟩ := hq.taken q0 m hlt
    refine ⟨fun q => ?_, fun q => ?_, fun q m' hm' => ?_⟩
    · rw [hent, hseq]; split
      · subst q; exact forall_mem_cons.2 ⟨h3, hq.arrLt q0⟩
      · exact hq.arrLt q
    · rw [hent]; split
      · subst q
        refine nodup_cons.2 ⟨fun hmem => ?_, hq.arrNodup q0⟩
        obtain ⟨x, hx, hxe⟩ := mem_map.1 hmem
        exact h4 x hx hxe
      · exact hq.arrNodup q
    · rw [hlt'] at hm'; cases hm'

theorem stored_iff (s : TState) (id : Nat) : s.stored id ↔ id ∈ s.entryIds ∨ id ∈ s.dispatchedIds := by
  unfold TState.stored TState.pendingIn TState.entryIds TState.q
  refine or_congr ⟨?_, fun h => ?_⟩ Iff.rfl
  · rintro ⟨q, e, he, rfl⟩
    rw [getD_eq_getElem?_getD] at he
    cases hq : s.queues[q]? with
    | none => rw [hq] at he; cases he
    | some x =>
      rw [hq] at he
      exact mem_flatMap.2 ⟨x, mem_of_getElem? hq, mem_map_of_mem he⟩
  · obtain ⟨x, hx, hid⟩ := mem_flatMap.1 h
    obtain ⟨q, hq⟩ := mem_iff_getElem?.1 hx
    obtain ⟨e, he, rfl⟩ := mem_map.1 hid
    exact ⟨q, e, by rw [getD_eq_getElem?_getD, hq]; exact he, rfl⟩

theorem QEff.count (hf : QEff s s' e) (a : Nat) :
    count a s'.entryIds + count a s'.dispatchedIds =
      count a s.entryIds + count a s.dispatchedIds + count a e.putId := by
  unfold Ev.putId TState.dispatchedIds
  cases hf with
  | none he _ _ hd _ hids => rw [he, hd, hids]; rfl
  | put q0 sid prio he _ _ hd _ hids =>
    have := hids.count_eq a
    rw [he, hd]
    simp only [map_cons, map_nil, count_cons, count_nil] at this ⊢; omega
  | get q0 m he _ _ _ _ hd _ hids =>
    have := hids.count_eq a
    rw [he, hd]
    simp only [map_cons, map_nil, count_cons, count_nil] at this ⊢; omega
  | putBack q0 m ds he _ hd _ _ hd' _ hids =>
    have := hids.count_eq a
    rw [he, hd, hd']
    simp only [map_cons, map_nil, count_cons, count_nil] at this ⊢; omega

theorem stored_iff_count (s : TState) (id : Nat) :
    s.stored id ↔ 0 < count id s.entryIds + count id s.dispatchedIds := by
  rw [stored_iff, ← count_pos_iff, ← count_pos_iff]; omega

theorem stored_of_qeff (hf : QEff s s' e) (id : Nat) (hst : s.stored id) : s'.stored id := by
  rw [stored_iff_count] at hst ⊢
  have := hf.count id
  omega

structure CInv (s : TState) : Prop where
  post : ∀ t, ∀ id ∈ (s.pc t).postId, s.stored id
  compl : ∀ id ∈ s.completed, s.stored id

theorem putId_stored (hf : QEff s s' e) : ∀ id ∈ e.putId, s'.stored id := by
  intro id hid
  rw [stored_iff_count]
  have := hf.count id
  have := count_pos_iff.2 hid
  omega

theorem cinv_step (h : TInv s) (hq : QInv s) (hc : CInv s) (hs : TStep s t e s') : CInv s' := by
  have hf := qeff h hq hs
  refine ⟨fun t' id hid => ?_, fun id hid => ?_⟩
  · by_cases hne : t' = t
    · subst hne
      rcases postId_step hs id hid with hid | hid
      · exact stored_of_qeff hf id (hc.post t' id hid)
      · exact putId_stored hf id hid
    · rw [pc_other hs hne] at hid
      exact stored_of_qeff hf id (hc.post t' id hid)
  · apply stored_of_qeff hf
    rcases completed_step hs with hcs | ⟨id', hid', hcs⟩ <;> rw [hcs] at hid
    · exact hc.compl id hid
    · rcases mem_cons.1 hid with rfl | hid
      · exact hc.post t id hid'
      · exact hc.compl id hid

theorem init_q_entries (src0 : List Nat) (q : Nat) : ((initState src0).q q).entries = [] := by
  rcases init_q src0 q with h | h <;> rw [h]

theorem qinv_init (src0 : List Nat) : QInv (initState src0) := by
  refine ⟨?_, ?_, ?_⟩ <;> intro q <;> simp [init_q_entries]
  simp [initState]

theorem cinv_init (src0 : List Nat) : CInv (initState src0) := by
  refine ⟨?_, ?_⟩
  · intro t id hid; simp at hid
  · simp [initState]

theorem qcinv_reach {src0 : List Nat} {s : TState} (hr : TReach src0 s) : QInv s ∧ CInv s :=
  treach_induction (P := fun s => QInv s ∧ CInv s) ⟨qinv_init src0, cinv_init src0⟩
    (fun _ _ _ _ hr h hs => ⟨qinv_step (tinv_reach hr) h.1 hs, cinv_step (tinv_reach hr) h.1 h.2 hs⟩) s hr

end Simpleline.Threads
