/-
  Stack discipline: the code behind a `mainCheck q` marker (the continuation of the caller of
  `execute_new_loop`) is untouched until the marker itself exits, `ExitMainLoop` is raised, or the
  process is killed.
-/
import Simpleline.Lemmas.ShapeExact

namespace Simpleline

def FrameInv (q : Nat) (K : List Instr) (v : SV) : Prop :=
  (∃ X, v.code = X ++ .mainCheck q :: K) ∨ q ∉ markersA v.code

namespace Shape

theorem split_of_no_mainCheck {q : Nat} {K : List Instr} :
    ∀ {pre X post : List Instr}, X ++ .mainCheck q :: K = pre ++ post →
      (∀ i ∈ pre, i.isLC = false ∨ i = .catchHandler) → ∃ X', post = X' ++ .mainCheck q :: K := by
  intro pre
  induction pre with
  | nil => intro X post h _; exact ⟨X, h.symm⟩
  | cons a pre ih =>
    intro X post h hp
    cases X with
    | nil =>
      simp only [List.nil_append, List.cons_append, List.cons.injEq] at h
      have := hp a (by simp)
      rw [← h.1] at this
      rcases this with h1 | h1 <;> cases h1
    | cons x X =>
      simp only [List.cons_append, List.cons.injEq] at h
      exact ih h.2 fun i hi => hp i (by simp [hi])

theorem frame_step {P : Prog} {v v' : SV} {evs : List Tr} {q : Nat} {K : List Instr} (hch : Chained v.code)
    (hX : ∃ X, v.code = X ++ .mainCheck q :: K) (hs : SStepE P v evs v') :
    (∃ X, v'.code = X ++ .mainCheck q :: K) ∨
    (overCode v'.code = true ∧ (Tr.exit ∈ evs ∨ Tr.kill ∈ evs)) ∨
    (evs = [.loopReturn q] ∧ v.code = .mainCheck q :: K ∧ v'.code = .restoreRun :: K ∧ v.runLoop = false) := by
  obtain ⟨X, hX⟩ := hX
  -- a step that replaces the head by a batch keeps the frame, unless the head is the marker itself
  have keep : ∀ {h : Instr} {rest : List Instr} (B : List Instr), v.code = h :: rest → (∀ q', h ≠ .mainCheck q') →
      ∃ X', B ++ rest = X' ++ .mainCheck q :: K := by
    intro h rest B hc hne
    rw [hc] at hX
    cases X with
    | nil => exact absurd (List.cons.inj hX).1 (hne q)
    | cons x X =>
      rw [List.cons_append, List.cons.injEq] at hX
      exact ⟨B ++ X, by rw [hX.2, List.append_assoc]⟩
  cases hs with
  | stutter => exact .inl ⟨X, hX⟩
  | @batch h rest B _ hc hb =>
    by_cases hm : ∃ q', h = .mainCheck q'
    · obtain ⟨q', rfl⟩ := hm
      rw [hc] at hX
      cases X with
      | nil =>
        obtain ⟨⟨⟩, rfl⟩ := List.cons.inj hX
        cases hb with
        | passive hp => cases hp
        | mainLoop _ _ => exact .inl ⟨[.loopCheck], rfl⟩
        | mainExit _ hr => exact .inr (.inr ⟨rfl, hc, rfl, hr⟩)
      | cons x X =>
        rw [List.cons_append, List.cons.injEq] at hX
        exact .inl ⟨B ++ X, by show B ++ rest = _; rw [hX.2, List.append_assoc]⟩
    · exact .inl (keep B hc fun q' hq' => hm ⟨q', hq'⟩)
  | halt hc hh => exact .inl (keep [] hc (by rintro q' rfl; cases hh))
  | @raise h rest k hc hr =>
    cases k with
    | exit => exact .inr (.inl ⟨unwind_exit_chained (hc ▸ hch).2, .inl (List.mem_singleton_self _)⟩)
    | sysexit => rw [canRaise_sysexit] at hr; cases hr
    | err =>
      -- an ordinary exception is caught in front of the marker
      have hn := canRaise_nonLC hr
      obtain ⟨X', hX'⟩ := keep [] hc (by rintro q' rfl; cases hn)
      have := unwind_err_chained (hc ▸ hch) hn
      show (∃ X, (unwindTo .err rest).getD [] = X ++ _) ∨ _
      split at this
      · rename_i post hpost
        obtain ⟨pre, h1, h2⟩ := this
        rw [hpost]
        exact .inl (split_of_no_mainCheck (hX'.symm.trans h1) h2)
      · rcases this (.mainCheck q) (by rw [show rest = _ from hX']; simp) with h | h <;> cases h
  | kill _ => exact .inr (.inl ⟨rfl, .inr (List.mem_singleton_self _)⟩)
  | popExit hc _ _ => exact .inr (.inl ⟨unwind_exit_chained (hc ▸ hch).2, .inl (List.mem_cons_self ..)⟩)
  | forceQuit hc | schedule hc | enqAct hc | pushScr hc | replace hc _ | restore hc _ | pop hc _ _ =>
    exact .inl (keep [] hc nofun)
  | apprun hc | discard hc _ => exact .inl (keep _ hc nofun)
  | «open» hc _ => exact .inl (keep [_] hc nofun)
  | pushModal hc | closeScreen hc _ => exact .inl (keep [_, _] hc nofun)
  | identSkip hc _ _ =>
    show (∃ X, List.dropWhile _ _ = _) ∨ _
    rw [identSkip_chained (hc ▸ hch)]
    exact .inl (keep [] hc nofun)

theorem nq_mono {P : Prog} {v v' : SV} {evs : List Tr} (hs : SStepE P v evs v') : v.nq ≤ v'.nq := by
  cases hs <;> first | exact Nat.le_refl _ | exact Nat.le_succ _

/-- once activation `q` is gone it never comes back (new levels get new numbers) -/
theorem frame_gone_step {P : Prog} {v v' : SV} {evs : List Tr} {q : Nat} (hch : Chained v.code) (hq : q < v.nq)
    (hq' : q ∉ markersA v.code) (hs : SStepE P v evs v') : q ∉ markersA v'.code := by
  rcases sstepE_markers_sub (sstepE_level hch hs) with ⟨h, _⟩ | ⟨h, _⟩
  · exact fun hm => hq' (h.subset hm)
  · rw [h]
    intro hm
    rcases List.mem_cons.1 hm with h1 | h1
    · omega
    · exact hq' h1

theorem frameInv_step {P : Prog} {v v' : SV} {evs : List Tr} {q : Nat} {K : List Instr} (hb : Basic v)
    (hq : q < v.nq) (hi : FrameInv q K v) (hs : SStepE P v evs v') : FrameInv q K v' := by
  rcases hi with hX | hq'
  · rcases frame_step hb.chained hX hs with h | ⟨h, _⟩ | ⟨_, h1, h2, _⟩
    · exact .inl h
    · exact .inr (by rw [markersA_over h]; exact List.not_mem_nil)
    · -- the marker was the innermost one: the markers behind it are smaller
      have := hb.msorted
      rw [h1] at this
      exact .inr fun hmem => Nat.lt_irrefl _ ((List.pairwise_cons.1 this).1 q (show q ∈ markersA (.restoreRun :: K) from h2 ▸ hmem))
  · exact .inr (frame_gone_step hb.chained hq hq' hs)

end Shape

end Simpleline
