/-
  C20d, MainLoop machine: single steps under the invariant `MSim`, composed into the macro step "take the head, run
  all its handlers, insert what they enqueue", which is `mstep`; the start-up; the run.
-/
import Simpleline.Lemmas.FlatM

namespace Simpleline.Flat
open Simpleline Simpleline.GLoop

variable {hs : List (Cls × HRef × Option Nat)} {c : Cfg} {st : List (Nat × Nat)} {q : List GSig} {lg : List Ev}

/-- the loop-state fields the invariant reads are unchanged -/
def sameL (L L' : LoopSt) : Prop :=
  L'.queues = L.queues ∧ L'.levels = L.levels ∧ L'.active = L.active ∧ L'.forceQuit = L.forceQuit ∧
  L'.runLoop = L.runLoop ∧ L'.handlers = L.handlers

theorem MSim.frame (h : MSim hs c st q lg) (c' : Cfg) (lg' : List Ev) (hL : sameL c.L c'.L) (hr : c'.A.readers = c.A.readers)
    (htr : ∀ hid, callCount c'.tr hid = callCount c.tr hid) (hlog : c'.log = lg') : MSim hs c' st q lg' := by
  obtain ⟨h1, h2, h3, h4, h5, h6⟩ := hL
  refine ⟨⟨?_, h2.trans h.inv.levels, h3.trans h.inv.active, h4.trans h.inv.fq, h5.trans h.inv.rl,
    h6.trans h.inv.handlers, hr.trans h.inv.readers⟩, ?_, fun hid => (htr hid).trans (h.cnt hid), hlog⟩
  · rw [h1]; exact h.inv.queues
  · have := h.q
    unfold mqueue LoopSt.activeQ at this ⊢
    rw [h1, h3]; exact this

theorem sameL_refl (L : LoopSt) : sameL L L := ⟨rfl, rfl, rfl, rfl, rfl, rfl⟩

theorem step_hret (P : Prog) (h : MSim hs c st q lg) (hid : Nat) (rest : List Instr) (hc : c.code = .hret hid :: rest) :
    ∃ c', step P c = .ok c' ∧ c'.code = rest ∧ MSim hs c' st q (.hret hid :: lg) := by
  refine ⟨{ c with code := rest, log := .hret hid :: c.log }, ?_, rfl,
    h.frame _ _ (sameL_refl _) rfl (fun _ => rfl) (by show _ :: c.log = _; rw [h.log])⟩
  simp only [step, hc]
  rw [emit_eq]
  exact h.inv.readers

theorem step_catchHandler (P : Prog) (h : MSim hs c st q lg) (rest : List Instr) (hc : c.code = .catchHandler :: rest) :
    ∃ c', step P c = .ok c' ∧ c'.code = rest ∧ MSim hs c' st q lg := by
  refine ⟨{ c with code := rest }, ?_, rfl, h.frame _ _ (sameL_refl _) rfl (fun _ => rfl) h.log⟩
  simp only [step, hc]

theorem step_dispatch_some (P : Prog) (h : MSim hs c st q lg) (g : GSig) (i : Nat) (rest : List Instr) (r : HRef) (d : Option Nat)
    (hc : c.code = .dispatch (sigOf g) i :: rest) (hh : (hsOf hs (.user g.cls))[i]? = some (r, d)) :
    ∃ c', step P c = .ok c' ∧ c'.code = .callH r d (sigOf g) :: .catchHandler :: .dispatch (sigOf g) (i + 1) :: rest ∧
      MSim hs c' st q lg := by
  refine ⟨{ c with code := .callH r d (sigOf g) :: .catchHandler :: .dispatch (sigOf g) (i + 1) :: rest }, ?_, rfl,
    h.frame _ _ (sameL_refl _) rfl (fun _ => rfl) h.log⟩
  have hh' : (handlersOf ({ c with code := rest } : Cfg).L (Cls.user g.cls))[i]? = some (r, d) := by
    rw [← handlersOf_eq h.inv] at hh; exact hh
  simp [step, hc, hh', h.inv.fq, push]

theorem step_dispatch_none (P : Prog) (h : MSim hs c st q lg) (g : GSig) (i : Nat) (rest : List Instr)
    (hc : c.code = .dispatch (sigOf g) i :: rest) (hh : (hsOf hs (.user g.cls))[i]? = none) :
    ∃ c', step P c = .ok c' ∧ c'.code = rest ∧ MSim hs c' st q lg := by
  refine ⟨{ c with code := rest, tr := .dispatched (sigOf g) i :: c.tr }, ?_, rfl,
    h.frame _ _ (sameL_refl _) rfl (fun _ => rfl) h.log⟩
  have hh' : (handlersOf ({ c with code := rest } : Cfg).L (Cls.user g.cls))[i]? = none := by
    rw [← handlersOf_eq h.inv] at hh; exact hh
  simp [step, hc, hh', Cfg.trace]

/-- the `for handler in handlers` loop of `_process_signal` from index `i` on -/
theorem steps_dispatch (P : Prog) (hP : Flat P) (hhs : FlatHandlers hs) (g : GSig)
    (rest : List Instr) : ∀ (l : List (HRef × Option Nat)) (i : Nat) {c : Cfg} {st : List (Nat × Nat)} {q : List GSig}
    {lg : List Ev}, MSim hs c st q lg → c.code = .dispatch (sigOf g) i :: rest → (hsOf hs (.user g.cls)).drop i = l →
    ∃ c', MSteps P c c' ∧ c'.code = rest ∧
      MSim hs c' (runHs P l st).1 ((runHs P l st).2.foldl (fun q e => insertStable e q) q) ((hLog l g.id).reverse ++ lg)
  | [], i, c, st, q, lg, h, hc, hl => by
    have hn : (hsOf hs (.user g.cls))[i]? = none := by
      rw [List.getElem?_eq_none_iff]; exact List.drop_eq_nil_iff.1 hl
    obtain ⟨c1, hs1, hc1, h1⟩ := step_dispatch_none P h g i rest hc hn
    exact ⟨c1, .one hs1, hc1, by simpa [runHs, hLog] using h1⟩
  | (r, d) :: l, i, c, st, q, lg, h, hc, hl => by
    obtain ⟨hsome, hdrop⟩ := drop_cons_facts hl
    have hmem : (r, d) ∈ hsOf hs (.user g.cls) := List.mem_of_getElem? hsome
    obtain ⟨hid, hr⟩ := hsOf_flat hhs _ _ hmem
    simp only at hr
    subst hr
    obtain ⟨c1, hs1, hc1, h1⟩ := step_dispatch_some P h g i rest _ d hc hsome
    obtain ⟨c2, hs2, hc2, h2⟩ := step_callH P h1 hid d g _ hc1
    rw [script_eq hP, List.map_map] at hc2
    obtain ⟨c3, hs3, hc3, h3⟩ := steps_enqs P _ (script P hid (cntOf st hid)) h2 hc2
    obtain ⟨c4, hs4, hc4, h4⟩ := step_hret P h3 hid _ hc3
    obtain ⟨c5, hs5, hc5, h5⟩ := step_catchHandler P h4 _ hc4
    obtain ⟨c6, hs6, hc6, h6⟩ := steps_dispatch P hP hhs g rest l (i + 1) h5 hc5 hdrop
    refine ⟨c6, .head hs1 (.head hs2 (hs3.trans (.head hs4 (.head hs5 hs6)))), hc6, ?_⟩
    simpa [runHs, hLog_cons_user, List.foldl_append] using h6

theorem step_loopCheck (P : Prog) (h : MSim hs c st q lg) (rest : List Instr) (hc : c.code = .loopCheck :: rest) :
    ∃ c', step P c = .ok c' ∧ c'.code = .getDispatch :: .loopCheck :: rest ∧ MSim hs c' st q lg := by
  refine ⟨{ c with code := .getDispatch :: .loopCheck :: rest }, ?_, rfl, h.frame _ _ (sameL_refl _) rfl (fun _ => rfl) h.log⟩
  simp [step, hc, h.inv.rl, push]

theorem step_mainCheck (P : Prog) (h : MSim hs c st q lg) (k : Nat) (rest : List Instr) (hc : c.code = .mainCheck k :: rest) :
    ∃ c', step P c = .ok c' ∧ c'.code = .loopCheck :: .mainCheck k :: rest ∧ MSim hs c' st q lg := by
  refine ⟨{ c with code := .loopCheck :: .mainCheck k :: rest }, ?_, rfl, h.frame _ _ (sameL_refl _) rfl (fun _ => rfl) h.log⟩
  simp [step, hc, h.inv.rl, push]

theorem step_apprun (P : Prog) (hP : Flat P) (h : MSim hs c st q lg) (rest : List Instr) (hc : c.code = .apprun :: rest) :
    ∃ c', step P c = .ok c' ∧ c'.code = .mainCheck 0 :: .catchExit :: .quitCb :: rest ∧ MSim hs c' st q lg := by
  refine ⟨{ c with code := .mainCheck 0 :: .catchExit :: .quitCb :: rest, L := { c.L with forceQuit := false, runLoop := true } },
    ?_, rfl, h.frame _ _ ⟨rfl, rfl, rfl, h.inv.fq.symm, h.inv.rl.symm, rfl⟩ rfl (fun _ => rfl) h.log⟩
  simp [step, hc, hP.1, push]

theorem step_getDispatch (P : Prog) (h : MSim hs c st (g :: q) lg) (rest : List Instr) (hc : c.code = .getDispatch :: rest) :
    ∃ c', step P c = .ok c' ∧ c'.code = .processSignal (sigOf g) :: rest ∧ MSim hs c' st q lg := by
  obtain ⟨q0, hq, hsrc, hent⟩ := h.inv.queues
  have hq0 : q0.entries.map (fun x => gsigOf x.2.2) = g :: q := by
    have := h.q
    simpa [mqueue, LoopSt.activeQ, hq, h.inv.active] using this
  obtain ⟨e, es, hes, hg, hq'⟩ := List.map_eq_cons_iff.1 hq0
  have he : e.2.2 = sigOf g := by rw [← hg]; exact ((hent e (by simp [hes])).2.2).symm
  have hact : c.L.activeQ.entries = e :: es := by simp [LoopSt.activeQ, hq, h.inv.active, hes]
  refine ⟨{ c with code := .processSignal (sigOf g) :: rest, L := { c.L with queues := [{ q0 with entries := es }] },
                   tr := .take 0 (sigOf g) :: c.tr }, ?_, rfl, ?_⟩
  · have hact' : ({ c with code := rest } : Cfg).L.activeQ.entries = e :: es := hact
    simp [step, hc, Cfg.take, hact', push, bind, Except.bind, he, h.inv.active, hq, listSet, pure, Except.pure]
  · refine ⟨⟨⟨_, rfl, hsrc, ?_⟩, h.inv.levels, h.inv.active, h.inv.fq, h.inv.rl, h.inv.handlers, h.inv.readers⟩, ?_, h.cnt, h.log⟩
    · intro x hx
      exact hent x (by rw [hes]; exact List.mem_cons_of_mem _ hx)
    · show (([{ q0 with entries := es }] : List EQueue).getD c.L.active {}).entries.map _ = _
      rw [h.inv.active]; exact hq'

theorem take_blocked (c : Cfg) (hq : c.L.activeQ.entries = []) (hr : c.A.readers = []) :
    c.take = .error (.blocked, c) := by
  simp [Cfg.take, hq, Cfg.deliver, hr]

theorem step_getDispatch_blocked (P : Prog) (h : MSim hs c st [] lg) (rest : List Instr) (hc : c.code = .getDispatch :: rest) :
    ∃ c', step P c = .error (.blocked, c') ∧ c'.log = lg := by
  have hact : c.L.activeQ.entries = [] := by
    have := h.q
    simpa [mqueue] using this
  refine ⟨{ c with code := rest }, ?_, h.log⟩
  simp only [step, hc]
  rw [take_blocked { c with code := rest } hact h.inv.readers]
  rfl

theorem step_processSignal (P : Prog) (h : MSim hs c st q lg) (g : GSig) (rest : List Instr)
    (hc : c.code = .processSignal (sigOf g) :: rest) :
    ∃ c', step P c = .ok c' ∧ MSim hs c' st q lg ∧
      ((hsOf hs (.user g.cls) ≠ [] ∧ c'.code = .dispatch (sigOf g) 0 :: rest) ∨
       (hsOf hs (.user g.cls) = [] ∧ c'.code = rest)) := by
  have e : ∀ T, handlersOf ({ c.L with tickets := T } : LoopSt) (.user g.cls) = hsOf hs (.user g.cls) :=
    fun _ => handlersOf_eq h.inv g.cls
  by_cases hh : hsOf hs (.user g.cls) = []
  · refine ⟨{ c with code := rest, L := { c.L with tickets := mark c.L.tickets (.user g.cls) },
                     tr := .dispatched (sigOf g) 0 :: c.tr }, ?_,
      h.frame _ _ ⟨rfl, rfl, rfl, rfl, rfl, rfl⟩ rfl (fun _ => rfl) h.log, Or.inr ⟨hh, rfl⟩⟩
    simp [step, hc, e, hh, Cfg.trace]
  · refine ⟨{ c with code := .dispatch (sigOf g) 0 :: rest, L := { c.L with tickets := mark c.L.tickets (.user g.cls) } }, ?_,
      h.frame _ _ ⟨rfl, rfl, rfl, rfl, rfl, rfl⟩ rfl (fun _ => rfl) h.log, Or.inl ⟨hh, rfl⟩⟩
    simp [step, hc, e, hh, push]

/-- one turn of `App.run()`'s loop: take the head, run all its handlers, insert what they enqueue -/
theorem macro_step (P : Prog) (hP : Flat P) (hhs : FlatHandlers hs) {g : GSig} (h : MSim hs c st (g :: q) lg) (hc : c.code = mFrame) :
    ∃ c', MSteps P c c' ∧ c'.code = mFrame ∧
      MSim hs c' (absProg P hs st g).1 ((absProg P hs st g).2.foldl (fun q e => insertStable e q) q)
        ((hLog (hsOf hs (.user g.cls)) g.id).reverse ++ lg) := by
  obtain ⟨c1, hs1, hc1, h1⟩ := step_loopCheck P h _ hc
  obtain ⟨c2, hs2, hc2, h2⟩ := step_getDispatch P h1 _ hc1
  obtain ⟨c3, hs3, h3, hc3⟩ := step_processSignal P h2 g _ hc2
  rw [absProg_eq]
  rcases hc3 with ⟨_, hc3⟩ | ⟨he, hc3⟩
  · obtain ⟨c4, hs4, hc4, h4⟩ := steps_dispatch P hP hhs g _ _ 0 h3 hc3 List.drop_zero
    exact ⟨c4, .head hs1 (.head hs2 (.head hs3 hs4)), hc4, h4⟩
  · refine ⟨c3, .head hs1 (.head hs2 (.one hs3)), hc3, ?_⟩
    rw [he]; simpa [runHs, hLog] using h3

/-- with nothing pending `App.run()` blocks in `get()`: two steps, the log stays -/
theorem macro_blocked (P : Prog) (h : MSim hs c st [] lg) (hc : c.code = mFrame) :
    ∃ c', (∀ j, runFuel P (2 + j) c = (c', .blocked)) ∧ c'.log = lg := by
  obtain ⟨c1, hs1, hc1, h1⟩ := step_loopCheck P h _ hc
  obtain ⟨c2, hs2, hl2⟩ := step_getDispatch_blocked P h1 _ hc1
  refine ⟨c2, fun j => ?_, hl2⟩
  have : 2 + j = (j + 1) + 1 := by omega
  rw [this, runFuel, hs1]
  simp only [runFuel, hs2]

theorem init_sim (hs : List (Cls × HRef × Option Nat)) (acts : List Act) (quitCb : Option Nat) (stdin : List Str) :
    MSim hs (initCfg acts hs quitCb stdin) [] [] [] :=
  ⟨⟨⟨{}, rfl, rfl, fun _ hx => by simp at hx⟩, rfl, rfl, rfl, rfl, rfl, rfl⟩, rfl, fun _ => rfl, rfl⟩

theorem steps_init (P : Prog) (hP : Flat P) (hs : List (Cls × HRef × Option Nat)) (init : List GSig) (quitCb : Option Nat)
    (stdin : List Str) :
    ∃ c', MSteps P (initCfg (initActs init) hs quitCb stdin) c' ∧ c'.code = mFrame ∧
      MSim hs c' [] (minit ([] : List (Nat × Nat)) init).queue [] := by
  have h0 := init_sim hs (initActs init) quitCb stdin
  have hc0 : (initCfg (initActs init) hs quitCb stdin).code = init.map (fun g => Instr.act (actOf g)) ++ [.apprun] := by
    simp [initCfg, initActs, List.map_map]
  obtain ⟨c1, hs1, hc1, h1⟩ := steps_enqs P _ init h0 hc0
  obtain ⟨c2, hs2, hc2, h2⟩ := step_apprun P hP h1 _ hc1
  obtain ⟨c3, hs3, hc3, h3⟩ := step_mainCheck P h2 _ _ hc2
  exact ⟨c3, hs1.trans (.head hs2 (.one hs3)), hc3, h3⟩

/-- the MainLoop machine at a dispatch boundary corresponds to the abstract `MainLoop` state `m` -/
def MRelI (hs : List (Cls × HRef × Option Nat)) (c : Cfg) (m : MState (List (Nat × Nat))) : Prop :=
  MSim hs c m.st m.queue (runLog hs m.done).reverse ∧ c.code = mFrame

theorem MRelI.toRel {m : MState (List (Nat × Nat))} (h : MRelI hs c m) :
    MRel hs c m :=
  ⟨h.2, h.1.q, h.1.cnt, by rw [h.1.log, List.reverse_reverse]⟩

theorem mrel_step (P : Prog) (hP : Flat P) (hhs : FlatHandlers hs)
    {m m' : MState (List (Nat × Nat))} (h : MRelI hs c m) (hm : mstep (absProg P hs) m = some m') :
    ∃ c', MSteps P c c' ∧ MRelI hs c' m' := by
  obtain ⟨st, _ | ⟨g, q⟩, done⟩ := m <;> obtain ⟨hsim, hc⟩ := h
  · cases hm
  · cases hm
    obtain ⟨c', hst, hc', h'⟩ := macro_step P hP hhs hsim hc
    exact ⟨c', hst, by simpa [runLog_snoc] using h', hc'⟩

theorem mrel_blocked (P : Prog) {m : MState (List (Nat × Nat))} (h : MRelI hs c m) (hm : mstep (absProg P hs) m = none) :
    ∃ c', (∀ j, runFuel P (2 + j) c = (c', .blocked)) ∧ c'.log = c.log := by
  obtain ⟨st, _ | ⟨g, q⟩, done⟩ := m <;> obtain ⟨hsim, hc⟩ := h
  · obtain ⟨c', h1, h2⟩ := macro_blocked P hsim hc
    exact ⟨c', h1, h2.trans hsim.log.symm⟩
  · cases hm

theorem mrel_run (P : Prog) (hP : Flat P) (hhs : FlatHandlers hs) :
    ∀ (n : Nat) {c : Cfg} {m : MState (List (Nat × Nat))}, MRelI hs c m →
    ∃ c', MSteps P c c' ∧ MRelI hs c' (mrun (absProg P hs) n m)
  | 0, c, m, h => ⟨c, .refl _, h⟩
  | n + 1, c, m, h => by
    unfold mrun
    cases hm : mstep (absProg P hs) m with
    | none => exact ⟨c, .refl _, h⟩
    | some m' =>
      obtain ⟨c1, hs1, h1⟩ := mrel_step P hP hhs h hm
      obtain ⟨c2, hs2, h2⟩ := mrel_run P hP hhs n h1
      exact ⟨c2, hs1.trans hs2, h2⟩

theorem machine_reaches (P : Prog) (hP : Flat P) (hhs : FlatHandlers hs)
    (init : List GSig) (quitCb : Option Nat) (stdin : List Str) (n : Nat) :
    ∃ c, MSteps P (initCfg (initActs init) hs quitCb stdin) c ∧ MRelI hs c (mrun (absProg P hs) n (minit [] init)) := by
  obtain ⟨c0, hs0, hc0, h0⟩ := steps_init P hP hs init quitCb stdin
  obtain ⟨c1, hs1, h1⟩ := mrel_run P hP hhs n (m := minit [] init) ⟨h0, hc0⟩
  exact ⟨c1, hs0.trans hs1, h1⟩

end Simpleline.Flat
