/-
  Exact descriptions of the input operations of the machine (C06, C18): `startRequest`
  (`InputThreadManager.start_input_thread`), the hand-off step `inputReceived`
  (`InputThreadManager._input_received_handler`), the handler step `inputReady`
  (`InputHandler._input_received_handler`), and a request made for a fresh `InputHandler` (`getInput2`, `blockingInput`).
-/
import Simpleline.Lemmas.InputFrame

namespace Simpleline.Input

theorem startRequest_screens (c : Cfg) (ih : Nat) (requester : Src) (text : Str) :
    (final (startRequest c ih requester text)).A.screens = c.A.screens := by
  rw [startRequest_eq]
  split
  · simp [reqRecorded]
  · split <;> simp [reqRecorded]

theorem startRequest_refuse (c : Cfg) (ih : Nat) (requester : Src) (text : Str)
    (hs : c.A.inputStack ≠ []) (hk : (c.A.ihs.getD ih default).skip = false) :
    startRequest c ih requester text = ({ c with A := reqRecorded c.A ih requester text } : Cfg).raise .err := by
  rw [startRequest_eq, if_pos ⟨hs, hk⟩]

theorem startRequest_accept (c : Cfg) (ih : Nat) (requester : Src) (text : Str)
    (h : c.A.inputStack = [] ∨ (c.A.ihs.getD ih default).skip = true) :
    startRequest c ih requester text = .ok
      (({ c with A := { reqRecorded c.A ih requester text with
          inputStack := c.A.inputStack ++ [c.A.reqs.length], processing := true,
          readers := if c.A.processing then c.A.readers else c.A.readers ++ [c.A.reqs.length] } } : Cfg).write text) := by
  rw [startRequest_eq]
  have : ¬ (c.A.inputStack ≠ [] ∧ (c.A.ihs.getD ih default).skip = false) := by
    rintro ⟨h1, h2⟩
    rcases h with h | h
    · exact h1 h
    · rw [h2] at h; cases h
  rw [if_neg this]
  cases hp : c.A.processing
  · simp
  · simp [reqRecorded, hp]

theorem enqueue_withSid (c : Cfg) (n : Nat) (s : Sig) :
    ({ c with nextSid := n } : Cfg).enqueue s = { c.enqueue s with nextSid := n } := by
  unfold Cfg.enqueue; split <;> rfl

theorem enqueue_withCode (c : Cfg) (code : List Instr) (s : Sig) :
    ({ c with code := code } : Cfg).enqueue s = { c.enqueue s with code := code } := by
  unfold Cfg.enqueue; split <;> rfl

@[simp] theorem enqueueAll_nil (c : Cfg) : enqueueAll c [] = c := rfl
@[simp] theorem enqueueAll_cons (c : Cfg) (s : Sig) (ss : List Sig) :
    enqueueAll c (s :: ss) = enqueueAll (c.enqueue s) ss := rfl

theorem enqueueAll_withSid (sigs : List Sig) (c : Cfg) (n : Nat) :
    enqueueAll { c with nextSid := n } sigs = { enqueueAll c sigs with nextSid := n } := by
  induction sigs generalizing c with
  | nil => rfl
  | cons s ss ih => rw [enqueueAll_cons, enqueueAll_cons, enqueue_withSid, ih]

theorem enqueueAll_withCode (sigs : List Sig) (c : Cfg) (code : List Instr) :
    enqueueAll { c with code := code } sigs = { enqueueAll c sigs with code := code } := by
  induction sigs generalizing c with
  | nil => rfl
  | cons s ss ih => rw [enqueueAll_cons, enqueueAll_cons, enqueue_withCode, ih]

theorem enqueueAll_of_enqueue {α} (f : Cfg → α) (h : ∀ c s, f (c.enqueue s) = f c) (sigs : List Sig) (c : Cfg) :
    f (enqueueAll c sigs) = f c := by
  induction sigs generalizing c with
  | nil => rfl
  | cons s ss ih => rw [enqueueAll_cons, ih, h]

@[simp] theorem enqueueAll_A (sigs : List Sig) (c : Cfg) : (enqueueAll c sigs).A = c.A :=
  enqueueAll_of_enqueue (·.A) enqueue_A sigs c
@[simp] theorem enqueueAll_code (sigs : List Sig) (c : Cfg) : (enqueueAll c sigs).code = c.code :=
  enqueueAll_of_enqueue (·.code) enqueue_code sigs c
@[simp] theorem enqueueAll_log (sigs : List Sig) (c : Cfg) : (enqueueAll c sigs).log = c.log :=
  enqueueAll_of_enqueue (·.log) enqueue_log sigs c
@[simp] theorem enqueueAll_nextSid (sigs : List Sig) (c : Cfg) : (enqueueAll c sigs).nextSid = c.nextSid :=
  enqueueAll_of_enqueue (·.nextSid) enqueue_nextSid sigs c
@[simp] theorem enqueueAll_handlers (sigs : List Sig) (c : Cfg) : (enqueueAll c sigs).L.handlers = c.L.handlers :=
  enqueueAll_of_enqueue (·.L.handlers) enqueue_handlers sigs c
@[simp] theorem enqueueAll_forceQuit (sigs : List Sig) (c : Cfg) : (enqueueAll c sigs).L.forceQuit = c.L.forceQuit :=
  enqueueAll_of_enqueue (·.L.forceQuit) enqueue_forceQuit sigs c
@[simp] theorem enqueueAll_levels (sigs : List Sig) (c : Cfg) : (enqueueAll c sigs).L.levels = c.L.levels :=
  enqueueAll_of_enqueue (·.L.levels) enqueue_levels sigs c
@[simp] theorem enqueueAll_active (sigs : List Sig) (c : Cfg) : (enqueueAll c sigs).L.active = c.L.active :=
  enqueueAll_of_enqueue (·.L.active) enqueue_active sigs c

/-- the loop of `_input_received_handler` over the earlier requests -/
def failLoop (c : Cfg) (others : List Nat) : Cfg :=
  others.foldl (fun c t =>
    (c.newSig .inputReady 0 (c.A.reqs.getD t default).requester [] (c.A.reqs.getD t default).ih false).2.enqueue
      (c.newSig .inputReady 0 (c.A.reqs.getD t default).requester [] (c.A.reqs.getD t default).ih false).1) c

/-- the loop is `enqueueAll` of `failSigs`, but for the counter of fresh signal ids, which `enqueueAll` leaves alone -/
theorem failLoop_eq (others : List Nat) (c : Cfg) :
    failLoop c others =
      { enqueueAll c (failSigs c.A.reqs others (c.nextSid + 1)) with nextSid := c.nextSid + others.length } := by
  induction others generalizing c with
  | nil => rfl
  | cons t ts ih =>
    show failLoop (({ c with nextSid := c.nextSid + 1 } : Cfg).enqueue (failSig c.A.reqs t (c.nextSid + 1))) ts = _
    rw [ih, enqueue_withSid, enqueueAll_withSid]
    simp only [enqueue_A, failSigs, enqueueAll_cons, List.length_cons]
    congr 1
    omega

theorem failSigs_all (reqs : List Request) (ts : List Nat) (sid : Nat) :
    ∀ x ∈ failSigs reqs ts sid, x.cls = .inputReady ∧ x.prio = 0 ∧ x.ok = false ∧ x.line = [] := by
  induction ts generalizing sid with
  | nil => intro x hx; cases hx
  | cons t ts ih =>
    intro x hx
    simp only [failSigs, List.mem_cons] at hx
    rcases hx with rfl | hx
    · exact ⟨rfl, rfl, rfl, rfl⟩
    · exact ih _ x hx

theorem handoffSigs_cls (reqs : List Request) (rs : List Nat) (r : Nat) (line : Str) (sid : Nat) :
    ∀ x ∈ handoffSigs reqs rs r line sid, x.cls = .inputReady := by
  intro x hx
  rcases List.mem_cons.mp hx with rfl | hx
  · rfl
  · exact (failSigs_all _ _ _ x hx).1

theorem step_inputReceived (P : Prog) (c : Cfg) (s : Sig) (rest : List Instr) (rs : List Nat) (r : Nat)
    (hc : c.code = .inputReceived s :: rest) (hst : c.A.inputStack = rs ++ [r]) :
    step P c = .ok { enqueueAll c (handoffSigs c.A.reqs rs r s.line (c.nextSid + 1)) with
      code := rest, A := { c.A with inputStack := [], processing := false },
      nextSid := c.nextSid + (rs.length + 1) } := by
  unfold step
  simp only [hc, hst, List.getLast?_concat, List.dropLast_concat]
  refine congrArg Except.ok ?_
  -- `X` is the configuration after the successful signal was enqueued, where the machine's loop starts
  have key : ∀ X : Cfg, X = ({ c with code := rest, nextSid := c.nextSid + 1 } : Cfg).enqueue
        (okSig c.A.reqs r s.line (c.nextSid + 1)) →
      ({ failLoop X rs with A := { (failLoop X rs).A with inputStack := [], processing := false } } : Cfg) =
        { enqueueAll c (handoffSigs c.A.reqs rs r s.line (c.nextSid + 1)) with
          code := rest, A := { c.A with inputStack := [], processing := false },
          nextSid := c.nextSid + (rs.length + 1) } := by
    intro X hX
    rw [failLoop_eq, hX, enqueue_withSid (c := { c with code := rest }), enqueueAll_withSid, enqueue_withCode,
      enqueueAll_withCode]
    simp only [handoffSigs, enqueueAll_cons, enqueueAll_A, enqueue_A]
    congr 1
    omega
  exact key _ rfl

/-- the hand-off step with an empty request stack: `IndexError` -/
theorem step_inputReceived_empty (P : Prog) (c : Cfg) (s : Sig) (rest : List Instr)
    (hc : c.code = .inputReceived s :: rest) (hst : c.A.inputStack = []) :
    step P c = ({ c with code := rest } : Cfg).raise .err := by
  unfold step
  simp only [hc, hst, List.getLast?_nil]

theorem listSet_listSet {α} (l : List α) (i : Nat) (f g : α → α) :
    listSet (listSet l i f) i g = listSet l i (g ∘ f) := by
  apply List.ext_getElem?
  intro j
  simp only [listSet_getElem?]
  split <;> simp

theorem step_inputReady (P : Prog) (c : Cfg) (n : Nat) (s : Sig) (rest : List Instr)
    (hc : c.code = .inputReady n s :: rest) :
    step P c = .ok
      (if s.ih ≠ n then { c with code := rest }
       else if s.ok = false then
         { c with code := rest, A := { c.A with ihs := listSet c.A.ihs n IHandler.failed } }
       else
         { c with
           code := (match (c.A.ihs.getD n default).cb with
                    | some scr => [.processInput scr s.line]
                    | none => []) ++ rest,
           A := { c.A with ihs := listSet c.A.ihs n (·.answered s.line) } }) := by
  unfold step
  simp only [hc]
  by_cases h1 : s.ih = n
  · simp only [h1, ne_eq, not_true_eq_false, if_false]
    cases hok : s.ok
    · rfl
    · simp only [if_false, listSet_listSet, Bool.true_eq_false]
      cases hcb : (c.A.ihs.getD n default).cb
      · simp only [List.nil_append]
        have : listSet c.A.ihs n (fun x => x.answered s.line) =
            listSet c.A.ihs n ((fun h => { h with value := some s.line }) ∘ fun h => { h with received := true, ok := true }) := by
          apply List.ext_getElem?
          intro j
          simp only [listSet_getElem?]
          split
          · subst_vars
            simp only [List.getD_eq_getElem?_getD] at hcb
            cases hj : c.A.ihs[s.ih]? with
            | none => rfl
            | some h =>
              simp only [hj, Option.getD_some] at hcb
              simp [IHandler.answered, hcb]
          · rfl
        rw [this]; simp
      · simp only [not_true_eq_false, if_false]; rfl
  · simp [h1]

theorem listSet_append_fresh (ihs : List IHandler) (source : Src) (skip : Bool) (cb : Option Nat) :
    listSet (ihs ++ [freshIH source skip cb]) ihs.length IHandler.cleared = ihs ++ [freshIH source skip cb] := by
  apply List.ext_getElem?
  intro j
  simp only [listSet_getElem?]
  split
  · subst_vars; simp [IHandler.cleared, freshIH]
  · rfl

/-- a request made after the code and the screen objects have changed (`getInput2` records the input arguments first) -/
theorem requested_of_newIH (c : Cfg) (code : List Instr) (scrs : List ScreenObj) (source : Src) (skip : Bool)
    (cb : Option Nat) (text : Str) (is : List Instr) :
    let c1 : Cfg := { c with code := code, A := { c.A with screens := scrs } }
    Requested c (final (startRequest (push (newIH c1 source skip cb).2 is) (newIH c1 source skip cb).1 source text))
      (freshIH source skip cb) text := by
  intro c1
  rw [startRequest_eq]
  have hsk : ((push (newIH c1 source skip cb).2 is).A.ihs.getD (newIH c1 source skip cb).1 default).skip = skip := by
    simp [newIH, push, List.getD_eq_getElem?_getD]
  have hih : listSet (push (newIH c1 source skip cb).snd is).A.ihs (newIH c1 source skip cb).fst IHandler.cleared =
      c.A.ihs ++ [freshIH source skip cb] := listSet_append_fresh c.A.ihs source skip cb
  rw [hsk]
  split
  · next h =>
    refine ⟨?_, ?_, raise_handlers _ _, ?_, raise_log _ _, .inl ⟨h.1, h.2, ?_, ?_, ?_, ?_⟩⟩ <;> rw [raise_A]
    · exact hih
    all_goals rfl
  · next h =>
    have h' : c.A.inputStack = [] ∨ skip = true := by
      by_cases h1 : c.A.inputStack = []
      · exact .inl h1
      · cases skip
        · exact absurd ⟨h1, rfl⟩ h
        · exact .inr rfl
    split
    · next hp => exact ⟨hih, rfl, rfl, rfl, rfl, .inr ⟨h', rfl, hp, rfl, .inl ⟨hp, rfl⟩⟩⟩
    · next hp => exact ⟨hih, rfl, rfl, rfl, rfl, .inr ⟨h', rfl, rfl, rfl, .inr ⟨Bool.eq_false_iff.mpr hp, rfl⟩⟩⟩

end Simpleline.Input
