/-
  Concrete executions for kernel-checked examples and counterexamples: `runOk P n c0` is the
  configuration after exactly `n` machine steps (none of which halts); the `test*` functions are Boolean tests on such
  a run, each with the lemma that turns `test .. = true` into the statement about `Reach`.
-/
import Simpleline.Lemmas.ShapeChain

namespace Simpleline

def runOk (P : Prog) : Nat → Cfg → Option Cfg
  | 0, c => some c
  | n + 1, c =>
    match runOk P n c with
    | some c' =>
      match step P c' with
      | .ok c'' => some c''
      | .error _ => none
    | none => none

namespace Shape

theorem runOk_succ {P : Prog} {c0 c' : Cfg} {n : Nat} (h : runOk P (n + 1) c0 = some c') :
    ∃ c, runOk P n c0 = some c ∧ step P c = .ok c' := by
  unfold runOk at h
  split at h
  · rename_i c hc
    split at h
    · rename_i c'' hs
      cases h
      exact ⟨c, hc, hs⟩
    · cases h
  · cases h

theorem step_runOk {P : Prog} {c0 c c' : Cfg} {n : Nat} (h : runOk P n c0 = some c) (h' : runOk P (n + 1) c0 = some c') :
    step P c = .ok c' := by
  obtain ⟨d, hd, hs⟩ := runOk_succ h'
  cases h.symm.trans hd
  exact hs

theorem reach_runOk_from {P : Prog} {c0 c1 c2 : Cfg} {n : Nat} (k : Nat) (h1 : runOk P n c0 = some c1)
    (h2 : runOk P (n + k) c0 = some c2) : Reach P c1 c2 := by
  induction k generalizing c2 with
  | zero => cases h1.symm.trans h2; exact .init
  | succ k ih =>
    obtain ⟨c, hc, hs⟩ := runOk_succ (n := n + k) h2
    exact .step (ih hc) hs

theorem reach_runOk {P : Prog} {c0 c : Cfg} {n : Nat} (h : runOk P n c0 = some c) : Reach P c0 c :=
  reach_runOk_from n rfl (by rwa [Nat.zero_add])

theorem trans_runOk {P : Prog} {c0 c c' : Cfg} {n : Nat} (h : runOk P n c0 = some c) (h' : runOk P (n + 1) c0 = some c') :
    Trans P c c' :=
  .step (step_runOk h h')

def testAt (P : Prog) (n : Nat) (c0 : Cfg) (f : Cfg → Bool) : Bool :=
  match runOk P n c0 with
  | some c => f c
  | none => false

theorem testAt_spec {P : Prog} {n : Nat} {c0 : Cfg} {f : Cfg → Bool} (h : testAt P n c0 f = true) :
    ∃ c, runOk P n c0 = some c ∧ Reach P c0 c ∧ f c = true := by
  unfold testAt at h
  split at h
  · rename_i c hc
    exact ⟨c, hc, reach_runOk hc, h⟩
  · cases h

def testTrans (P : Prog) (n : Nat) (c0 : Cfg) (f : Cfg → Cfg → Bool) : Bool :=
  match runOk P n c0, runOk P (n + 1) c0 with
  | some c, some c' => f c c'
  | _, _ => false

theorem testTrans_spec {P : Prog} {n : Nat} {c0 : Cfg} {f : Cfg → Cfg → Bool} (h : testTrans P n c0 f = true) :
    ∃ c c', Reach P c0 c ∧ Trans P c c' ∧ f c c' = true := by
  unfold testTrans at h
  split at h
  · rename_i c c' hc hc'
    exact ⟨c, c', reach_runOk hc, trans_runOk hc hc', h⟩
  · cases h

def headIsNewLoop : List Instr → Bool
  | .newLoop _ :: _ => true
  | _ => false

theorem headIsNewLoop_spec {l : List Instr} (h : headIsNewLoop l = true) : ∃ s K, l = .newLoop s :: K := by
  cases l with
  | nil => cases h
  | cons a l => cases a <;> first | contradiction | exact ⟨_, _, rfl⟩

/-- boolean test on an `execute_new_loop` call (step `n`) and a later transition (step `n + 1 + k`) -/
def testCall (P : Prog) (n k : Nat) (c0 : Cfg) (f : Cfg → Cfg → Cfg → Cfg → Bool) : Bool :=
  match runOk P n c0, runOk P (n + 1) c0, runOk P (n + 1 + k) c0, runOk P (n + 1 + k + 1) c0 with
  | some c, some c1, some c2, some c3 => headIsNewLoop c.code && f c c1 c2 c3
  | _, _, _, _ => false

theorem testCall_spec {P : Prog} {n k : Nat} {c0 : Cfg} {f : Cfg → Cfg → Cfg → Cfg → Bool}
    (h : testCall P n k c0 f = true) :
    ∃ c c1 c2 c3 s K, Reach P c0 c ∧ c.code = .newLoop s :: K ∧ step P c = .ok c1 ∧ Reach P c1 c2 ∧ Trans P c2 c3 ∧
      f c c1 c2 c3 = true := by
  unfold testCall at h
  split at h
  · rename_i c c1 c2 c3 hc hc1 hc2 hc3
    rw [Bool.and_eq_true] at h
    obtain ⟨s, K, hK⟩ := headIsNewLoop_spec h.1
    exact ⟨c, c1, c2, c3, s, K, reach_runOk hc, hK, step_runOk hc hc1, reach_runOk_from k hc1 hc2,
      trans_runOk hc2 hc3, h.2⟩
  · cases h

/-- boolean test on a transition of the run that continues after the reader thread delivers a line
right after step `n` -/
def testDeliver (P : Prog) (n k : Nat) (c0 : Cfg) (f : Cfg → Cfg → Bool) : Bool :=
  match runOk P n c0 with
  | some c =>
    match c.deliver with
    | some d => testTrans P k d f
    | none => false
  | none => false

theorem testDeliver_spec {P : Prog} {n k : Nat} {c0 : Cfg} {f : Cfg → Cfg → Bool} (h : testDeliver P n k c0 f = true) :
    ∃ c c', Reach P c0 c ∧ Trans P c c' ∧ f c c' = true := by
  unfold testDeliver at h
  split at h
  · rename_i cn hcn
    split at h
    · rename_i d hd
      obtain ⟨c, c', hr, ht, hf⟩ := testTrans_spec h
      exact ⟨c, c', reach_reach (.deliver (reach_runOk hcn) hd) hr, ht, hf⟩
    · cases h
  · cases h

def headIsPushModal : List Instr → Bool
  | .pushModal .. :: _ => true
  | _ => false

theorem headIsPushModal_spec {l : List Instr} (h : headIsPushModal l = true) :
    ∃ scr args K, l = .pushModal scr args :: K := by
  cases l with
  | nil => cases h
  | cons a l => cases a <;> first | contradiction | exact ⟨_, _, _, rfl⟩

/-- boolean test on a `push_screen_modal` call (steps `n`, `n + 1`) and a later transition -/
def testModal (P : Prog) (n k : Nat) (c0 : Cfg) (f : Cfg → Cfg → Cfg → Cfg → Bool) : Bool :=
  match runOk P n c0, runOk P (n + 1) c0, runOk P (n + 1 + 1) c0, runOk P (n + 1 + 1 + k) c0,
      runOk P (n + 1 + 1 + k + 1) c0 with
  | some c, some _, some c1, some c2, some c3 => headIsPushModal c.code && f c c1 c2 c3
  | _, _, _, _, _ => false

theorem testModal_spec {P : Prog} {n k : Nat} {c0 : Cfg} {f : Cfg → Cfg → Cfg → Cfg → Bool}
    (h : testModal P n k c0 f = true) :
    ∃ c c' c1 c2 c3 scr args K, Reach P c0 c ∧ c.code = .pushModal scr args :: K ∧ step P c = .ok c' ∧
      step P c' = .ok c1 ∧ Reach P c1 c2 ∧ Trans P c2 c3 ∧ f c c1 c2 c3 = true := by
  unfold testModal at h
  split at h
  · rename_i c c' c1 c2 c3 hc hc' hc1 hc2 hc3
    rw [Bool.and_eq_true] at h
    obtain ⟨scr, args, K, hK⟩ := headIsPushModal_spec h.1
    exact ⟨c, c', c1, c2, c3, scr, args, K, reach_runOk hc, hK, step_runOk hc hc', step_runOk hc' hc1,
      reach_runOk_from k hc1 hc2, trans_runOk hc2 hc3, h.2⟩
  · cases h

end Shape

end Simpleline
