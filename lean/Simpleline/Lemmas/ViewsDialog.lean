/-
  Helper lemmas for C12b: the windows of the library's dialog screens (`Model/DialogViews.lean`).
-/
import Simpleline.Model.DialogViews
import Simpleline.Lemmas.Screen
import Simpleline.Lemmas.LayoutOKFits
import Simpleline.Lemmas.ColumnGrid

namespace Simpleline

theorem renderText_ok_of_pos (cc : CharClass) (st : WSt) (t : List Char) (w : Int) (hw : 0 < w) :
    ∃ s, renderTextSt cc st t w = .ok s := by
  unfold renderTextSt WSt.writeWrapped
  by_cases ht : t = []
  · exact ⟨_, by simp [ht]; rfl⟩
  · have : ¬ w ≤ 0 := by omega
    exact ⟨_, by simp [ht, this]; rfl⟩

/-- `CenterWidget` on lines `g` at width `w`: every row (also an empty one) is moved right by half of the room the
widest row leaves -/
def centerLines (g : Grid) (w : Int) : Grid := g.map (indent ((w - (gridWidth g : Int)) / 2).toNat)

/-- a centered text: the text's lines, centered; the render fails only if the text's does (a text never comes out
wider than the width, so the model's `outOfDomain` case does not arise) -/
theorem center_text_render (cc : CharClass) (st st' : WSt) (m : List Char) (w : Int) (r : Wd)
    (h : (Wd.center st (.text st' m)).render cc w = .ok r) :
    ∃ s, renderTextSt cc {} m w = .ok s ∧ r.lines = centerLines s.buf w := by
  simp only [Wd.render, bind_ok_iff, pure_ok_iff] at h
  obtain ⟨c', ⟨s, hs, rfl⟩, h⟩ := h
  split at h
  · simp only [throw_ok_iff] at h
  · simp only [pure_ok_iff] at h
    subst h
    refine ⟨s, hs, ?_⟩
    exact drawInto_at_end [] s.buf _

theorem center_text_ok_of_pos (cc : CharClass) (st st' : WSt) (m : List Char) (w : Int) (hw : 0 < w) :
    ∃ r, (Wd.center st (.text st' m)).render cc w = .ok r := by
  obtain ⟨s, hs⟩ := renderText_ok_of_pos cc st' m w hw
  have hrows := render_width_int cc st' m w s hs
  have hgw : gridWidth s.buf ≤ w.toNat := (col_gridWidth_le_iff s.buf w.toNat).2 hrows
  have hnot : ¬ w < ((gridWidth (Wd.text s m).lines : Nat) : Int) := by
    show ¬ w < ((gridWidth s.buf : Nat) : Int)
    omega
  refine ⟨.center ((st.clear).drawAt s.buf 0 ((w - (gridWidth s.buf : Int)) / 2).toNat false) (.text s m), ?_⟩
  simp only [Wd.render, hs, bind, Except.bind, pure, Except.pure, hnot, if_false]
  rfl

theorem DKind.items_eq (k : DKind) :
    k.items = match k.message with
      | none => []
      | some m => [if k.centered then .center {} (.text {} m) else .text {} m, .sep {} 1] := by
  cases k <;> rfl

theorem DKind.title_ne_nil (k : DKind) (t : Str) (h : k.title = some t) : t ≠ [] := by
  cases k <;> cases h <;> exact mt String.toList_eq_nil_iff.mp (by decide)

theorem DKind.title_none_iff (k : DKind) : k.title = none ↔ k.message = none := by
  cases k with
  | getInput => exact ⟨fun _ => rfl, fun _ => rfl⟩
  | _ => exact ⟨nofun, nofun⟩

theorem DKind.items_fits (k : DKind) : fitsList k.items = true := by
  cases k <;> rfl

theorem DKind.items_respect (cc : CharClass) (k : DKind) (w : Int) : ∀ it ∈ k.items, RespectsWidth cc it w :=
  fun it hit => fitsList_respects cc k.items k.items_fits it hit w

theorem DKind.window_respects (cc : CharClass) (k : DKind) (w : Int) : RespectsWidth cc k.window w :=
  respects_window cc {} k.title k.items w (k.items_respect cc w)

theorem DKind.items_ok_of_pos (cc : CharClass) (k : DKind) (w : Int) (hw : 0 < w) :
    ∀ it ∈ k.items, ∃ r, it.render cc w = .ok r := by
  intro it hit
  rw [k.items_eq] at hit
  split at hit
  · cases hit
  · next m _ =>
    simp only [List.mem_cons, List.not_mem_nil, or_false] at hit
    rcases hit with rfl | rfl
    · split
      · exact center_text_ok_of_pos cc _ _ m w hw
      · obtain ⟨s, hs⟩ := renderText_ok_of_pos cc {} m w hw
        exact ⟨_, by simp only [Wd.render, hs, bind, Except.bind, pure, Except.pure]; rfl⟩
    · exact ⟨_, by rw [Wd.render]; rfl⟩

theorem DKind.windowLines_eq (cc : CharClass) (k : DKind) (w : Int) :
    k.windowLines cc w =
      (do let tl ← titleLines cc k.title w
          let its ← k.items.mapM (Wd.render cc · w)
          pure (tl ++ its.flatMap Wd.lines)) :=
  window_render_lines cc {} k.title k.items w

theorem DKind.windowLines_ok_of_pos (cc : CharClass) (k : DKind) (w : Int) (hw : 0 < w) :
    ∃ g, k.windowLines cc w = .ok g := by
  have ⟨tl, htl⟩ : ∃ tl, titleLines cc k.title w = .ok tl := by
    unfold titleLines
    split
    · next t _ =>
      obtain ⟨s, hs⟩ := renderText_ok_of_pos cc {} t w hw
      exact ⟨_, by rw [hs]; rfl⟩
    · exact ⟨[], rfl⟩
  obtain ⟨its, hits⟩ := mapM_ok_of_forall (Wd.render cc · w) k.items (k.items_ok_of_pos cc w hw)
  exact ⟨_, by rw [k.windowLines_eq, htl, hits]; rfl⟩

theorem DKind.windowLines_eq_ok (cc : CharClass) (k : DKind) (w : Int) (g : Grid)
    (h : k.windowLines cc w = .ok g) : ∃ r, k.window.render cc w = .ok r ∧ r.lines = g := by
  unfold DKind.windowLines at h
  cases hr : k.window.render cc w with
  | error e => rw [hr] at h; cases h
  | ok r => rw [hr] at h; exact ⟨r, rfl, Except.ok.inj h⟩

end Simpleline
