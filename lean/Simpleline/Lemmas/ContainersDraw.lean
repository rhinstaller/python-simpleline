/-
  Where `drawColumns` puts the items of a list container and their number labels (C13), and how wide
  the drawing gets. A column is a drawing of pieces (`cellPieces`: the label and the item of every cell). All
  that is asked of the rendered labels and items is `WidthOK`: then every column stays within its band, so the
  `col_pos` recurrence of `drawColumns` is `colLeft`, every piece lies in the box of its cell, and the boxes
  are disjoint.
-/
import Simpleline.Lemmas.GridPieces
import Simpleline.Lemmas.ContainersOrder
import Simpleline.Spec.LayoutOKSpec

namespace Simpleline

def gridOf (grids : List Grid) (i : Nat) : Grid := grids.getD i []

theorem gridOf_eq (grids : List Grid) (i : Nat) (hi : i < grids.length) : gridOf grids i = grids[i] :=
  getD_eq_getElem grids [] hi

def Placed (B : Grid) (labels : List (Option NumW)) (grids : List Grid) (i R C : Nat) : Prop :=
  Shown B (gridOf grids i) R (C + labelLen labels i) ∧ Shown B (labelBuf labels i) R C

section pieces

variable (labels : List (Option NumW)) (grids : List Grid) (rowH : Nat → Nat)

def cellPieces (i R C : Nat) : List Piece :=
  (match labels.getD i none with
    | some nw => [⟨nw.st.buf, R, C⟩]
    | none => []) ++ [⟨gridOf grids i, R, C + labelLen labels i⟩]

/-- the cells of one column, the first one on layout row `rowId` -/
def columnPieces (C : Nat) (ids : List Nat) (rowId : Nat) : List Piece :=
  (ids.zipIdx rowId).flatMap fun it => cellPieces labels grids it.1 (rowTop rowH it.2) C

/-- the columns, the first one in band `k` -/
def bandPieces (used : Int) (spacing : Nat) (cols : List (List Nat)) (k : Nat) : List Piece :=
  (cols.zipIdx k).flatMap fun it => columnPieces labels grids rowH (colLeft used spacing it.2) it.1 0

end pieces

section column

variable {labels : List (Option NumW)} {grids : List Grid} {rowH : Nat → Nat} {B : Grid} {i R C : Nat}

theorem drawColumn_cons (s : WSt) (rowH : Nat → Nat) (ids : List Nat) (rowId : Nat) :
    ∃ s' : WSt, s'.buf = drawAll s.buf (cellPieces labels grids i R C) ∧
      drawColumn s C labels grids rowH (i :: ids) rowId R =
        drawColumn s' C labels grids rowH ids (rowId + 1) (R + rowH rowId) := by
  refine ⟨_, ?_, rfl⟩
  unfold cellPieces labelLen gridOf
  cases labels.getD i none <;> rfl

theorem drawColumn_eq (C : Nat) : ∀ (ids : List Nat) (s : WSt) (rowId : Nat),
    (drawColumn s C labels grids rowH ids rowId (rowTop rowH rowId)).buf =
      drawAll s.buf (columnPieces labels grids rowH C ids rowId) := by
  intro ids
  induction ids with
  | nil => intro s rowId; rfl
  | cons i ids ih =>
    intro s rowId
    obtain ⟨s', hs', e⟩ := drawColumn_cons (labels := labels) (grids := grids) (i := i) (R := rowTop rowH rowId)
      (C := C) s rowH ids rowId
    rw [e, ← rowTop_succ, ih, hs', ← drawAll_append]
    rfl

theorem Placed.item (P : Placed B labels grids i R C) (hi : i < grids.length) (a b : Nat)
    (ha : a < grids[i].length) (hb : b < (grids[i][a]).length) :
    cell B (R + a) (C + labelLen labels i + b) = some (grids[i][a])[b] :=
  P.1 a b _ (by rw [gridOf_eq grids i hi]; exact cell_getElem _ a b ha hb)

theorem Placed.label (P : Placed B labels grids i R C) (a b : Nat) (ha : a < (labelBuf labels i).length)
    (hb : b < ((labelBuf labels i)[a]).length) :
    cell B (R + a) (C + b) = some ((labelBuf labels i)[a])[b] :=
  P.2 a b _ (cell_getElem _ a b ha hb)

theorem cellPieces_shown (h : ∀ p ∈ cellPieces labels grids i R C, Shown B p.grid p.row p.col) :
    Placed B labels grids i R C := by
  refine ⟨h ⟨gridOf grids i, R, C + labelLen labels i⟩ (List.mem_append_right _ (List.mem_singleton_self _)), ?_⟩
  unfold labelBuf
  unfold cellPieces at h
  cases hl : labels.getD i none with
  | none => exact shown_nil
  | some nw => rw [hl] at h; exact h ⟨nw.st.buf, R, C⟩ (List.mem_append_left _ (List.mem_singleton_self _))

theorem cellPieces_before (hfit : ∀ row ∈ labelBuf labels i, row.length ≤ labelLen labels i) (R C : Nat) :
    (cellPieces labels grids i R C).Pairwise Piece.Before := by
  unfold cellPieces
  unfold labelBuf at hfit
  cases h : labels.getD i none with
  | none => exact List.pairwise_singleton ..
  | some nw =>
    rw [h] at hfit
    exact List.pairwise_pair.2 (Or.inr fun r hr => Nat.add_le_add_left (hfit r hr) C)

end column

theorem layoutOK_of_widthOK {used : Int} {labels : List (Option NumW)} {grids : List Grid}
    (wo : WidthOK used labels grids)
    (hrows : ∀ i, i < grids.length → (labelBuf labels i).length ≤ 1) : LayoutOK used labels grids :=
  ⟨wo.used_pos, wo.len, wo.item_fits, hrows, wo.label_fits, wo.label_room⟩

theorem widthOK_of_layoutOK {used : Int} {labels : List (Option NumW)} {grids : List Grid}
    (ok : LayoutOK used labels grids) : WidthOK used labels grids :=
  ⟨ok.used_pos, ok.len, ok.item_fits, ok.label_fits, ok.label_room⟩

theorem colLeft_le_succ (used : Int) (spacing k : Nat) :
    colLeft used spacing k + used.toNat ≤ colLeft used spacing (k + 1) :=
  Nat.le_trans (Nat.le_add_right _ spacing) (colLeft_mono used spacing k (k + 1) (Nat.lt_succ_self k))

section bands

variable {used : Int} {labels : List (Option NumW)} {grids : List Grid} (wo : WidthOK used labels grids)
  (spacing : Nat) (rowH : Nat → Nat)
include wo

theorem widthOK_widths (colPos i : Nat) (hi : i < grids.length) :
    (∀ r ∈ labelBuf labels i, colPos + r.length ≤ colPos + used.toNat) ∧
    (∀ r ∈ gridOf grids i, colPos + labelLen labels i + r.length ≤ colPos + used.toNat) := by
  constructor
  · intro r hr
    have h1 := wo.label_fits i hi r hr
    rcases wo.label_room i hi with h2 | h2
    · omega
    · rw [h2] at hr; cases hr
  · intro r hr
    rw [gridOf_eq grids i hi] at hr
    have := wo.item_fits i hi r hr
    omega

omit spacing rowH in
theorem cellPieces_within {i : Nat} (hi : i < grids.length) (R C : Nat) :
    ∀ p ∈ cellPieces labels grids i R C,
      p.Within R (max (gridOf grids i).length (labelBuf labels i).length) C used.toNat := by
  intro p hp
  have ⟨hl, hg⟩ := widthOK_widths wo C i hi
  rcases List.mem_append.1 hp with hp | hp
  · unfold labelBuf at hl ⊢
    split at hp
    · rename_i nw heq
      rw [heq] at hl ⊢
      obtain rfl := List.mem_singleton.1 hp
      exact ⟨Nat.le_refl _, Nat.add_le_add_left (Nat.le_max_right _ _) _, Nat.le_refl _, hl⟩
    · cases hp
  · obtain rfl := List.mem_singleton.1 hp
    exact ⟨Nat.le_refl _, Nat.add_le_add_left (Nat.le_max_left _ _) _, Nat.le_add_right _ _, hg⟩

omit spacing in
theorem drawColumn_width (C : Nat) (ids : List Nat) (hlt : ∀ i ∈ ids, i < grids.length) (s : WSt) (rowId : Nat)
    (hw : gridWidth s.buf ≤ C + used.toNat) :
    gridWidth (drawColumn s C labels grids rowH ids rowId (rowTop rowH rowId)).buf ≤ C + used.toNat := by
  rw [drawColumn_eq, gridWidth_drawAll_le_iff]
  refine ⟨hw, fun p hp => ?_⟩
  obtain ⟨it, hit, hp⟩ := List.mem_flatMap.1 hp
  exact (cellPieces_within wo (hlt _ (List.fst_mem_of_mem_zipIdx hit)) _ _ p hp).2.2.2

theorem drawColumns_eq : ∀ (cols : List (List Nat)) (k : Nat) (s : WSt),
    (∀ ids ∈ cols, ∀ i ∈ ids, i < grids.length) → gridWidth s.buf ≤ colLeft used spacing k + used.toNat →
    (drawColumns used spacing labels grids rowH cols s (colLeft used spacing k)).buf =
      drawAll s.buf (bandPieces labels grids rowH used spacing cols k) := by
  intro cols
  induction cols with
  | nil => intro k s _ _; rfl
  | cons ids cols ih =>
    intro k s hlt hw
    -- the column drawn in band `k` stays within the band, so the next column starts at band `k + 1`
    have hw' : gridWidth (drawColumn s (colLeft used spacing k) labels grids rowH ids 0 0).buf ≤
        colLeft used spacing k + used.toNat :=
      drawColumn_width wo rowH _ ids (hlt ids (List.mem_cons_self ..)) s 0 hw
    have hu := wo.used_pos
    have e : (max ((colLeft used spacing k : Nat) + used)
        (gridWidth (drawColumn s (colLeft used spacing k) labels grids rowH ids 0 0).buf : Int)).toNat + spacing =
        colLeft used spacing (k + 1) := by
      rw [colLeft_succ]; omega
    show (drawColumns used spacing labels grids rowH cols _ _).buf = _
    rw [e, ih (k + 1) _ (fun ids' h' => hlt ids' (List.mem_cons_of_mem _ h'))
      (Nat.le_trans hw' (Nat.le_trans (colLeft_le_succ used spacing k) (Nat.le_add_right _ _)))]
    exact (congrArg (drawAll · _) (drawColumn_eq (rowH := rowH) _ ids s 0)).trans (drawAll_append ..).symm

/-- The pieces come in an order in which each is below or right of those before it: the label left of its
item, a cell below the cells above it, a band right of the bands before it. -/
theorem bandPieces_before (cols : List (List Nat)) (k : Nat)
    (hc : ∀ it ∈ cols.zipIdx k, ∀ jt ∈ it.1.zipIdx 0, jt.1 < grids.length ∧
      max (gridOf grids jt.1).length (labelBuf labels jt.1).length ≤ rowH jt.2) :
    (bandPieces labels grids rowH used spacing cols k).Pairwise Piece.Before := by
  refine List.pairwise_flatMap.2 ⟨fun it hit => List.pairwise_flatMap.2
    ⟨fun jt hjt => cellPieces_before (wo.label_fits _ (hc it hit jt hjt).1) _ _, ?_⟩, ?_⟩
  · refine (zipIdx_pairwise_lt ..).imp_of_mem fun {jt jt'} hjt hjt' hlt p hp q hq => ?_
    obtain ⟨hi, hH⟩ := hc it hit jt hjt
    exact (cellPieces_within wo hi _ _ p hp).before (cellPieces_within wo (hc it hit jt' hjt').1 _ _ q hq)
      (Or.inl (Nat.le_trans (Nat.add_le_add_left hH _) (rowTop_mono rowH _ _ hlt)))
  · refine (zipIdx_pairwise_lt ..).imp_of_mem fun {it it'} hit hit' hlt p hp q hq => ?_
    obtain ⟨jt, hjt, hp⟩ := List.mem_flatMap.1 hp
    obtain ⟨jt', hjt', hq⟩ := List.mem_flatMap.1 hq
    exact (cellPieces_within wo (hc it hit jt hjt).1 _ _ p hp).before
      (cellPieces_within wo (hc it' hit' jt' hjt').1 _ _ q hq)
      (Or.inr (Nat.le_trans (Nat.le_add_right _ _) (colLeft_mono used spacing _ _ hlt)))

theorem container_width (cm : Bool) (columns : Nat) :
    gridWidth (drawColumns used spacing labels grids rowH (orderedMap cm columns grids.length) {} 0).buf ≤
      colLeft used spacing (columns - 1) + used.toNat := by
  have hlt := orderedMap_ids_lt cm columns grids.length
  have e := drawColumns_eq wo spacing rowH _ 0 {} hlt (Nat.zero_le _)
  rw [colLeft_zero] at e
  rw [e, gridWidth_drawAll_le_iff]
  refine ⟨Nat.zero_le _, fun p hp r hr => ?_⟩
  obtain ⟨it, hit, hp⟩ := List.mem_flatMap.1 hp
  obtain ⟨jt, hjt, hp⟩ := List.mem_flatMap.1 hp
  have hcol := List.snd_lt_of_mem_zipIdx hit
  rw [orderedMap_length, Nat.add_zero] at hcol
  exact Nat.le_trans ((cellPieces_within wo (hlt _ (List.fst_mem_of_mem_zipIdx hit) _
    (List.fst_mem_of_mem_zipIdx hjt)) _ _ p hp).2.2.2 r hr)
    (Nat.add_le_add_right (Nat.mul_le_mul_right _ (Nat.le_pred_of_lt hcol)) _)

theorem container_placed (cm : Bool) (columns : Nat) (hc : 1 ≤ columns)
    (hH : ∀ i, (hi : i < grids.length) →
      max grids[i].length (labelBuf labels i).length ≤ rowH (cellOf cm columns grids.length i).1)
    (i : Nat) (hi : i < grids.length) :
    Placed (drawColumns used spacing labels grids rowH (orderedMap cm columns grids.length) {} 0).buf
      labels grids i (rowTop rowH (cellOf cm columns grids.length i).1)
      (colLeft used spacing (cellOf cm columns grids.length i).2) := by
  -- an entry of the ordered map is an item, and it is the entry of its cell
  have hmem : ∀ it ∈ (orderedMap cm columns grids.length).zipIdx 0, ∀ jt ∈ it.1.zipIdx 0,
      ∃ hj : jt.1 < grids.length, cellOf cm columns grids.length jt.1 = (jt.2, it.2) := by
    intro ⟨ids, c⟩ hit ⟨j, t⟩ hjt
    obtain ⟨hcl, rfl⟩ := List.getElem?_eq_some_iff.1 (List.mk_mem_zipIdx_iff_getElem?.1 hit)
    obtain ⟨hr, rfl⟩ := List.getElem?_eq_some_iff.1 (List.mk_mem_zipIdx_iff_getElem?.1 hjt)
    exact ⟨orderedMap_mem_lt cm columns _ _ hcl _ (List.getElem_mem hr), orderedMap_cell cm columns _ _ hcl _ hr⟩
  have e := drawColumns_eq wo spacing rowH _ 0 {} (orderedMap_ids_lt cm columns grids.length) (Nat.zero_le _)
  rw [colLeft_zero] at e
  rw [e]
  have ⟨hcl, hr, hfind⟩ := orderedMap_find cm columns grids.length hc i hi
  -- the boxes of the cells are ordered, so every piece is shown; item `i` is entry `r` of column `c` of its cell
  refine cellPieces_shown fun p hp => drawAll_shown (bandPieces_before wo spacing rowH _ 0 fun it hit jt hjt => ?_) p ?_
  · obtain ⟨hj, hcell⟩ := hmem it hit jt hjt
    have := hH _ hj
    rw [hcell, ← gridOf_eq grids _ hj] at this
    exact ⟨hj, this⟩
  · exact List.mem_flatMap.2 ⟨(_, _), List.mk_mem_zipIdx_iff_getElem?.2 (List.getElem?_eq_getElem hcl),
      List.mem_flatMap.2 ⟨(i, _), List.mk_mem_zipIdx_iff_getElem?.2
        ((List.getElem?_eq_getElem hr).trans (congrArg some hfind)), hp⟩⟩

end bands

end Simpleline
