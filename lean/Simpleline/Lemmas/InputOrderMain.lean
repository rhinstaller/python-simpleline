/-
  C06b: `OrdInv` in every reachable configuration whose history satisfies `NoReadyCovered` and
  `NoReadyReentry`; the order theorem.
-/
import Simpleline.Lemmas.InputOrderOrd
import Simpleline.Lemmas.InputOrderView

namespace Simpleline.InputOrder
open Input

theorem ordInv_init {c0 : Cfg} (h0 : Started c0) (hF : c0.NoForge) : OrdInv (k0 c0) c0 := by
  unfold OrdInv OrdK
  rw [Qc_of_inert (inert_init h0 hF)]
  simp [h0.log, h0.queues, (started_A h0).2.2.2.2, readyQ, flyL, inputLines, readLines]
  cases c0.L.active <;> rfl

theorem trans_suffix {P : Prog} {c c' : Cfg} (ht : Trans P c c') : ∃ new, c'.tr = new ++ c.tr :=
  eff_tr (trans_eff ht)

theorem trans_step (P : Prog) (c : Cfg) : Trans P c (final (step P c)) := by
  cases h : step P c with
  | ok c' => exact .step h
  | error e => exact .halt (o := e.1) (c' := e.2) h

/-- `TakeQuiet` in all reachable configurations may stand in for `NoReadyReentry` (the static alternative). The
induction goes through because both history predicates hold of every earlier moment, too. -/
theorem ordInv_reach {P : Prog} {c0 c : Cfg} (h0 : Started c0) (hU : UserHandlers c0) (hF : NoForge P c0)
    (hr : Reach P c0 c) (hN1 : NoReadyCovered c.tr)
    (hN2 : NoReadyReentry c.tr ∨ ∀ c, Reach P c0 c → TakeQuiet (k0 c0) c) : OrdInv (k0 c0) c := by
  refine reach_step_induction (I := fun c => NoReadyCovered c.tr →
    (NoReadyReentry c.tr ∨ ∀ c, Reach P c0 c → TakeQuiet (k0 c0) c) → OrdInv (k0 c0) c)
    (fun _ _ => ordInv_init h0 hF.2) ?_ ?_ hr hN1 hN2
  · intro c hr ih hN1 hN2
    obtain ⟨new, hnew⟩ := trans_suffix (trans_step P c)
    have hN1c : NoReadyCovered c.tr := noReadyCovered_suffix (hnew ▸ hN1)
    exact ord_step P c hF.1 (cleanCode_reach h0 hU hF hr) (handlersOK_reach h0 hU hr) (readyHandlers_reach h0 hU hr) (depth_reach h0 hU hF hr)
      (postTop_reach h0 hr) (covered_no_ready h0 hr hN1c) (inputInv_reach h0 hU hF hr)
      (lastInv_reach h0 hU hF hr) (WF.reach h0 hr) (levOK_reach h0 hr) hN1 (hN2.imp id (· c hr))
      (ih hN1c (hN2.imp (fun h => noReadyReentry_suffix (hnew ▸ h)) id))
  · intro c c' hr ih hd hN1 hN2
    obtain ⟨new, hnew⟩ := trans_suffix (P := P) (.deliver hd)
    exact OrdInv_deliver (ih (noReadyCovered_suffix (hnew ▸ hN1))
      (hN2.imp (fun h => noReadyReentry_suffix (hnew ▸ h)) id)) hd

theorem order_reach {P : Prog} {c0 c : Cfg} (h0 : Started c0) (hU : UserHandlers c0) (hF : NoForge P c0)
    (hr : Reach P c0 c) (hN1 : NoReadyCovered c.tr)
    (hN2 : NoReadyReentry c.tr ∨ ∀ c, Reach P c0 c → TakeQuiet (k0 c0) c) :
    (inputLines c.log).Sublist (readLines c.log) :=
  (List.sublist_append_left _ _).trans (ordInv_reach h0 hU hF hr hN1 hN2)

theorem readyQ_eq (c : Cfg) (q : Nat) :
    readyQ c.L.queues q = ((c.queue q).sigs.filter Sig.okReady).map (·.line) := by
  unfold readyQ readyL Cfg.queue EQueue.sigs
  rw [List.filter_map, List.map_map]
  rfl

end Simpleline.InputOrder
