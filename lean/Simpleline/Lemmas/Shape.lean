/-
  The invariants relating the pending instruction list to the stack of loop levels, for every reachable
  configuration of every started run (`Shape_*`).
-/
import Simpleline.Lemmas.ShapeEvents

namespace Simpleline

open Shape

variable {P : Prog} {c0 c c' : Cfg}

/-- **LevelsInv.** In every reachable configuration of a started run in which `close_loop` /
`execute_new_loop` were used well-formedly (`WFClose`, `WFDrain`) and `force_quit` has not been called,
the `_mainloop` activations on the call stack correspond exactly to the open levels (see `LevelsInv`). -/
theorem Shape_levelsInv (h0 : Started c0) (hr : Reach P c0 c) (hw : WFClose c) (hd : WFDrain c)
    (hf : NoForceQuit c) : LevelsInv c :=
  levelsInv_of_exact (reach_exact h0 hr (WFOpen.of_WFClose hw) hd hf)

/-- The weaker correspondence that survives double `close_loop` calls and `force_quit` (it needs only
that `execute_new_loop` is never called while `_run_loop` is false): unless the run is over, the open
levels are — innermost first — a subsequence of the activations, and while `_run_loop` is false the
innermost activation (unless it has just left its loop) serves no open level. -/
theorem Shape_levels_sublist (h0 : Started c0) (hr : Reach P c0 c) (hw : WFOpen c) :
    c.Over ∨
    (c.L.levels.reverse.Sublist (markersA c.code) ∧
     (c.L.runLoop = false → headIsRestore c.code = false →
        ∀ q, (markersA c.code).head? = some q → q ∉ c.L.levels)) :=
  reach_sub h0 hr hw

/-- after `force_quit` no level is open and `_run_loop` is false, until `run()` starts afresh -/
theorem Shape_forceQuit (h0 : Started c0) (hr : Reach P c0 c) (hf : c.L.forceQuit = true) :
    c.L.levels = [] ∧ c.L.runLoop = false :=
  (reach_basic h0 hr).fq hf

/-- activations are nested newest-innermost (their levels strictly decrease from the head of the code to
its tail and are existing queue objects); the open levels strictly increase from bottom to top; the
active queue is the top level -/
theorem Shape_sorted (h0 : Started c0) (hr : Reach P c0 c) :
    (markersA c.code).Pairwise (· > ·) ∧ (∀ q ∈ markersA c.code, q < c.L.queues.length) ∧
    c.L.levels.Pairwise (· < ·) ∧ (∀ q ∈ c.L.levels, q < c.L.queues.length) ∧
    (∀ a, c.L.levels.getLast? = some a → c.L.active = a) :=
  have hb := reach_basic h0 hr
  ⟨hb.msorted, hb.mlt, hb.lsorted, hb.llt, hb.active⟩

/-- once `App.run()` has been reached, `markersA` is just the list of `mainCheck` markers -/
theorem Shape_markers (happ : ∀ i ∈ c.code, i ≠ Instr.apprun) : markers c.code = markersA c.code :=
  markers_eq_markersA happ

/-- every activation on the call stack serves an open level, or its level was closed by `close_loop`
(`.closeLevel q` is in the history) or removed by `force_quit` -/
theorem Shape_closed (h0 : Started c0) (hr : Reach P c0 c) :
    ∀ q ∈ markersA c.code, q ∈ c.L.levels ∨ Tr.closeLevel q ∈ c.tr ∨ Tr.forceQuit ∈ c.tr := by
  intro q hq
  rcases reach_closed h0 hr q hq with h | h | h
  · exact .inl h
  · exact .inr (.inl (mem_shapeTr.1 h).1)
  · exact .inr (.inr (mem_shapeTr.1 h).1)

theorem errSegment_chained {h : Instr} {rest : List Instr} (hc : Chained (h :: rest)) (hh : h.isLC = false) :
    ∀ i ∈ errSegment rest, i.isLC = false ∨ i = .apprun := by
  induction rest generalizing h with
  | nil => intro i hi; cases hi
  | cons b rest ih =>
    have hadj : h.fclass.allows b = true := hc.1
    unfold errSegment
    rw [List.takeWhile_cons]
    rcases nonLC_allows hh hadj with hb | rfl | rfl
    · split
      · intro i hi
        rcases List.mem_cons.1 hi with rfl | hi
        · exact .inl hb
        · exact ih hc.2 hb i hi
      · intro i hi; cases hi
    · intro i hi; simp [Instr.catchesErr] at hi
    · rw [chained_apprun hc.2]
      intro i hi
      simp [Instr.catchesErr] at hi
      exact .inr hi

/-- **NoErrCross.** Whenever a body instruction (anything but the loop-control instructions, which never
raise: `Shape_lc_keeps_rest`) is at the head of the code, the part of the code an ordinary exception
raised by it would unwind — everything up to the nearest `except Exception` catcher — contains no
`_mainloop` frame (`mainCheck`, `loopCheck`) and not the `except ExitMainLoop` scope of `run()`. -/
theorem Shape_noErrCross (h0 : Started c0) (hr : Reach P c0 c) {h : Instr} {rest : List Instr}
    (hc : c.code = h :: rest) (hh : h.isLC = false) : ∀ i ∈ errSegment rest, i.isLoopFrame = false := by
  have hch := reach_chained h0 hr
  rw [hc] at hch
  intro i hi
  rcases errSegment_chained hch hh i hi with h1 | rfl
  · cases i <;> first | rfl | contradiction
  · rfl

/-- a loop-control instruction never raises: executing it replaces it by some instructions and leaves
the rest of the code alone (`kill`, the uncaught-exception exit, ends the process instead) -/
theorem Shape_lc_keeps_rest {h : Instr} {rest : List Instr} (hc : c.code = h :: rest) (hh : h.isLC = true)
    (hk : ∀ s, h ≠ .kill s) : ∃ B, (outCfg (step P c)).code = B ++ rest := by
  obtain ⟨evs, hs⟩ := (stepOK P c).1
  exact lc_keeps hs hc hh hk

/-! ### markers change only at `execute_new_loop`, at the return of an activation, or when the run ends -/

/-- **An ordinary exception never removes a marker** (history form): in one transition of an execution
the activations on the call stack change only in three ways — `execute_new_loop` pushes the new level's
activation (`.openLevel`), the innermost activation returns (`.loopReturn`), or the run is over
(`ExitMainLoop`, the uncaught-exception exit, an exception before `run()`, nothing scheduled). -/
theorem Shape_markers_step (h0 : Started c0) (hr : Reach P c0 c) (ht : Trans P c c') :
    (∃ q b, Tr.openLevel q b ∈ newTr c c' ∧ markersA c'.code = q :: markersA c.code) ∨
    (∃ q, Tr.loopReturn q ∈ newTr c c' ∧ markersA c.code = q :: markersA c'.code) ∨
    c'.Over ∨
    markersA c'.code = markersA c.code := by
  obtain ⟨evs, hs, hev, _⟩ := trans_sstep ht
  rcases markers_step (reach_chained h0 hr) hs with ⟨h1, h2⟩ | ⟨q, h1, h2⟩ | h | h
  · exact .inl ⟨c.sv.nq, c.sv.runLoop, (mem_newTr_iff hev rfl).2 (by rw [h1]; simp), h2⟩
  · exact .inr (.inl ⟨q, (mem_newTr_iff hev rfl).2 (by rw [h1]; simp), h2⟩)
  · exact .inr (.inr (.inl h))
  · exact .inr (.inr (.inr h))

/-- a transition that raises `ExitMainLoop` (`.exit`) or ends in the uncaught-exception exit (`.kill`)
leaves at most the quit callback to run -/
theorem Shape_end_over (h0 : Started c0) (hr : Reach P c0 c) (ht : Trans P c c')
    (he : Tr.exit ∈ newTr c c' ∨ Tr.kill ∈ newTr c c') : c'.Over := by
  obtain ⟨evs, hs, hev, _⟩ := trans_sstep ht
  refine end_step (reach_chained h0 hr) hs ?_
  rcases he with h | h
  · exact .inl ((mem_newTr_iff hev rfl).1 h)
  · exact .inr ((mem_newTr_iff hev rfl).1 h)

theorem Shape_over_stable (ht : Trans P c c') (ho : c.Over) : c'.Over := by
  obtain ⟨evs, hs, _, _⟩ := trans_sstep ht
  exact over_step (v := c.sv) ho hs

end Simpleline
