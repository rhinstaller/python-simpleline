/-
  TicketMachine object: the state after a history `h` is what the look-back predicates of the spec say.
-/
import Simpleline.Lemmas.ObjectsTM

namespace Simpleline.Objects

set_option linter.unusedSectionVars false

variable {κ : Type} [DecidableEq κ]

theorem getElem?_lt_of_eq_some {α : Type} {h : List α} {k : Nat} {x : α} (e : h[k]? = some x) : k < h.length :=
  (List.getElem?_eq_some_iff.1 e).1

theorem exists_lt_iff {n : Nat} {P : Nat → Prop} (hP : ∀ k, P k → k < n) : (∃ k < n, P k) ↔ ∃ k, P k :=
  ⟨fun ⟨k, _, h⟩ => ⟨k, h⟩, fun ⟨k, h⟩ => ⟨k, hP k h, h⟩⟩

theorem getElem?_snoc_eq_some {α : Type} (h : List α) (op x : α) (k : Nat) :
    (h ++ [op])[k]? = some x ↔ h[k]? = some x ∨ (k = h.length ∧ op = x) := by
  rcases Nat.lt_trichotomy k h.length with hk | rfl | hk
  · simp [List.getElem?_append_left hk, Nat.ne_of_lt hk]
  · simp
  · simp [List.getElem?_eq_none (show (h ++ [op]).length ≤ k by simp; omega),
      List.getElem?_eq_none (Nat.le_of_lt hk), Nat.ne_of_gt hk]

omit [DecidableEq κ] in
theorem ticketAt_snoc (h : List (TMOp κ)) (op : TMOp κ) (j : Nat) (hj : j ≤ h.length) :
    ticketAt (h ++ [op]) j = ticketAt h j := by
  unfold ticketAt; rw [List.take_append_of_le_length hj]

omit [DecidableEq κ] in
theorem ticketAt_length (h : List (TMOp κ)) : ticketAt h h.length = h.countP TMOp.isTake := by
  unfold ticketAt; rw [List.take_length]

omit [DecidableEq κ] in
theorem Issued.lt {h : List (TMOp κ)} {j : Nat} {l : κ} {t : Nat} (hi : Issued h j l t) : j < h.length :=
  getElem?_lt_of_eq_some hi.1

theorem issued_snoc (h : List (TMOp κ)) (op : TMOp κ) (j : Nat) (l : κ) (t : Nat) :
    Issued (h ++ [op]) j l t ↔
      Issued h j l t ∨ (j = h.length ∧ op = .take l ∧ t = h.countP TMOp.isTake) := by
  unfold Issued
  rw [getElem?_snoc_eq_some, or_and_right]
  refine or_congr (and_congr_right fun e => ?_) ?_
  · rw [ticketAt_snoc _ _ _ (Nat.le_of_lt (getElem?_lt_of_eq_some e))]
  · constructor
    · rintro ⟨⟨rfl, rfl⟩, ht⟩
      rw [ticketAt_snoc _ _ _ (Nat.le_refl _), ticketAt_length] at ht
      exact ⟨rfl, rfl, ht.symm⟩
    · rintro ⟨rfl, rfl, rfl⟩
      rw [ticketAt_snoc _ _ _ (Nat.le_refl _), ticketAt_length]
      exact ⟨⟨rfl, rfl⟩, rfl⟩

omit [DecidableEq κ] in
theorem released_iff (h : List (TMOp κ)) (j : Nat) (l : κ) :
    Released h j l ↔ ∃ k, j < k ∧ h[k]? = some (.mark l) :=
  exists_lt_iff fun _ hk => getElem?_lt_of_eq_some hk.2

omit [DecidableEq κ] in
theorem consumed_iff (h : List (TMOp κ)) (j : Nat) (l : κ) (t : Nat) :
    Consumed h j l t ↔ ∃ k', ∃ k < k', j < k ∧ h[k]? = some (.mark l) ∧ h[k']? = some (.check l t) :=
  exists_lt_iff fun _ ⟨_, _, _, _, e⟩ => getElem?_lt_of_eq_some e

theorem released_snoc (h : List (TMOp κ)) (op : TMOp κ) (j : Nat) (l : κ) :
    Released (h ++ [op]) j l ↔ Released h j l ∨ (j < h.length ∧ op = .mark l) := by
  simp only [released_iff, getElem?_snoc_eq_some]
  constructor
  · rintro ⟨k, h1, e | ⟨rfl, rfl⟩⟩
    · exact Or.inl ⟨k, h1, e⟩
    · exact Or.inr ⟨h1, rfl⟩
  · rintro (⟨k, h1, e⟩ | ⟨h1, rfl⟩)
    · exact ⟨k, h1, Or.inl e⟩
    · exact ⟨h.length, h1, Or.inr ⟨rfl, rfl⟩⟩

theorem consumed_snoc (h : List (TMOp κ)) (op : TMOp κ) (j : Nat) (l : κ) (t : Nat) :
    Consumed (h ++ [op]) j l t ↔ Consumed h j l t ∨ (op = .check l t ∧ Released h j l) := by
  simp only [consumed_iff, released_iff, getElem?_snoc_eq_some]
  constructor
  · rintro ⟨k', k, h2, h1, e1 | ⟨rfl, rfl⟩, e2 | ⟨rfl, e2⟩⟩
    · exact Or.inl ⟨k', k, h2, h1, e1, e2⟩
    · exact Or.inr ⟨e2, k, h1, e1⟩
    · have := getElem?_lt_of_eq_some e2; omega
    · omega
  · rintro (⟨k', k, h2, h1, e1, e2⟩ | ⟨rfl, k, h1, e1⟩)
    · exact ⟨k', k, h2, h1, Or.inl e1, Or.inl e2⟩
    · exact ⟨h.length, k, getElem?_lt_of_eq_some e1, h1, Or.inl e1, Or.inr ⟨rfl, rfl⟩⟩

/-- ticket `t` of line `l` is outstanding after the history `h`, with mark bit `b` -/
def Out (h : List (TMOp κ)) (l : κ) (t : Nat) (b : Bool) : Prop :=
  ∃ j < h.length, Issued h j l t ∧ ¬ Consumed h j l t ∧ (b = true ↔ Released h j l)

theorem out_iff (h : List (TMOp κ)) (l : κ) (t : Nat) (b : Bool) :
    Out h l t b ↔ ∃ j, Issued h j l t ∧ ¬ Consumed h j l t ∧ (b = true ↔ Released h j l) :=
  exists_lt_iff fun _ hj => hj.1.lt

omit [DecidableEq κ] in
theorem out_nil (l : κ) (t : Nat) (b : Bool) : ¬ Out ([] : List (TMOp κ)) l t b := by
  rintro ⟨j, hj, _⟩; simp at hj

theorem out_snoc_take (h : List (TMOp κ)) (l' l : κ) (t : Nat) (b : Bool) :
    Out (h ++ [.take l']) l t b ↔ Out h l t b ∨ (l = l' ∧ t = h.countP TMOp.isTake ∧ b = false) := by
  simp only [out_iff, issued_snoc, consumed_snoc, released_snoc, reduceCtorEq, false_and, or_false, and_false,
    TMOp.take.injEq]
  constructor
  · rintro ⟨j, hi | ⟨rfl, rfl, rfl⟩, hc, hb⟩
    · exact Or.inl ⟨j, hi, hc, hb⟩
    · refine Or.inr ⟨rfl, rfl, ?_⟩
      cases b with
      | false => rfl
      | true =>
        obtain ⟨k, _, h1, h2⟩ := hb.1 rfl
        have := getElem?_lt_of_eq_some h2; omega
  · rintro (⟨j, hi, hc, hb⟩ | ⟨rfl, rfl, rfl⟩)
    · exact ⟨j, Or.inl hi, hc, hb⟩
    · refine ⟨h.length, Or.inr ⟨rfl, rfl, rfl⟩, ?_, ?_⟩
      · rintro ⟨k', hk', k, h1, h2, h3, h4⟩; omega
      · simp only [Bool.false_eq_true, false_iff]
        rintro ⟨k, hk, h1, h2⟩; omega

theorem out_snoc_mark (h : List (TMOp κ)) (l' l : κ) (t : Nat) (b : Bool) :
    Out (h ++ [.mark l']) l t b ↔
      if l = l' then (b = true ∧ ∃ b0, Out h l t b0) else Out h l t b := by
  simp only [out_iff, issued_snoc, consumed_snoc, released_snoc, reduceCtorEq, false_and, or_false, and_false,
    TMOp.mark.injEq]
  split
  · rename_i hl
    subst hl
    constructor
    · rintro ⟨j, hi, hc, hb⟩
      exact ⟨hb.2 (Or.inr ⟨hi.lt, rfl⟩), decide (Released h j l), j, hi, hc, by simp⟩
    · rintro ⟨rfl, b0, j, hi, hc, _⟩
      exact ⟨j, hi, hc, by simp [hi.lt]⟩
  · rename_i hl
    have : ¬ l' = l := fun e => hl e.symm
    simp [this]

theorem out_snoc_check (h : List (TMOp κ)) (l' : κ) (t' : Nat) (l : κ) (t : Nat) (b : Bool) :
    Out (h ++ [.check l' t']) l t b ↔ Out h l t b ∧ ¬ (l = l' ∧ t = t' ∧ b = true) := by
  simp only [out_iff, issued_snoc, consumed_snoc, released_snoc, reduceCtorEq, false_and, or_false, and_false,
    TMOp.check.injEq]
  constructor
  · rintro ⟨j, hi, hc, hb⟩
    refine ⟨⟨j, hi, fun hc' => hc (Or.inl hc'), hb⟩, ?_⟩
    rintro ⟨rfl, rfl, rfl⟩
    exact hc (Or.inr ⟨⟨rfl, rfl⟩, hb.1 rfl⟩)
  · rintro ⟨⟨j, hi, hc, hb⟩, hn⟩
    refine ⟨j, hi, ?_, hb⟩
    rintro (hc' | ⟨⟨rfl, rfl⟩, hr⟩)
    · exact hc hc'
    · exact hn ⟨rfl, rfl, hb.2 hr⟩

def Hist (h : List (TMOp κ)) (m : TM κ) : Prop :=
  m.WF ∧ m.counter = h.countP TMOp.isTake ∧ ∀ l t b, m.get l t = some b ↔ Out h l t b

theorem Hist.empty : Hist ([] : List (TMOp κ)) {} :=
  ⟨TM.WF.empty, rfl, fun l t b => by simp [TM.get, alookup, out_nil]⟩

theorem Hist.get_none {h : List (TMOp κ)} {m : TM κ} (hh : Hist h m) (l : κ) (t : Nat) :
    m.get l t = none ↔ ∀ b, ¬ Out h l t b := by
  rw [Option.eq_none_iff_forall_ne_some]
  exact forall_congr' fun b => not_congr (hh.2.2 l t b)

theorem Hist.check_eq {h : List (TMOp κ)} {m : TM κ} (hh : Hist h m) (l : κ) (t : Nat) :
    (m.check l t).1 = idealCheck h l t := by
  have hT := hh.2.2 l t true
  have hF := hh.2.2 l t false
  unfold Out at hT hF
  simp only [true_iff, Bool.false_eq_true, false_iff] at hT hF
  rw [TM.check_fst]
  unfold idealCheck
  simp only [← hT, ← hF]
  cases m.get l t with
  | none => simp
  | some b => cases b <;> simp

theorem Hist.step {h : List (TMOp κ)} {m : TM κ} (hh : Hist h m) (op : TMOp κ) :
    (m.step op).1 = idealOut h op ∧ Hist (h ++ [op]) (m.step op).2 := by
  have ⟨hwf, hc, hg⟩ := hh
  refine ⟨?_, hwf.step op, ?_, ?_⟩
  · cases op with
    | take l => simp [TM.step, idealOut, TM.take_fst, hc, ticketAt_length]
    | check l t => simp [TM.step, idealOut, hh.check_eq l t]
    | mark l => rfl
  · rw [TM.step_counter, hc, List.countP_append]; simp
  · intro l t b
    cases op with
    | take l' => simp only [TM.step, hwf.get_take_iff, out_snoc_take, hg, hc]
    | check l' t' => simp only [TM.step, hwf.get_check_iff, out_snoc_check, hg]
    | mark l' => simp only [TM.step, TM.get_mark_iff, out_snoc_mark, hg]

theorem Hist.run {h : List (TMOp κ)} {m : TM κ} (hh : Hist h m) (ops : List (TMOp κ)) :
    Hist (h ++ ops) (m.run ops).2 := by
  induction ops generalizing h m with
  | nil => rwa [List.append_nil]
  | cons op ops ih =>
    rw [List.append_cons]
    exact ih (hh.step op).2

end Simpleline.Objects
