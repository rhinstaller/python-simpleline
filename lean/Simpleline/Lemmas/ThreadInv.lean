/-
  The state invariant `TInv` of the thread model (lock discipline, validity of queue indices, the level list,
  `_active_queue`) and its preservation.  Locks and shared lists: from ThreadStep; code positions:
  the other threads do not move, the stepping thread by inspection of its transition.
-/
import Simpleline.Lemmas.ThreadStep

namespace Simpleline.Threads

structure TInv (s : TState) : Prop where
  /-- only thread 0 runs loop-thread code -/
  sub : ∀ t, t ≠ 0 → (s.pc t).isSub = true
  main : ∀ t, s.mainLock = some t ↔ (s.pc t).holdsMain = true
  src : ∀ q t, (s.q q).srcLock = some t ↔ (s.pc t).holdsSrc q = true
  ord : ∀ q t, (s.q q).ordLock = some t ↔ (s.pc t).holdsOrd q = true
  valid : ∀ t, (s.pc t).valid s.queues.length
  lvValid : ∀ q ∈ s.levels, q < s.queues.length
  lvNodup : s.levels.Nodup
  actValid : s.active < s.queues.length
  act : (s.pc 0).activeOK s.levels s.active

variable {s s' : TState} {t : Nat} {e : Ev}

theorem TInv.eq_zero (h : TInv s) {t : Nat} (hp : (s.pc t).isSub = false) : t = 0 := by
  by_cases ht : t = 0
  · exact ht
  · have := h.sub t ht; simp_all

theorem TInv.not_holdsMain (h : TInv s) (hm : s.mainLock = some t) {t' : Nat} (hne : t' ≠ t) :
    (s.pc t').holdsMain = false := by
  cases hh : (s.pc t').holdsMain
  · rfl
  · have := (h.main t').2 hh
    rw [hm] at this
    exact absurd (Option.some.inj this).symm hne

theorem not_mem_dropLast_of_getLast? {α} {l : List α} {a : α} (hn : l.Nodup) (h : l.getLast? = some a) :
    a ∉ l.dropLast := by
  obtain ⟨ys, rfl⟩ := List.getLast?_eq_some_iff.1 h
  rw [List.dropLast_concat]
  exact fun hm => (List.nodup_append.1 hn).2.2 a hm a (List.mem_singleton_self a) rfl

theorem nodup_concat {α} {l : List α} {a : α} (hn : l.Nodup) (h : a ∉ l) : (l ++ [a]).Nodup := by
  rw [List.nodup_append]
  exact ⟨hn, by simp, fun x hx y hy e => h (List.mem_singleton.1 hy ▸ e ▸ hx)⟩

theorem valid_mono {p : PC} {n m : Nat} (hv : p.valid n) (h : n ≤ m) : p.valid m := by
  cases p <;> simp only [PC.valid] at hv ⊢ <;> grind

/-- the new code position's queue indices: the old ones, or read from `levels` / `_active_queue`, or the new queue -/
theorem valid_own (h : TInv s) (hs : TStep s t e s') : (s'.pc t).valid s'.queues.length := by
  have hv := h.valid t
  have hl := h.lvValid
  have ha := h.actValid
  cases hs <;> subst_vars <;>
    simp only [*, tstate, PC.valid, List.mem_reverse, List.forall_mem_cons, List.length_append, List.length_cons,
      List.length_nil] at hv ⊢
  case lvIter => exact hl
  case askRelYes => exact hv.1
  case askRelNo => exact hv.2
  case nlWrite => omega
  case clTop hq => exact hl _ (List.mem_of_getLast? hq)
  all_goals exact hv

theorem act_own (h : TInv s) (hs : TStep s 0 e s') : (s'.pc 0).activeOK s'.levels s'.active := by
  have ha := h.act
  have hlv := h.lvValid
  have hnd := h.lvNodup
  cases hs <;> simp only [*, tstate, PC.activeOK] at ha ⊢
  case nlWrite => exact ⟨trivial, fun hm => Nat.lt_irrefl _ (hlv _ hm)⟩
  case clPop q _ _ hq =>
    rcases ha with ha | hnil
    · exact Option.some.inj ha ▸ not_mem_dropLast_of_getLast? hnd hq
    · simp [hnil]
  case nlAppend => exact .inl (by simp [ha.1])
  case clTop => exact ⟨trivial, ha⟩
  case clExit => exact .inr trivial
  case clWrite => exact .inl ha.1
  all_goals exact ha

@[simp] theorem init_pc (src0 : List Nat) (t : Nat) : (initState src0).pc t = .idle := by
  simp [initState, TState.pc]

theorem init_q (src0 : List Nat) (q : Nat) :
    (initState src0).q q = { sources := src0 } ∨ (initState src0).q q = {} := by
  cases q <;> simp [initState, TState.q]

theorem tinv_init (src0 : List Nat) : TInv (initState src0) where
  sub := by simp
  main t := by rw [init_pc]; simp [initState]
  src q := by rcases init_q src0 q with h | h <;> simp [h]
  ord q := by rcases init_q src0 q with h | h <;> simp [h]
  valid := by simp
  lvValid := by simp [initState]
  lvNodup := by simp [initState]
  actValid := by simp [initState]
  act := by rw [init_pc]; simp [initState]

theorem tinv_step (h : TInv s) (hs : TStep s t e s') : TInv s' where
  sub t' ht' := by
    have h1 := h.sub t' ht'
    by_cases hne : t' = t
    · subst hne
      cases hs <;> simp only [*, tstate, PC.isSub] at h1 ⊢ <;> contradiction
    · rwa [pc_other hs hne]
  main := (mainLock_step hs).inv PC.holdsMain hs h.main
  src q := (srcLock_step (h.valid t) hs q).inv (PC.holdsSrc q) hs (h.src q)
  ord q := (ordLock_step (h.valid t) hs q).inv (PC.holdsOrd q) hs (h.ord q)
  valid t' := by
    by_cases hne : t' = t
    · subst hne; exact valid_own h hs
    · rw [pc_other hs hne]; exact valid_mono (h.valid t') (length_step hs)
  lvValid q hq := by
    refine Nat.lt_of_lt_of_le ?_ (length_step hs)
    have hv := h.valid t
    rcases levels_cases hs with ⟨_, hl⟩ | ⟨_, _, ⟨q0, seed, hpc, hl⟩ | ⟨_, hl⟩⟩ <;> rw [hl] at hq
    · exact h.lvValid q hq
    · rcases List.mem_append.1 hq with hq | hq
      · exact h.lvValid q hq
      · rw [hpc] at hv; rw [List.mem_singleton.1 hq]; exact hv
    · exact h.lvValid q (List.dropLast_subset _ hq)
  lvNodup := by
    rcases levels_cases hs with ⟨_, hl⟩ | ⟨_, _, ⟨q0, seed, hpc, hl⟩ | ⟨_, hl⟩⟩ <;> rw [hl]
    · exact h.lvNodup
    · -- the loop thread appends the queue it created, which is `_active_queue` and not a level yet
      have ha := h.act
      rw [← h.eq_zero (t := t) (by rw [hpc]; rfl), hpc] at ha
      exact nodup_concat h.lvNodup ha.2
    · exact h.lvNodup.sublist (List.dropLast_sublist _)
  actValid := by
    have hv := h.valid t
    rcases active_cases hs with ha | ⟨_, _, ha, hn⟩ | ⟨q, hpc, ha⟩ <;> rw [ha]
    · exact Nat.lt_of_lt_of_le h.actValid (length_step hs)
    · omega
    · rw [hpc] at hv; exact Nat.lt_of_lt_of_le hv (length_step hs)
  act := by
    by_cases ht : t = 0
    · subst ht; exact act_own h hs
    · -- a submitter writes neither `_event_queues` nor `_active_queue`
      have hsub := h.sub t ht
      rw [pc_other hs (Ne.symm ht)]
      rcases levels_cases hs with ⟨_, hl⟩ | ⟨_, _, ⟨_, _, hpc, _⟩ | ⟨hpc, _⟩⟩
      · rcases active_cases hs with ha | ⟨seed, hpc, _⟩ | ⟨_, hpc, _⟩
        · rw [hl, ha]; exact h.act
        all_goals rw [hpc] at hsub; cases hsub
      all_goals rw [hpc] at hsub; cases hsub

theorem tinv_reach {src0 : List Nat} {s : TState} (hr : TReach src0 s) : TInv s :=
  treach_induction (P := TInv) (tinv_init src0) (fun _ _ _ _ _ h hs => tinv_step h hs) s hr

end Simpleline.Threads
