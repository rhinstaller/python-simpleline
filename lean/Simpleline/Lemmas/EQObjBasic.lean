/-
  The calls of the whole `EventQueue` object one at a time: what each does to the sources, what it leaves alone,
  and the refinement to the sorted-list queue of the machine model.
-/
import Simpleline.Spec.EQObjSpec
import Simpleline.Lemmas.HeapQueue

namespace Simpleline.EQObj

open Simpleline.Heapq

theorem step_sources (q : HQueue) (o : Op) :
    (step q o).2.sources =
      match o with
      | .addSource x => if q.sources.contains x then q.sources else q.sources ++ [x]
      | .removeSource x => q.sources.filter (· ≠ x)
      | _ => q.sources := by
  cases o with
  | put s => rfl
  | get =>
    simp only [step, HQueue.get]
    cases heappop Heapq.entryLt q.heap <;> rfl
  | getTop p =>
    simp only [step, HQueue.getTopIfPriority]
    cases heappop Heapq.entryLt q.heap with
    | none => rfl
    | some r => by_cases h : r.1.2.2.prio = p <;> simp only [h, if_true, if_false]
  | addSource x =>
    simp only [step, addSource]
    split <;> rfl
  | removeSource x =>
    by_cases h : q.sources.contains x = true
    · simp only [step, removeSource, if_pos h]
    · -- a failed `remove_source` changes nothing, and there is nothing to filter out
      simp only [step, removeSource, if_neg h]
      refine (List.filter_eq_self.2 fun a ha => decide_eq_true ?_).symm
      exact fun e => h (List.contains_iff_mem.2 (e ▸ ha))
  | contains x => rfl
  | putIf s x =>
    simp only [step, putIf]
    split <;> rfl

theorem contains_step (q : HQueue) (o : Op) (y : Src) :
    containsSource (step q o).2 y =
      match o with
      | .addSource x => decide (y = x) || containsSource q y
      | .removeSource x => containsSource q y && !decide (y = x)
      | _ => containsSource q y := by
  unfold containsSource
  rw [step_sources]
  cases o with
  | addSource x =>
    dsimp only
    split <;> simp_all [Bool.or_comm]
  | removeSource x => simp
  | _ => rfl

theorem nodup_step (q : HQueue) (o : Op) (h : q.sources.Nodup) : (step q o).2.sources.Nodup := by
  rw [step_sources]
  cases o with
  | addSource x =>
    dsimp only
    split
    · exact h
    · grind [List.nodup_append]
  | removeSource x => exact h.filter _
  | _ => exact h

theorem put_sources (q : HQueue) (s : Sig) : (q.put s).sources = q.sources := rfl

theorem step_sourceOp_frame (q : HQueue) (o : Op) (h : o.isSourceOp = true) :
    (step q o).2.heap = q.heap ∧ (step q o).2.seq = q.seq := by
  cases o with
  | addSource x =>
    simp only [step, addSource]
    split <;> exact ⟨rfl, rfl⟩
  | removeSource x =>
    by_cases hc : q.sources.contains x = true
    · simp only [step, removeSource, if_pos hc, and_self]
    · simp only [step, removeSource, if_neg hc, and_self]
  | contains x => exact ⟨rfl, rfl⟩
  | _ => cases h

theorem step_putIf (q : HQueue) (s : Sig) (x : Src) :
    step q (.putIf s x) = (.bool (containsSource q x), if containsSource q x then q.put s else q) := by
  simp only [step, putIf]
  split <;> rename_i h <;> simp [h]

theorem step_ofSignalOp (q : HQueue) (o : Heapq.Op) :
    step q (Op.ofSignalOp o) = (Out.ofSignalOut (q.step o).1, (q.step o).2) := by
  cases o with
  | put s => rfl
  | get =>
    simp only [Op.ofSignalOp, step, HQueue.step]
    cases q.get <;> rfl
  | getTop p =>
    simp only [Op.ofSignalOp, step, HQueue.step]
    cases hg : q.getTopIfPriority p with
    | none => rfl
    | some r => obtain ⟨r, q'⟩ := r; cases r <;> rfl

theorem stepE_ofSignalOp (q : EQueue) (o : Heapq.Op) :
    stepE q (Op.ofSignalOp o) = (Out.ofSignalOut (Heapq.stepE q o).1, (Heapq.stepE q o).2) := by
  cases o with
  | put s => rfl
  | get =>
    simp only [Op.ofSignalOp, stepE, Heapq.stepE]
    cases q.entries <;> rfl
  | getTop p =>
    simp only [Op.ofSignalOp, stepE, Heapq.stepE]
    cases q.entries with
    | nil => rfl
    | cons e es => by_cases h : e.2.2.prio = p <;> simp [h, Out.ofSignalOut]

theorem inv_of_heap_seq {q q' : HQueue} (h : Heapq.Inv q) (hh : q'.heap = q.heap) (hs : q'.seq = q.seq) :
    Heapq.Inv q' := by
  unfold Heapq.Inv at h ⊢
  rw [hh, hs]; exact h

theorem abs_sources (q : HQueue) : (abs q).sources = q.sources := rfl

theorem abs_addSource (q : HQueue) (x : Src) : abs (addSource q x) = Simpleline.addSource (abs q) x :=
  apply_ite abs _ _ _

theorem abs_removeSource (q : HQueue) (x : Src) : (removeSource q x).map abs = removeSourceE (abs q) x :=
  apply_ite (Option.map abs) _ _ _

theorem step_refines {q : HQueue} (h : Heapq.Inv q) (o : Op) :
    Heapq.Inv (step q o).2 ∧ (step q o).1 = (stepE (abs q) o).1 ∧ abs (step q o).2 = (stepE (abs q) o).2 := by
  have sig : ∀ o' : Heapq.Op, Heapq.Inv (step q (Op.ofSignalOp o')).2 ∧
      (step q (Op.ofSignalOp o')).1 = (stepE (abs q) (Op.ofSignalOp o')).1 ∧
      abs (step q (Op.ofSignalOp o')).2 = (stepE (abs q) (Op.ofSignalOp o')).2 := by
    intro o'
    obtain ⟨h1, h2, h3⟩ := Heapq.step_refines h o'
    rw [step_ofSignalOp, stepE_ofSignalOp]
    exact ⟨h1, by simp only [h2], h3⟩
  cases o with
  | put s => exact sig (.put s)
  | get => exact sig .get
  | getTop p => exact sig (.getTop p)
  | addSource x =>
    obtain ⟨hh, hs⟩ := step_sourceOp_frame q (.addSource x) rfl
    exact ⟨inv_of_heap_seq h hh hs, rfl, abs_addSource q x⟩
  | removeSource x =>
    obtain ⟨hh, hs⟩ := step_sourceOp_frame q (.removeSource x) rfl
    refine ⟨inv_of_heap_seq h hh hs, ?_⟩
    simp only [step, stepE, ← abs_removeSource]
    cases removeSource q x <;> exact ⟨rfl, rfl⟩
  | contains x => exact ⟨h, rfl, rfl⟩
  | putIf s x =>
    rw [step_putIf]
    simp only [stepE, abs_sources, containsSource]
    by_cases hc : q.sources.contains x = true
    · simp only [hc, if_true]
      exact ⟨(inv_put h s).1, trivial, (inv_put h s).2⟩
    · simp only [hc]
      exact ⟨h, by simp, rfl⟩

theorem run_refines (ops : List Op) : ∀ {q : HQueue}, Heapq.Inv q →
    Heapq.Inv (run q ops).2 ∧ (run q ops).1 = (runE (abs q) ops).1 ∧ abs (run q ops).2 = (runE (abs q) ops).2 := by
  induction ops with
  | nil => intro q h; exact ⟨h, rfl, rfl⟩
  | cons o os ih =>
    intro q h
    obtain ⟨h1, h2, h3⟩ := step_refines h o
    obtain ⟨i1, i2, i3⟩ := ih h1
    simp only [run, runE]
    rw [← h3, ← h2]
    exact ⟨i1, by rw [i2], i3⟩

theorem nodup_run (ops : List Op) : ∀ (q : HQueue), q.sources.Nodup → (run q ops).2.sources.Nodup := by
  induction ops with
  | nil => intro q h; exact h
  | cons o os ih => intro q h; exact ih _ (nodup_step q o h)

end Simpleline.EQObj
