/-
  Which instruction directly follows which (`Shape`): the catcher of `process_input` is followed by the
  counting step and the end marker; the return of `input()` by the classification; the `refresh`
  callback by the identity check of the same entry; the `setup` callback by the test of its result.
-/
import Simpleline.Lemmas.SchedInv

namespace Simpleline

/-- `i.needs j`: if `i` is in the code, the instruction directly after it is `j` of this form -/
def Instr.needs : Instr → Instr → Prop
  | .catchPI scr, j => j = .countAndAct scr
  | .countAndAct _, j => j = .endPI
  | .classify scr, j => j = .catchPI scr
  | .scrRet scr .input _ _, j => j = .classify scr
  | .callScr scr .input _ _, j => j = .classify scr
  | .scrRet scr .refresh _ _, j => ∃ top, j = .identCheck top ∧ top.screen = scr
  | .callScr scr .refresh a _, j => ∃ top, j = .identCheck top ∧ top.screen = scr ∧ a = top.args
  | .identCheck _, j => j = .catchPS
  | .scrRet scr .setup _ _, j => ∃ top, j = .afterSetup top ∧ top.screen = scr
  | .callScr scr .setup a _, j => ∃ top, j = .afterSetup top ∧ top.screen = scr ∧ a = top.args
  | _, _ => True

/-- instructions that are never the last one of the code -/
def Instr.bound : Instr → Bool
  | .catchPI _ | .countAndAct _ | .classify _ | .scrRet _ .input _ _ | .callScr _ .input _ _
  | .scrRet _ .refresh _ _ | .callScr _ .refresh _ _ | .identCheck _ | .scrRet _ .setup _ _
  | .callScr _ .setup _ _ => true
  | _ => false

def Shape : List Instr → Prop
  | [] => True
  | [i] => i.bound = false
  | i :: j :: rest => i.needs j ∧ Shape (j :: rest)

theorem needs_of_not_bound {i : Instr} (h : i.bound = false) (j : Instr) : i.needs j := by
  cases i
  case callScr _ cb _ _ => cases cb <;> first | trivial | cases h
  case scrRet _ cb _ _ => cases cb <;> first | trivial | cases h
  all_goals first | trivial | cases h

theorem Shape.tail {i : Instr} {l : List Instr} (h : Shape (i :: l)) : Shape l := by
  cases l with
  | nil => trivial
  | cons j r => exact h.2

theorem Shape.suffix {a b : List Instr} (h : Shape b) (hs : a <:+ b) : Shape a := by
  obtain ⟨t, rfl⟩ := hs
  induction t with
  | nil => exact h
  | cons i t ih => exact ih h.tail

theorem Shape.cons_neutral {i : Instr} {l : List Instr} (hi : i.bound = false) (h : Shape l) : Shape (i :: l) := by
  cases l with
  | nil => exact hi
  | cons j r => exact ⟨needs_of_not_bound hi j, h⟩

theorem Shape.append_neutral {a l : List Instr} (ha : ∀ i ∈ a, i.bound = false) (h : Shape l) : Shape (a ++ l) := by
  induction a with
  | nil => exact h
  | cons i a ih =>
    exact .cons_neutral (ha i List.mem_cons_self) (ih fun j hj => ha j (List.mem_cons_of_mem _ hj))

theorem Shape.head_needs {i j : Instr} {l : List Instr} (h : Shape (i :: j :: l)) : i.needs j := h.1

theorem Shape.bound_next {i : Instr} {l : List Instr} (h : Shape (i :: l)) (hb : i.bound = true) :
    ∃ j r, l = j :: r ∧ i.needs j := by
  cases l with
  | nil => simp [Shape, hb] at h
  | cons j r => exact ⟨j, r, rfl, h.1⟩

theorem external_not_bound {i : Instr} (h : i.external = true) : i.bound = false := by
  cases i <;> first | rfl | cases h

/-- for a list written out, `h` holds by `rfl` -/
theorem Shape.append_all {a l : List Instr} (h : (a.all fun i => !i.bound) = true) (hs : Shape l) : Shape (a ++ l) :=
  .append_neutral (fun i hi => by simpa using List.all_eq_true.1 h i hi) hs

theorem PushedBy.shape {P : Prog} {c : Cfg} {ins : Instr} {pushed : List Instr} (h : PushedBy P c ins pushed)
    (hns : ∀ s cb a k, ins ≠ .callScr s cb a k) {suf : List Instr} (hs : Shape suf) : Shape (pushed ++ suf) := by
  cases h
  case external h => exact .append_neutral (fun i hi => external_not_bound (h i hi)) hs
  case callScr => exact absurd rfl (hns _ _ _ _)
  case setup => exact ⟨⟨_, rfl, rfl, rfl⟩, .cons_neutral rfl hs⟩
  case refresh => exact ⟨⟨_, rfl, rfl, rfl⟩, rfl, .cons_neutral rfl hs⟩
  case processInput => exact ⟨rfl, rfl, rfl, rfl, .cons_neutral rfl hs⟩
  all_goals exact .append_all rfl hs

theorem step_callScr (P : Prog) (c : Cfg) (scr : Nat) (cb : Cb) (a : Option Nat) (k : Option Str) (rest : List Instr)
    (hc : c.code = .callScr scr cb a k :: rest) :
    (sOutCfg (step P c)).code =
      (if cb = .show then [.printWidget scr] else []) ++
        (P.screenScript scr cb (countOf (c.A.scr scr).counts cb)).acts.map .act ++
        [.scrRet scr cb (P.screenScript scr cb (countOf (c.A.scr scr).counts cb)).ret k] ++ rest := by
  simp [step, hc]

theorem Shape_init {c0 : Cfg} (h : Started c0) : Shape c0.code := by
  obtain ⟨init, handlers, quitCb, stdin, rfl⟩ := h
  simp only [initCfg]
  apply Shape.append_neutral
  · intro i hi
    simp at hi
    obtain ⟨a, _, rfl⟩ := hi
    rfl
  · rfl

theorem Shape_step {P : Prog} {c : Cfg} (h : Shape c.code) : Shape (sOutCfg (step P c)).code := by
  rcases hc : c.code with _ | ⟨ins, rest⟩
  · rw [Machine.step_nil hc, sOutCfg_error, hc]; trivial
  · rw [hc] at h
    by_cases hcs : ∃ s cb a k, ins = .callScr s cb a k
    · obtain ⟨s, cb, a, k, rfl⟩ := hcs
      rw [step_callScr P c s cb a k rest hc]
      simp only [List.append_assoc]
      apply Shape.append_neutral
      · intro i hi; split at hi <;> simp at hi; subst hi; rfl
      apply Shape.append_neutral
      · intro i hi
        simp at hi
        obtain ⟨a, _, rfl⟩ := hi
        rfl
      simp only [List.singleton_append]
      -- the return stands where the invocation stood, and `needs` prescribes it the same follower
      cases cb
      case setup =>
        obtain ⟨j, r, rfl, top, rfl, h1, _⟩ := h.bound_next rfl
        exact ⟨⟨top, rfl, h1⟩, h.tail⟩
      case refresh =>
        obtain ⟨j, r, rfl, top, rfl, h1, _⟩ := h.bound_next rfl
        exact ⟨⟨top, rfl, h1⟩, h.tail⟩
      case input =>
        obtain ⟨j, r, rfl, rfl⟩ := h.bound_next rfl
        exact ⟨rfl, h.tail⟩
      all_goals exact Shape.cons_neutral rfl h.tail
    · obtain ⟨pushed, ⟨suf, hcd, hsuf⟩, hp⟩ := (step_eff P c ins rest hc).code
      rw [hcd]
      exact hp.shape (fun s cb a k he => hcs ⟨s, cb, a, k, he⟩) (h.tail.suffix hsuf)

theorem Reach.shape {P : Prog} {c0 c : Cfg} (h0 : Started c0) (h : Reach P c0 c) : Shape c.code :=
  h.induct (I := fun c => Shape c.code) (Shape_init h0) (fun _ _ => Shape_step) (fun _ _ h => by simpa using h)

theorem Shape.at {pre post : List Instr} {i : Instr} (h : Shape (pre ++ i :: post)) (hb : i.bound = true) :
    ∃ j r, post = j :: r ∧ i.needs j :=
  (h.suffix (List.suffix_append _ _)).bound_next hb

theorem Shape.catchPI_follow {pre post : List Instr} {scr : Nat} (h : Shape (pre ++ .catchPI scr :: post)) :
    ∃ rest, post = .countAndAct scr :: .endPI :: rest := by
  obtain ⟨j, r, rfl, hj⟩ := h.at (i := .catchPI scr) rfl
  simp only [Instr.needs] at hj
  subst hj
  have h' : Shape ((pre ++ [.catchPI scr]) ++ .countAndAct scr :: r) := by simpa using h
  obtain ⟨j, r', rfl, hj⟩ := h'.at (i := .countAndAct scr) rfl
  simp only [Instr.needs] at hj
  subst hj
  exact ⟨r', rfl⟩

end Simpleline
