/-
  Heaps: the order assumptions, the heap property, "the root is a minimum".
-/
import Simpleline.Model.Heapq

namespace Simpleline.Heapq

variable {α : Type}

theorem parent_lt_self {i : Nat} (h : 0 < i) : (i - 1) / 2 < i := by omega

theorem parent_lt {i n : Nat} (h : i < n) : (i - 1) / 2 < n :=
  Nat.lt_of_le_of_lt (Nat.le_trans (Nat.div_le_self _ _) (Nat.sub_le _ _)) h

/-- what `heapq` needs from `<`: a strict weak order (`a ≤ b` is read as `¬ b < a`) -/
structure StrictOrd (lt : α → α → Bool) : Prop where
  asymm : ∀ a b, lt a b = true → lt b a = false
  le_trans : ∀ a b c, lt b a = false → lt c b = false → lt c a = false

theorem StrictOrd.irrefl {lt : α → α → Bool} (so : StrictOrd lt) (a : α) : lt a a = false := by
  cases h : lt a a
  · rfl
  · have := so.asymm a a h; simp_all

theorem StrictOrd.lt_le {lt : α → α → Bool} (so : StrictOrd lt) (x y z : α)
    (h1 : lt x y = true) (h2 : lt z y = false) : lt z x = false :=
  so.le_trans x y z (so.asymm x y h1) h2

theorem IsHeap.root_le {lt : α → α → Bool} (so : StrictOrd lt) {a : Array α} (H : IsHeap lt a) :
    ∀ i (h : i < a.size), lt a[i] (a[0]'(by omega)) = false := by
  intro i
  induction i using Nat.strongRecOn with
  | _ i ih =>
    intro h
    by_cases hi : i = 0
    · subst hi; exact so.irrefl _
    · have hi0 : 0 < i := Nat.pos_of_ne_zero hi
      exact so.le_trans _ _ _ (ih ((i - 1) / 2) (parent_lt_self hi0) (parent_lt h)) (H i h hi0)

theorem isHeap_empty (lt : α → α → Bool) : IsHeap lt (#[] : Array α) := by
  intro i h; simp at h

theorem IsHeap.pop {lt : α → α → Bool} {a : Array α} (H : IsHeap lt a) : IsHeap lt a.pop := by
  intro i h hi
  simp only [Array.size_pop] at h
  simpa using H i (by omega) hi

end Simpleline.Heapq
