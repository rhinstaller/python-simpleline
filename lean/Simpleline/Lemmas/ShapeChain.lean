/-
  The bracket structure of the pending code: a local (adjacent-pairs) invariant `Chained` that every
  reachable configuration satisfies (`reach_chained`).  With it an ordinary exception never unwinds a
  `_mainloop` activation and an `ExitMainLoop` leaves at most the quit callback (`ShapeExc`).  The file ends with the
  inductions over `Reach` on the shape view that the later files use (`reach_sv_induction`).
-/
import Simpleline.Lemmas.ShapeStepProof

namespace Simpleline

/-- Follow classes: every instruction has one (`Instr.fclass`), and the class says which instructions may
stand directly behind it in the pending code (`FClass.allows`). -/
inductive FClass where
  | none      -- nothing: `apprun`, `quitCb` are last
  | quit      -- `quitCb` (behind `catchExit`)
  | body      -- a body instruction, the `catchHandler` closing the body, or the pending `apprun`
  | bodyM     -- like `body`, or `modalRet` (behind the `newLoop` of `push_screen_modal`)
  | mainK     -- the continuation of `execute_new_loop` / `run`: like `bodyM`, or `catchExit`
  | main      -- `mainCheck` (behind `loopCheck`)
  | loop      -- `loopCheck` (behind `getDispatch`)
  | disp      -- `loopCheck`, or a body instruction (`process_signals` called from a body)
  | handler   -- `dispatch` (behind `catchHandler`)
  | caa       -- `countAndAct` (behind `catchPI`)
  | endpi     -- `endPI` (behind `countAndAct`)
  | cps       -- `catchPS` (behind `identCheck`)
  deriving DecidableEq

/-- `newLoop` (and `drawScreen`, `afterSetup2`, `processScreen`) is only ever the head of the code;
`modalRet` stands only behind `newLoop`, the marker of the level that `newLoop` opened, or the
`restoreRun` that marker leaves -/
def Instr.isHeadOnly : Instr → Bool
  | .newLoop _ | .drawScreen _ | .afterSetup2 _ | .processScreen => true
  | _ => false

def Instr.isModalRet : Instr → Bool
  | .modalRet _ => true
  | _ => false

def Instr.fclass : Instr → FClass
  | .apprun | .quitCb => .none
  | .newLoop _ => .bodyM
  | .catchExit => .quit
  | .mainCheck _ | .restoreRun => .mainK
  | .loopCheck => .main
  | .getDispatch => .loop
  | .processSignal _ | .dispatch .. | .kill _ => .disp
  | .catchHandler => .handler
  | .catchPI _ => .caa
  | .countAndAct _ => .endpi
  | .identCheck _ => .cps
  | _ => .body

def FClass.allows : FClass → Instr → Bool
  | .none, _ => false
  | .quit, i => match i with | .quitCb => true | _ => false
  | .body, i => (!i.isLC && !i.isHeadOnly && !i.isModalRet) || (match i with | .catchHandler | .apprun => true | _ => false)
  | .bodyM, i => (!i.isLC && !i.isHeadOnly) || (match i with | .catchHandler | .apprun => true | _ => false)
  | .mainK, i => (!i.isLC && !i.isHeadOnly) || (match i with | .catchHandler | .apprun | .catchExit => true | _ => false)
  | .main, i => match i with | .mainCheck _ => true | _ => false
  | .loop, i => match i with | .loopCheck => true | _ => false
  | .disp, i => (!i.isLC && !i.isHeadOnly && !i.isModalRet) || (match i with | .loopCheck => true | _ => false)
  | .handler, i => match i with | .dispatch .. => true | _ => false
  | .caa, i => match i with | .countAndAct _ => true | _ => false
  | .endpi, i => match i with | .endPI => true | _ => false
  | .cps, i => match i with | .catchPS => true | _ => false

def FClass.le : FClass → FClass → Bool
  | .none, _ => true
  | .quit, .quit => true
  | .body, .body | .body, .mainK | .body, .bodyM => true
  | .bodyM, .bodyM | .bodyM, .mainK => true
  | .mainK, .mainK => true
  | .main, .main => true
  | .loop, .loop | .loop, .disp => true
  | .disp, .disp => true
  | .handler, .handler => true
  | .caa, .caa | .caa, .body | .caa, .bodyM | .caa, .mainK | .caa, .disp => true
  | .endpi, .endpi | .endpi, .body | .endpi, .bodyM | .endpi, .mainK | .endpi, .disp => true
  | .cps, .cps | .cps, .body | .cps, .bodyM | .cps, .mainK | .cps, .disp => true
  | _, _ => false

def followsC (cl : FClass) : List Instr → Prop
  | [] => True
  | b :: _ => cl.allows b = true

/-- Each instruction is the last one or is followed by one that its follow class allows: what is left of
Python's nesting of calls and `try` blocks once the call stack is flattened into one list. -/
def Chained : List Instr → Prop
  | [] => True
  | a :: l => followsC a.fclass l ∧ Chained l

/-- the instructions a script is turned into: its actions and the bookkeeping around them -/
def Instr.scripted : Instr → Bool
  | .act _ | .hret _ | .printWidget _ | .scrRet .. | .printLines _ | .blockingInput .. => true
  | _ => false

/-- the instructions that put a script in their place: a handler's, a screen callback's, the lines of a widget -/
def Instr.runsScript : Instr → Bool
  | .callH (.user _) _ _ | .callScr .. | .printWidget _ => true
  | _ => false

namespace Shape

theorem allows_loop {x : Instr} (hx : FClass.loop.allows x = true) : x = .loopCheck := by
  simp only [FClass.allows] at hx
  split at hx <;> first | rfl | cases hx

theorem allows_caa {x : Instr} (hx : FClass.caa.allows x = true) : ∃ scr, x = .countAndAct scr := by
  simp only [FClass.allows] at hx
  split at hx <;> first | exact ⟨_, rfl⟩ | cases hx

theorem allows_endpi {x : Instr} (hx : FClass.endpi.allows x = true) : x = .endPI := by
  simp only [FClass.allows] at hx
  split at hx <;> first | rfl | cases hx

theorem allows_cps {x : Instr} (hx : FClass.cps.allows x = true) : x = .catchPS := by
  simp only [FClass.allows] at hx
  split at hx <;> first | rfl | cases hx

theorem body_allows_bodyM {x : Instr} (hx : FClass.body.allows x = true) : FClass.bodyM.allows x = true := by
  simp only [FClass.allows, Bool.or_eq_true, Bool.and_eq_true] at hx ⊢
  exact hx.imp_left fun h => h.1

theorem bodyM_allows_mainK {x : Instr} (hx : FClass.bodyM.allows x = true) : FClass.mainK.allows x = true := by
  simp only [FClass.allows, Bool.or_eq_true] at hx ⊢
  refine hx.imp_right fun h => ?_
  split at h <;> first | rfl | cases h

theorem FClass.le_allows {c d : FClass} (h : c.le d = true) (x : Instr) (hx : c.allows x = true) :
    d.allows x = true := by
  cases c
  case none => cases hx
  case loop => cases allows_loop hx; cases d <;> first | contradiction | rfl
  case caa => obtain ⟨scr, rfl⟩ := allows_caa hx; cases d <;> first | contradiction | rfl
  case endpi => cases allows_endpi hx; cases d <;> first | contradiction | rfl
  case cps => cases allows_cps hx; cases d <;> first | contradiction | rfl
  case body =>
    cases d <;> first | contradiction | exact hx | exact body_allows_bodyM hx | exact bodyM_allows_mainK (body_allows_bodyM hx)
  case bodyM => cases d <;> first | contradiction | exact hx | exact bodyM_allows_mainK hx
  case quit | mainK | main | disp | handler => cases d <;> first | contradiction | exact hx

theorem followsC_mono {c d : FClass} (h : c.le d = true) {l : List Instr} (hf : followsC c l) : followsC d l := by
  cases l with
  | nil => trivial
  | cons b l => exact FClass.le_allows h b hf

theorem _root_.Simpleline.Chained.tail {a : Instr} {l : List Instr} (h : Chained (a :: l)) : Chained l := h.2

theorem chained_apprun {rest : List Instr} (hc : Chained (.apprun :: rest)) : rest = [] := by
  cases rest with
  | nil => rfl
  | cons x r => cases hc.1

theorem not_allows_headOnly (cl : FClass) {x : Instr} (hx : x.isHeadOnly = true) : cl.allows x = false := by
  cases x <;> first | contradiction | (cases cl <;> rfl)

theorem headOnly_not_tail {h x : Instr} {l : List Instr} (hc : Chained (h :: l)) (hx : x.isHeadOnly = true) : x ∉ l := by
  induction l generalizing h with
  | nil => exact List.not_mem_nil
  | cons y l ih =>
    intro hm
    rcases List.mem_cons.1 hm with rfl | hm
    · have : h.fclass.allows x = true := hc.1
      rw [not_allows_headOnly _ hx] at this; cases this
    · exact ih hc.2 hm

theorem _root_.Simpleline.Chained.drop {l : List Instr} (h : Chained l) (n : Nat) : Chained (l.drop n) := by
  induction n generalizing l with
  | zero => simpa using h
  | succ n ih =>
    cases l with
    | nil => trivial
    | cons a l => exact ih h.2

theorem _root_.Simpleline.Chained.of_append {l r : List Instr} (h : Chained (l ++ r)) : Chained r := by
  induction l with
  | nil => exact h
  | cons a l ih => exact ih h.2

theorem _root_.Simpleline.Chained.dropWhile {l : List Instr} (h : Chained l) (p : Instr → Bool) : Chained (l.dropWhile p) := by
  induction l with
  | nil => trivial
  | cons a l ih =>
    rw [List.dropWhile_cons]; split
    · exact ih h.2
    · exact h

theorem chained_batch {h : Instr} {B rest : List Instr} (hB : Chained B)
    (hl : ∀ b, B.getLast? = some b → h.fclass.le b.fclass = true) (hc : Chained (h :: rest)) :
    Chained (B ++ rest) := by
  induction B with
  | nil => exact hc.2
  | cons a B ih =>
    cases B with
    | nil =>
      refine ⟨?_, hc.2⟩
      exact followsC_mono (hl a rfl) hc.1
    | cons b B =>
      refine ⟨hB.1, ?_⟩
      apply ih hB.2
      intro x hx
      apply hl
      simpa [List.getLast?_cons_cons] using hx

theorem scripted_fclass {i : Instr} (h : i.scripted = true) : i.fclass = .body := by
  cases i <;> first | rfl | contradiction

theorem chained_scripted {l : List Instr} (h : ∀ i ∈ l, i.scripted = true) : Chained l := by
  induction l with
  | nil => trivial
  | cons a l ih =>
    refine ⟨?_, ih fun i hi => h i (List.mem_cons_of_mem _ hi)⟩
    cases l with
    | nil => trivial
    | cons b l =>
      have hb := h b (List.mem_cons_of_mem _ (List.mem_cons_self ..))
      rw [scripted_fclass (h a (List.mem_cons_self ..))]
      cases b <;> first | rfl | contradiction

theorem chained_append {l r : List Instr} (hl : Chained l) (hr : Chained r)
    (hlast : ∀ a, l.getLast? = some a → followsC a.fclass r) : Chained (l ++ r) := by
  induction l with
  | nil => exact hr
  | cons a l ih =>
    cases l with
    | nil => exact ⟨hlast a rfl, hr⟩
    | cons b l =>
      refine ⟨hl.1, ih hl.2 ?_⟩
      intro x hx
      apply hlast
      simpa [List.getLast?_cons_cons] using hx

theorem reach_trans {P : Prog} {c0 c c' : Cfg} (h : Reach P c0 c) (t : Trans P c c') : Reach P c0 c' :=
  Simpleline.reach_trans h t

theorem reach_induction_trans {P : Prog} {c1 c2 : Cfg} {motive : Cfg → Prop} (h0 : motive c1)
    (hs : ∀ ca cb, Reach P c1 ca → Trans P ca cb → motive ca → motive cb) (hr : Reach P c1 c2) : motive c2 :=
  reach_induction h0 (fun ca cb hr ih ht => hs ca cb hr ht ih) hr

theorem reach_reach {P : Prog} {c0 c1 c2 : Cfg} (h1 : Reach P c0 c1) (h2 : Reach P c1 c2) : Reach P c0 c2 :=
  Simpleline.reach_reach h1 h2

theorem reach_sv_induction {P : Prog} {c0 c : Cfg} (I : SV → Prop) (h0 : I c0.sv)
    (hs : ∀ v evs v', I v → SStepE P v evs v' → I v') (h : Reach P c0 c) : I c.sv :=
  reach_induction_trans (motive := fun c => I c.sv) h0
    (fun _ _ _ ht ih => (trans_sstep ht).elim fun _ h1 => hs _ _ _ ih h1.1) h

theorem trans_grow {P : Prog} {c c' : Cfg} (ht : Trans P c c') : Grow c c' := (trans_sstep ht).choose_spec.2.2

theorem reach_grow {P : Prog} {c0 c : Cfg} (h : Reach P c0 c) : Grow c0 c :=
  reach_induction_trans (Grow.refl _) (fun _ _ _ ht ih => ih.trans (trans_grow ht)) h

theorem batch_scripted {P : Prog} {v : SV} {h : Instr} {B : List Instr} {evs : List Tr} (hb : Batch P v h B evs)
    (hh : h.runsScript = true) : evs = [] ∧ ∀ i ∈ B, i.scripted = true := by
  cases hb <;> first | contradiction | refine ⟨rfl, fun i hi => ?_⟩
  case passive => cases hi
  case callUser hid d s n =>
    rcases List.mem_append.1 hi with hi | hi
    · obtain ⟨a, _, rfl⟩ := List.mem_map.1 hi; rfl
    · rw [List.mem_singleton.1 hi]; rfl
  case callScr scr cb arg key n =>
    simp only [List.mem_append, List.mem_map, List.mem_singleton] at hi
    rcases hi with (hi | ⟨a, _, rfl⟩) | rfl
    · split at hi
      · rw [List.mem_singleton.1 hi]; rfl
      · cases hi
    · rfl
    · rfl
  case printWidget scr hB => rcases hB i hi with ⟨ls, rfl⟩ | rfl <;> rfl

theorem batch_chained {P : Prog} {v : SV} {h : Instr} {B : List Instr} {evs : List Tr} (hb : Batch P v h B evs) :
    Chained B ∧ ∀ b, B.getLast? = some b → h.fclass.le b.fclass = true := by
  have hsc := fun hh => (batch_scripted hb hh).2
  cases hb
  case callUser | callScr | printWidget =>
    exact ⟨chained_scripted (hsc rfl), fun b hb => by rw [scripted_fclass (hsc rfl b (List.mem_of_getLast? hb))]; rfl⟩
  case passive hp => exact ⟨trivial, fun b hb => nomatch hb⟩
  all_goals
    refine ⟨by repeat' constructor, ?_⟩
    intro b hb
    simp only [List.getLast?_cons_cons, List.getLast?_singleton, Option.some.injEq, List.getLast?_nil,
      reduceCtorEq] at hb
    try subst hb
    try rfl

theorem chained_unwindTo (k : Kind) {l : List Instr} (h : Chained l) : Chained ((unwindTo k l).getD []) := by
  induction l with
  | nil => trivial
  | cons a l ih =>
    rw [unwindTo_cons]
    split
    · unfold resumeAt
      split
      · exact (h.2.dropWhile _).drop 1
      · exact h.2
    · exact ih h.2

theorem sstep_chained {P : Prog} {v v' : SV} {evs : List Tr} (hc : Chained v.code) (hs : SStepE P v evs v') :
    Chained v'.code := by
  -- a written-out batch whose last instruction has the class of the head it replaces
  have push : ∀ {h : Instr} {rest : List Instr} (B : List Instr), v.code = h :: rest → Chained B →
      (∀ b, B.getLast? = some b → h.fclass.le b.fclass = true) → Chained (B ++ rest) :=
    fun B hcode hB hl => chained_batch hB hl (hcode ▸ hc)
  cases hs with
  | stutter => exact hc
  | batch hcode hb => exact push _ hcode (batch_chained hb).1 (batch_chained hb).2
  | kill _ => trivial
  | raise hcode _ | popExit hcode _ _ => exact chained_unwindTo _ (hcode ▸ hc).2
  | halt hcode _ | forceQuit hcode | schedule hcode | enqAct hcode | pushScr hcode | replace hcode _ | restore hcode _
  | pop hcode _ _ => exact (hcode ▸ hc).2
  | apprun hcode => exact push [_, _, _] hcode (by repeat' constructor) (by rintro b ⟨⟩; rfl)
  | «open» hcode _ => exact push [_] hcode (by repeat' constructor) (by rintro b ⟨⟩; rfl)
  | pushModal hcode | closeScreen hcode _ => exact push [_, _] hcode (by repeat' constructor) (by rintro b ⟨⟩; rfl)
  | discard hcode _ =>
    show Chained ((if _ then _ else _) ++ _)
    split
    · exact push [_, _] hcode (by repeat' constructor) (by rintro b ⟨⟩; rfl)
    · exact (hcode ▸ hc).2
  | identSkip hcode _ _ => exact (hcode ▸ hc).2.dropWhile _

theorem chained_init (init : List Act) : Chained (init.map .act ++ [.apprun]) := by
  apply chained_append
  · apply chained_scripted
    intro i hi
    simp only [List.mem_map] at hi
    obtain ⟨a, _, rfl⟩ := hi
    rfl
  · exact ⟨trivial, trivial⟩
  · intro a ha
    obtain ⟨x, _, rfl⟩ := List.mem_map.1 (List.mem_of_getLast? ha)
    rfl

theorem reach_chained {P : Prog} {c0 c : Cfg} (h0 : Started c0) (h : Reach P c0 c) : Chained c.code := by
  obtain ⟨init, handlers, quitCb, stdin, rfl⟩ := h0
  exact reach_sv_induction (fun v => Chained v.code)
    (show Chained (initCfg init handlers quitCb stdin).sv.code from chained_init init) (fun _ _ _ => sstep_chained) h

end Shape

end Simpleline
