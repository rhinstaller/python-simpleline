/-
  GLib machine: invariants over `Reach` derived from `step_facts` — handler calls are registered (C20b.2), what goes on
  after force-quit (C20b.1), batches (C20b.3).
-/
import Simpleline.Lemmas.GMStepAll
import Simpleline.Lemmas.GLoopMin

namespace Simpleline.G

theorem newTr_eq {c c' : Cfg} {new : List Tr} (h : c'.tr = new ++ c.tr) : newTr c c' = new := by
  simp [newTr, h]

theorem reach_inv {P : Prog} {c0 c : Cfg} {I : Cfg → Prop} (h0 : I c0)
    (hstep : ∀ c c', I c → StepFacts c c' → I c')
    (hdel : ∀ c c', I c → c'.code = c.code → Keep c c' → I c') (hr : Reach P c0 c) : I c := by
  induction hr with
  | init => exact h0
  | @step c1 c2 _ hs ih => have := step_facts P c1; rw [hs] at this; exact hstep _ _ ih this
  | deliver _ hd ih => exact hdel _ _ ih (deliver_code hd) (deliver_keep hd)
  | @halt c1 c2 o _ hs ih => have := step_facts P c1; rw [hs] at this; exact hstep _ _ ih this

theorem reach_trans {P : Prog} {c0 c c' : Cfg} (hr : Reach P c0 c) (ht : Trans P c c') : Reach P c0 c' := by
  cases ht with
  | step hs => exact .step hr hs
  | deliver hd => exact .deliver hr hd
  | halt hs => exact .halt hr hs

theorem reach_steps {P : Prog} {c0 c c' : Cfg} (hr : Reach P c0 c) (hs : Steps P c c') : Reach P c0 c' := by
  induction hs with
  | refl => exact hr
  | tail _ ht ih => exact reach_trans ih ht

theorem trans_cases {P : Prog} {c c' : Cfg} (ht : Trans P c c') : StepFacts c c' ∨ (c'.code = c.code ∧ Keep c c') := by
  cases ht with
  | step hs => left; have := step_facts P c; rw [hs] at this; exact this
  | deliver hd => right; exact ⟨deliver_code hd, deliver_keep hd⟩
  | halt hs => left; have := step_facts P c; rw [hs] at this; exact this

theorem trans_pushed {P : Prog} {c c' : Cfg} (ht : Trans P c c') {i : Instr} (hm : i ∈ c'.code) (hn : i ∉ c.code)
    (hb : i.boring = false) : PushedOK c c' i := by
  rcases trans_cases ht with sf | ⟨hc, _⟩
  · exact (sf.code i hm hb).resolve_left fun h => hn (List.mem_of_mem_tail h)
  · exact absurd (hc ▸ hm) hn

theorem trans_handlers {P : Prog} {c c' : Cfg} (ht : Trans P c c') : c.L.handlers <+: c'.L.handlers :=
  (trans_cases ht).elim (·.handlers) (·.2.handlers)

theorem trans_loud {P : Prog} {c c' : Cfg} (ht : Trans P c c') (t : Tr) (hm : t ∈ newTr c c') (hl : t.quiet = false) : LoudOK c t := by
  rcases trans_cases ht with h | h
  · obtain ⟨new, e, hq⟩ := h.tr
    rw [newTr_eq e] at hm
    exact hq t hm hl
  · obtain ⟨new, e, hq⟩ := h.2.tr
    rw [newTr_eq e] at hm
    rw [hq t hm] at hl; cases hl

theorem trans_tr_grows {P : Prog} {c c' : Cfg} (ht : Trans P c c') : ∃ new, c'.tr = new ++ c.tr := by
  rcases trans_cases ht with h | h
  · obtain ⟨new, e, _⟩ := h.tr; exact ⟨new, e⟩
  · obtain ⟨new, e, _⟩ := h.2.tr; exact ⟨new, e⟩

def RegInv (c : Cfg) : Prop := ∀ h d s, Instr.callH h d s ∈ c.code → (s.cls, h, d) ∈ c.L.handlers

theorem regInv_init (init : List Act) (hs : List (Cls × HRef × Option Nat)) (q : Option Nat) (stdin : List Str) :
    RegInv (initCfg init hs q stdin) := by
  intro h d s hm
  simp [initCfg] at hm

theorem regInv_reach {P : Prog} {c0 c : Cfg} (h0 : Started c0) (hr : Reach P c0 c) : RegInv c := by
  obtain ⟨init, hs, q, stdin, rfl⟩ := h0
  refine reach_inv (regInv_init init hs q stdin) ?_ ?_ hr
  · intro c c' ih sf h d s hm
    rcases sf.code _ hm rfl with h1 | h1
    · exact sf.handlers.subset (ih h d s (List.mem_of_mem_tail h1))
    · exact sf.handlers.subset h1.2.1
  · intro c c' ih hc hk h d s hm
    rw [hc] at hm
    exact hk.handlers.subset (ih h d s hm)

theorem head_mem {c : Cfg} {i : Instr} (h : c.code.head? = some i) : i ∈ c.code := by
  cases hc : c.code with
  | nil => simp [hc] at h
  | cons a l => simp [hc] at h; simp [h]

theorem afterStart_fq_trans {P : Prog} {c c' : Cfg} (hA : AfterStart c) (hf : c.L.forceQuit = true) (ht : Trans P c c') :
    AfterStart c' ∧ c'.L.forceQuit = true := by
  rcases trans_cases ht with sf | ⟨hc, hk⟩
  · refine ⟨fun hm => ?_, sf.fq hf fun hh => hA (head_mem hh)⟩
    rcases sf.code _ hm rfl with h1 | h1
    · exact hA (List.mem_of_mem_tail h1)
    · exact h1
  · exact ⟨by unfold AfterStart; rw [hc]; exact hA, by rw [hk.fq]; exact hf⟩

theorem afterStart_fq_steps {P : Prog} {c c' : Cfg} (hA : AfterStart c) (hf : c.L.forceQuit = true) (hs : Steps P c c') :
    AfterStart c' ∧ c'.L.forceQuit = true := by
  induction hs with
  | refl => exact ⟨hA, hf⟩
  | tail _ ht ih => exact afterStart_fq_trans ih.1 ih.2 ht

/-- a handler-call instruction is pending only as the very next instruction (it was pushed by the handler loop one step
ago), nowhere deeper in the code, and only while force-quit is not set -/
def CallInv (c : Cfg) : Prop :=
  ∀ h d s, Instr.callH h d s ∈ c.code →
    c.code.head? = some (.callH h d s) ∧ Instr.callH h d s ∉ c.code.tail ∧ c.L.forceQuit = false

theorem callInv_reach {P : Prog} {c0 c : Cfg} (h0 : Started c0) (hr : Reach P c0 c) : CallInv c := by
  obtain ⟨init, hs, q, stdin, rfl⟩ := h0
  refine reach_inv (by intro h d s hm; simp [initCfg] at hm) ?_ ?_ hr
  · intro c c' ih sf h d s hm
    rcases sf.code _ hm rfl with h1 | h1
    · exact absurd h1 (ih h d s (List.mem_of_mem_tail h1)).2.1
    · obtain ⟨⟨k, hk, _, hcode⟩, _, hf⟩ := h1
      refine ⟨by simp [hcode], ?_, ?_⟩
      · rw [hcode]
        intro hm'
        simp only [List.tail_cons, List.mem_cons] at hm'
        rcases hm' with hm' | hm'
        · cases hm'
        · exact (ih h d s (List.mem_of_mem_tail hm')).2.1 hm'
      · cases hq : c'.L.forceQuit with
        | false => rfl
        | true => have := sf.fqSet hf hq; rw [hk] at this; cases this
  · intro c c' ih hc hk h d s hm
    rw [hc] at hm ⊢
    obtain ⟨h1, h2, h3⟩ := ih h d s hm
    exact ⟨h1, h2, by rw [hk.fq]; exact h3⟩

/-- a pending dispatch belongs to a batch the trace records, and every batch recorded is all the ready sources
(`in_call` not set) of the most urgent priority among them -/
def BatchInv (c : Cfg) : Prop :=
  (∀ q e g, Instr.gDisp q e g ∈ c.code → ∃ p att batch, Tr.iter q e p att batch ∈ c.tr ∧ g ∈ batch) ∧
  (∀ q e p att batch, Tr.iter q e p att batch ∈ c.tr →
    minPrio (att.filter fun g => !g.inCall) = some p ∧ batch = (att.filter fun g => !g.inCall).filter fun g => g.sig.prio = p)

theorem batchInv_reach {P : Prog} {c0 c : Cfg} (h0 : Started c0) (hr : Reach P c0 c) : BatchInv c := by
  obtain ⟨init, hs, q, stdin, rfl⟩ := h0
  refine reach_inv ⟨by intro q e g hm; simp [initCfg] at hm, by intro q e p att batch hm; simp [initCfg] at hm⟩ ?_ ?_ hr
  · intro c c' ih sf
    obtain ⟨new, e, hq⟩ := sf.tr
    refine ⟨fun q e' g hm => ?_, fun q e' p att batch hm => ?_⟩
    · rcases sf.code _ hm rfl with h1 | h1
      · obtain ⟨p, att, batch, h2, h3⟩ := ih.1 q e' g (List.mem_of_mem_tail h1)
        exact ⟨p, att, batch, by rw [e]; exact List.mem_append_right _ h2, h3⟩
      · exact h1.2
    · rw [e] at hm
      rcases List.mem_append.1 hm with h1 | h1
      · exact (hq _ h1 rfl).2
      · exact ih.2 q e' p att batch h1
  · intro c c' ih hc hk
    obtain ⟨new, e, hq⟩ := hk.tr
    refine ⟨fun q e' g hm => ?_, fun q e' p att batch hm => ?_⟩
    · rw [hc] at hm
      obtain ⟨p, att, batch, h2, h3⟩ := ih.1 q e' g hm
      exact ⟨p, att, batch, by rw [e]; exact List.mem_append_right _ h2, h3⟩
    · rw [e] at hm
      rcases List.mem_append.1 hm with h1 | h1
      · have := hq _ h1; simp [Tr.quiet] at this
      · exact ih.2 q e' p att batch h1

theorem minPrio_le (l : List GSource) (p : Int) (h : minPrio l = some p) : ∀ g ∈ l, p ≤ g.sig.prio :=
  (minKey_spec (fun g : GSource => g.sig.prio) minPrio rfl (fun _ _ => rfl) l p h).1

theorem minPrio_attained (l : List GSource) (p : Int) (h : minPrio l = some p) : ∃ g ∈ l, g.sig.prio = p :=
  (minKey_spec (fun g : GSource => g.sig.prio) minPrio rfl (fun _ _ => rfl) l p h).2

end Simpleline.G
