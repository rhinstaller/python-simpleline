/-
  TicketMachine object: a ticket that has been consumed never comes back.
-/
import Simpleline.Lemmas.ObjectsTM

namespace Simpleline.Objects

variable {κ : Type} [DecidableEq κ]

theorem TM.gone_run {m : TM κ} (hwf : m.WF) {l : κ} {t : Nat} (hg : m.get l t = none) (hlt : t < m.counter)
    (ops : List (TMOp κ)) : (m.run ops).2.get l t = none := by
  induction ops generalizing m with
  | nil => exact hg
  | cons op ops ih =>
    refine ih (hwf.step op) ?_ (by rw [TM.step_counter]; omega)
    cases op with
    | take l' =>
      simp only [TM.step, TM.get_take]
      rw [if_neg (by omega)]
      exact hg
    | check l' t' =>
      simp only [TM.step, hwf.get_check]
      split
      · rfl
      · exact hg
    | mark l' =>
      simp only [TM.step, TM.get_mark, hg]
      split <;> rfl

end Simpleline.Objects
