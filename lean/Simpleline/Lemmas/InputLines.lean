/-
  "Intact" (C06): every typed line in the pipeline was read from the console. For the pending signals and for the
  lines handed to `input` this is a projection of the counting invariant `OnceOK` (`intact_of_once`: what is counted
  at least once against the reads was read); for the signals `enqueue_signal` was ever called with it is the
  invariant `EnqOK`, which needs `OnceOK` at the hand-off only. `LinesInv` is the membership form of the same fact for
  a whole configuration — queues and enqueue history (`QTL`), every instruction that holds a signal or a line
  (`codeOK`: also those whose line has already been passed on), and the `input` callbacks logged (`logOK`) — with
  its closure under a frame change, a redraw and a trace event.
-/
import Simpleline.Lemmas.InputOnceStep

namespace Simpleline.Input

def sigOK (log : List Ev) (s : Sig) : Prop := s.carriesLine = true → Ev.read s.line ∈ log

def _root_.Simpleline.Instr.lineOK (log : List Ev) : Instr → Prop
  | .processSignal s | .dispatch s _ | .callH _ _ s | .newLoop s | .inputReceived s | .inputReady _ s => sigOK log s
  | .processInput _ key => Ev.read key ∈ log
  | .callScr _ .input _ (some key) => Ev.read key ∈ log
  | _ => True

def _root_.Simpleline.Tr.lineOK (log : List Ev) : Tr → Prop
  | .enq _ s | .dropped s => sigOK log s
  | _ => True

def _root_.Simpleline.Ev.lineOK (log : List Ev) : Ev → Prop
  | .cb _ .input _ (some key) => Ev.read key ∈ log
  | _ => True

def QTL (qs : List EQueue) (tr : List Tr) (log : List Ev) : Prop :=
  (∀ q ∈ qs, ∀ e ∈ q.entries, sigOK log e.2.2) ∧ ∀ t ∈ tr, t.lineOK log

def codeOK (log : List Ev) (code : List Instr) : Prop := ∀ ins ∈ code, ins.lineOK log

def logOK (log : List Ev) : Prop := ∀ e ∈ log, e.lineOK log

structure LinesInv (c : Cfg) : Prop where
  qt : QTL c.L.queues c.tr c.log
  code : codeOK c.log c.code
  log : logOK c.log

@[simp] theorem codeOK_nil (log : List Ev) : codeOK log [] := by simp [codeOK]
@[simp] theorem codeOK_cons (log : List Ev) (i : Instr) (is : List Instr) :
    codeOK log (i :: is) ↔ i.lineOK log ∧ codeOK log is := by simp [codeOK]
@[simp] theorem codeOK_append (log : List Ev) (is js : List Instr) :
    codeOK log (is ++ js) ↔ codeOK log is ∧ codeOK log js := by
  simp [codeOK, or_imp, forall_and]

theorem sigOK_mono {log log' : List Ev} (h : ∀ e ∈ log, e ∈ log') {s : Sig} (hs : sigOK log s) : sigOK log' s :=
  fun hc => h _ (hs hc)

theorem sigOK_of_not_carries {log : List Ev} {s : Sig} (h : s.carriesLine = false) : sigOK log s :=
  fun hc => by rw [h] at hc; cases hc

theorem carriesLine_of_not_input {s : Sig} (h : s.cls.isInput = false) : s.carriesLine = false := by
  unfold Sig.carriesLine; cases hs : s.cls <;> simp_all [Cls.isInput]

theorem mem_enqueued {s : Sig} {tr : List Tr} : s ∈ enqueued tr ↔ ∃ t ∈ tr, t.sig? = some s := List.mem_filterMap

theorem mem_readLines (l : Str) (log : List Ev) : l ∈ readLines log ↔ Ev.read l ∈ log := by
  unfold readLines
  simp only [List.mem_reverse, List.mem_filterMap]
  constructor
  · rintro ⟨e, he, h⟩
    cases e <;> simp at h
    subst h; exact he
  · intro h; exact ⟨_, h, rfl⟩

theorem mem_inputLines (l : Str) (log : List Ev) :
    l ∈ inputLines log ↔ ∃ scr a, Ev.cb scr .input a (some l) ∈ log := by
  unfold inputLines
  simp only [List.mem_reverse, List.mem_filterMap]
  constructor
  · rintro ⟨e, he, h⟩
    cases e with
    | cb scr cb a key =>
      cases cb <;> cases key <;> simp at h
      subst h; exact ⟨scr, a, he⟩
    | _ => simp at h
  · rintro ⟨scr, a, h⟩; exact ⟨_, h, rfl⟩

/-! ### from the counting invariant -/

theorem intact_of_once {k : Nat} {c : Cfg} (h : ∀ l, OnceOK l k c) :
    (∀ s ∈ c.pending, s.carriesLine = true → s.line ∈ readLines c.log) ∧ ∀ l ∈ inputLines c.log, l ∈ readLines c.log := by
  refine ⟨fun s hs hc => ?_, fun l hl => ?_⟩
  · have h1 : 0 < c.pending.countP (lineIs s.line) :=
      List.countP_pos_iff.mpr ⟨s, hs, by simp [lineIs, hc]⟩
    have := h s.line
    unfold OnceOK once readCount at this
    exact List.count_pos_iff.mp (by omega)
  · have h1 : 0 < inputCount l c.log := List.count_pos_iff.mpr hl
    have := h l
    unfold OnceOK once readCount at this
    exact List.count_pos_iff.mp (by omega)

/-! ### the enqueue history -/

def EnqOK (c : Cfg) : Prop := ∀ s ∈ enqueued c.tr, sigOK c.log s

theorem EnqOK.calm {c X : Cfg} (h : EnqOK c) (hX : Calm c X) : EnqOK X := by
  obtain ⟨new, hn, e⟩ := hX.tr
  intro s hs
  rw [e] at hs; rw [hX.log]
  rcases List.mem_append.mp hs with hs | hs
  · exact sigOK_of_not_carries (carriesLine_of_not_input (hn s hs))
  · exact h s hs

/-- the line a delivery enqueues is the one it logs as read -/
theorem EnqOK.delivers {X Y : Cfg} (h : EnqOK X) (hd : Delivers X Y) : EnqOK Y := by
  rcases hd with rfl | hd
  · exact h
  · obtain ⟨r, rs, _, rfl⟩ := deliver_eq hd
    intro s hs
    rw [enqueued_enqueue] at hs; rw [enqueue_log]
    rcases List.mem_cons.mp hs with rfl | hs
    · exact fun _ => List.mem_cons_self
    · exact sigOK_mono (fun _ => List.mem_cons_of_mem _) (h s hs)

theorem EnqOK.emit {X : Cfg} (h : EnqOK X) (P : Prog) (e : Ev) : EnqOK (X.emit P e) :=
  EnqOK.delivers (X := emit0 X e) (fun s hs => sigOK_mono (fun _ => List.mem_cons_of_mem _) (h s hs)) (delivers_emit P X e)

theorem enqueued_enqueueAll (sigs : List Sig) (c : Cfg) : enqueued (enqueueAll c sigs).tr = sigs.reverse ++ enqueued c.tr := by
  induction sigs generalizing c with
  | nil => rfl
  | cons s ss ih => rw [enqueueAll_cons, ih, enqueued_enqueue]; simp

theorem enqOK_step {k : Nat} (P : Prog) (c : Cfg) (hc : cleanCode c.code) (hO : ∀ l, OnceOK l k c) (h : EnqOK c) :
    EnqOK (final (step P c)) := by
  obtain ⟨_, hfin⟩ | ⟨ins, rest, c', hcode, hfin, hs⟩ := step_cases P c <;> rw [hfin]
  · exact h
  have hcl : ins.clean = true := hc ins (hcode ▸ List.mem_cons_self)
  cases hs with
  | calm _ _ hX => exact h.calm hX.toCalm
  | pass _ _ hX _ hp => exact h.calm (hp.calm hX)
  | enq s _ hX _ hs => exact (h.calm ((hs.calm hX).enqueue (hs.not_input hcl)) :)
  | emit e _ hX => exact (h.calm hX.toCalm).emit P e
  | idle hX _ hd => exact (h.calm hX.toCalm).delivers (.inr hd)
  | pop e es _ _ hX _ hd => exact ((h.calm hX.toCalm).delivers hd :)
  | closeLevel q a => exact h.calm (calm_closed c rest q a)
  | @request X ih src text _ _ hX =>
    have hX' : EnqOK X := fun s hs => by rw [hX.log]; exact h s (hX.tr ▸ hs)
    rw [startRequest_eq]
    split
    · exact EnqOK.calm (c := { X with A := reqRecorded X.A ih src text }) hX' ((Quiet.refl _).raise _).toCalm
    · split <;> exact hX'
  | handoff s rs r hi _ _ _ hlog _ hT =>
    -- the successful signal carries the line of the `InputReceivedSignal` handed off, which `OnceOK` counts as read
    subst hi
    intro x hx
    rw [hT, enqueued_enqueueAll] at hx; rw [hlog]
    rcases List.mem_append.mp hx with hx | hx
    · rcases List.mem_cons.mp (List.mem_reverse.mp hx) with rfl | hx
      · have := hO s.line
        unfold OnceOK once readCount at this
        rw [hcode, potCode_cons] at this
        simp only [Instr.pot, decide_true, Bool.toNat_true] at this
        exact fun _ => (mem_readLines s.line _).mp (List.count_pos_iff.mp (by omega))
      · have := failSigs_all _ _ _ x hx
        exact sigOK_of_not_carries (by simp [Sig.carriesLine, this.1, this.2.2.1])
    · exact h x hx
  | ready n s _ _ _ hX => exact fun x hx => by rw [hX.log]; exact h x (hX.tr ▸ hx)

theorem enqOK_reach {P : Prog} {c0 c : Cfg} (h0 : Started c0) (hU : UserHandlers c0) (hF : NoForge P c0)
    (h : Reach P c0 c) : EnqOK c := by
  refine reach_step_induction (I := EnqOK) ?_ ?_ ?_ h
  · rw [EnqOK, h0.tr]; exact fun _ hs => nomatch hs
  · exact fun c hr hi => enqOK_step P c (cleanCode_reach h0 hU hF hr) (once_reach h0 hU hF hr) hi
  · exact fun c c' _ hi hd => hi.delivers (.inr hd)

/-! ### `LinesInv` -/

theorem QTL_pending {c : Cfg} {log : List Ev} :
    QTL c.L.queues c.tr log ↔ (∀ s ∈ c.pending, sigOK log s) ∧ ∀ s ∈ enqueued c.tr, sigOK log s := by
  unfold QTL
  refine and_congr (forall_entries_iff _) ?_
  simp only [mem_enqueued]
  refine ⟨fun h s ⟨t, ht, hs⟩ => ?_, fun h t ht => ?_⟩
  · have := h t ht
    cases t <;> cases hs <;> exact this
  · cases t <;> first | trivial | exact h _ ⟨_, ht, rfl⟩

theorem Calm.QTL {c X : Cfg} {log : List Ev} (h : Calm c X) (hq : QTL c.L.queues c.tr log) :
    QTL X.L.queues X.tr log := by
  rw [QTL_pending] at hq ⊢
  obtain ⟨n2, h2, p2⟩ := h.tr
  refine ⟨h.all_pending (fun s hs => sigOK_of_not_carries (carriesLine_of_not_input hs)) hq.1, fun s hs => ?_⟩
  · rw [p2] at hs
    rcases List.mem_append.mp hs with hs | hs
    · exact sigOK_of_not_carries (carriesLine_of_not_input (h2 s hs))
    · exact hq.2 s hs

theorem LinesInv_congr {c c' : Cfg} (h : LinesInv c) (hq : c'.L.queues = c.L.queues) (ht : c'.tr = c.tr)
    (hl : c'.log = c.log) (hc : codeOK c.log c'.code) : LinesInv c' :=
  ⟨by rw [hq, ht, hl]; exact h.qt, by rw [hl]; exact hc, by rw [hl]; exact h.log⟩

theorem LinesInv_calm {c X : Cfg} (h : LinesInv c) (hX : Calm c X) (hc : codeOK c.log X.code) : LinesInv X :=
  ⟨by rw [hX.log]; exact hX.QTL h.qt, by rw [hX.log]; exact hc, by rw [hX.log]; exact h.log⟩

theorem LinesInv_redraw {c : Cfg} (h : LinesInv c) : LinesInv c.redraw :=
  LinesInv_calm h (Quiet.refl c).redraw.toCalm (by rw [redraw_code]; exact h.code)

theorem LinesInv_trace {c : Cfg} (t : Tr) (h : LinesInv c) (ht : t.lineOK c.log) : LinesInv (c.trace t) :=
  ⟨⟨h.qt.1, fun x hx => by
    rcases List.mem_cons.mp hx with rfl | hx
    · exact ht
    · exact h.qt.2 x hx⟩, h.code, h.log⟩

end Simpleline.Input
