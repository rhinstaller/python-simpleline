/-
  The state-update functions of the thread model and what they leave of each component
  (simp set `tstate`), the step relation `TStep` (one constructor per enabled case of `tstep`), `run` over
  concatenation, induction over accepted schedules and over `TReach`.
-/
import Simpleline.Spec.ThreadSpec
import Simpleline.Lemmas.ThreadAttr
import Simpleline.Lemmas.Store

namespace Simpleline.Threads

@[simp, tstate] theorem setPc_queues (s : TState) (t p) : (s.setPc t p).queues = s.queues := rfl
@[simp, tstate] theorem setPc_levels (s : TState) (t p) : (s.setPc t p).levels = s.levels := rfl
@[simp, tstate] theorem setPc_active (s : TState) (t p) : (s.setPc t p).active = s.active := rfl
@[simp, tstate] theorem setPc_mainLock (s : TState) (t p) : (s.setPc t p).mainLock = s.mainLock := rfl
@[simp, tstate] theorem setPc_dispatched (s : TState) (t p) : (s.setPc t p).dispatched = s.dispatched := rfl
@[simp, tstate] theorem setPc_lastTaken (s : TState) (t p) : (s.setPc t p).lastTaken = s.lastTaken := rfl
@[simp, tstate] theorem setPc_completed (s : TState) (t p) : (s.setPc t p).completed = s.completed := rfl

@[simp, tstate] theorem setQ_levels (s : TState) (q f) : (s.setQ q f).levels = s.levels := rfl
@[simp, tstate] theorem setQ_active (s : TState) (q f) : (s.setQ q f).active = s.active := rfl
@[simp, tstate] theorem setQ_mainLock (s : TState) (q f) : (s.setQ q f).mainLock = s.mainLock := rfl
@[simp, tstate] theorem setQ_pcs (s : TState) (q f) : (s.setQ q f).pcs = s.pcs := rfl
@[simp, tstate] theorem setQ_dispatched (s : TState) (q f) : (s.setQ q f).dispatched = s.dispatched := rfl
@[simp, tstate] theorem setQ_lastTaken (s : TState) (q f) : (s.setQ q f).lastTaken = s.lastTaken := rfl
@[simp, tstate] theorem setQ_completed (s : TState) (q f) : (s.setQ q f).completed = s.completed := rfl
@[simp, tstate] theorem setQ_queues_length (s : TState) (q f) : (s.setQ q f).queues.length = s.queues.length := by
  simp [TState.setQ]

theorem pc_congr {s s' : TState} (h : s'.pcs = s.pcs) (t : Nat) : s'.pc t = s.pc t := by
  simp [TState.pc, h]
theorem q_congr {s s' : TState} (h : s'.queues = s.queues) (q : Nat) : s'.q q = s.q q := by
  simp [TState.q, h]

@[simp, tstate] theorem pc_mk_same (s : TState) (qs lv a m d lt c) (t : Nat) :
    (TState.mk qs lv a m s.pcs d lt c).pc t = s.pc t := rfl
@[simp, tstate] theorem q_mk_same (s : TState) (lv a m pcs d lt c) (q : Nat) :
    (TState.mk s.queues lv a m pcs d lt c).q q = s.q q := rfl

@[simp, tstate] theorem setQ_pc (s : TState) (q f) (t : Nat) : (s.setQ q f).pc t = s.pc t := rfl
@[simp, tstate] theorem setPc_q (s : TState) (t p) (q : Nat) : (s.setPc t p).q q = s.q q := rfl

theorem setPc_pc (s : TState) (t p) (t' : Nat) : (s.setPc t p).pc t' = if t' = t then p else s.pc t' := by
  unfold TState.setPc TState.pc
  rw [List.getD_eq_getElem?_getD, List.getElem?_set, List.length_append, List.length_replicate]
  by_cases h : t = t'
  · subst h; rw [if_pos rfl, if_pos (by omega), if_pos rfl]; rfl
  · rw [if_neg h, if_neg (Ne.symm h), ← List.getD_eq_getElem?_getD, getD_append_replicate]

@[simp, tstate] theorem setPc_pc_self (s : TState) (t p) : (s.setPc t p).pc t = p := by simp [setPc_pc]
theorem setPc_pc_ne (s : TState) (t p) {t' : Nat} (h : t' ≠ t) : (s.setPc t p).pc t' = s.pc t' := by
  simp [setPc_pc, h]

theorem setQ_q (s : TState) (q f) (q' : Nat) :
    (s.setQ q f).q q' = if q' = q ∧ q < s.queues.length then f (s.q q) else s.q q' := by
  unfold TState.setQ TState.q
  rw [getD_modify]
  by_cases h : q = q' <;> simp [h, eq_comm]

theorem setQ_q_self (s : TState) (q f) (h : q < s.queues.length) : (s.setQ q f).q q = f (s.q q) := by
  simp [setQ_q, h]
theorem setQ_q_ne (s : TState) (q f) {q' : Nat} (h : q' ≠ q) : (s.setQ q f).q q' = s.q q' := by
  simp [setQ_q, h]

theorem q_of_not_lt (s : TState) {q : Nat} (h : ¬ q < s.queues.length) : s.q q = {} := by
  unfold TState.q
  have : s.queues[q]? = none := by simp; omega
  simp [List.getD_eq_getElem?_getD, this]

@[simp, tstate] theorem q_mk_append (s : TState) (lv a m pcs d lt c) (q : Nat) :
    (TState.mk (s.queues ++ [({} : TQ)]) lv a m pcs d lt c).q q = s.q q := getD_append_replicate s.queues 1 q {}

theorem setQ_q_app {α} (g : TQ → α) (s : TState) (q0 : Nat) (f : TQ → TQ) (h : q0 < s.queues.length) (q : Nat) :
    g ((s.setQ q0 f).q q) = if q = q0 then g (f (s.q q)) else g (s.q q) := by
  rw [setQ_q]; by_cases hc : q = q0 <;> simp [hc, h]

theorem setQ_q_fix {α} (g : TQ → α) (s : TState) (q0 : Nat) (f : TQ → TQ) (hf : ∀ x, g (f x) = g x) (q : Nat) :
    g ((s.setQ q0 f).q q) = g (s.q q) := by
  rw [setQ_q]; split
  · rename_i h; rw [hf, h.1]
  · rfl

attribute [simp] PC.holdsMain PC.holdsSrc PC.holdsOrd PC.isSub PC.preId PC.postId PC.valid PC.snapOK PC.activeOK

section ids
open List

theorem count_flatMap_modify {α : Type} (g : α → List Nat) (f : α → α) (l : List α) (q : Nat) (d : α)
    (h : q < l.length) (a : Nat) :
    count a ((l.modify q f).flatMap g) + count a (g (l.getD q d)) =
      count a (l.flatMap g) + count a (g (f (l.getD q d))) := by
  induction l generalizing q with
  | nil => simp at h
  | cons x l ih =>
    cases q with
    | zero => simp [count_append]; omega
    | succ q =>
      have := ih q (by simpa using h)
      simp [count_append] at this ⊢
      omega

theorem set_eq_modify {α} (l : List α) (t : Nat) (p : α) : l.set t p = l.modify t fun _ => p := by
  induction l generalizing t with
  | nil => simp
  | cons x l ih => cases t <;> simp [ih]

theorem count_flatMap_set {α : Type} (g : α → List Nat) (l : List α) (t : Nat) (p d : α)
    (h : t < l.length) (a : Nat) :
    count a ((l.set t p).flatMap g) + count a (g (l.getD t d)) = count a (l.flatMap g) + count a (g p) := by
  rw [set_eq_modify]
  exact count_flatMap_modify g _ l t d h a

theorem flatMap_modify_of_eq {α β : Type} (g : α → List β) (f : α → α) (l : List α) (q : Nat)
    (h : ∀ x, g (f x) = g x) : (l.modify q f).flatMap g = l.flatMap g := by
  induction l generalizing q with
  | nil => simp
  | cons x l ih =>
    cases q with
    | zero => simp [h]
    | succ q => simp [ih]

@[simp, tstate] theorem preIds_setQ (s : TState) (q f) : (s.setQ q f).preIds = s.preIds := rfl
@[simp, tstate] theorem entryIds_setPc (s : TState) (t p) : (s.setPc t p).entryIds = s.entryIds := rfl
@[simp, tstate] theorem preIds_mk_same (s : TState) (qs lv a m d lt c) :
    (TState.mk qs lv a m s.pcs d lt c).preIds = s.preIds := rfl
@[simp, tstate] theorem entryIds_mk_same (s : TState) (lv a m pcs d lt c) :
    (TState.mk s.queues lv a m pcs d lt c).entryIds = s.entryIds := rfl
@[simp, tstate] theorem entryIds_mk_append (s : TState) (lv a m pcs d lt c) :
    (TState.mk (s.queues ++ [({} : TQ)]) lv a m pcs d lt c).entryIds = s.entryIds := by
  simp [TState.entryIds]

theorem count_preIds_setPc (s : TState) (t : Nat) (p : PC) (a : Nat) :
    count a (s.setPc t p).preIds + count a (s.pc t).preId = count a s.preIds + count a p.preId := by
  have h := count_flatMap_set PC.preId (s.pcs ++ replicate (t + 1 - s.pcs.length) PC.idle) t p .idle
    (by rw [length_append, length_replicate]; omega) a
  have hpad : (s.pcs ++ replicate (t + 1 - s.pcs.length) PC.idle).flatMap PC.preId = s.pcs.flatMap PC.preId := by
    simp [flatMap_replicate]
  rwa [getD_append_replicate, hpad] at h

theorem count_preId_le (s : TState) (t : Nat) (a : Nat) : count a (s.pc t).preId ≤ count a s.preIds := by
  have h : _ = _ + count a [] := count_preIds_setPc s t .idle a
  rw [count_nil] at h
  omega

theorem count_entryIds_setQ (s : TState) (q : Nat) (f : TQ → TQ) (a : Nat) (h : q < s.queues.length) :
    count a (s.setQ q f).entryIds + count a ((s.q q).entries.map (·.2.2)) =
      count a s.entryIds + count a ((f (s.q q)).entries.map (·.2.2)) :=
  count_flatMap_modify (fun x : TQ => x.entries.map fun y : Int × Nat × Nat => y.2.2) f s.queues q {} h a

@[tstate] theorem entryIds_setQ_same (s : TState) (q : Nat) (f : TQ → TQ) (h : ∀ x, (f x).entries = x.entries) :
    (s.setQ q f).entryIds = s.entryIds :=
  flatMap_modify_of_eq _ f s.queues q (fun x => by simp [h x])

end ids

inductive TStep (s : TState) (t : Nat) : Ev → TState → Prop
  | submit (sg) (hpc : s.pc t = .idle) : TStep s t (.submit sg) (s.setPc t (.wantMain sg))
  | acqMainSub (sg) (hpc : s.pc t = .wantMain sg) (hl : s.mainLock = none) :
      TStep s t .acqMain ({ s with mainLock := some t }.setPc t (.iterStart sg))
  | lvIter (sg) (hpc : s.pc t = .iterStart sg) :
      TStep s t (.lvIter s.levels) (s.setPc t (.iter sg s.levels.reverse))
  | askAcq (sg q todo) (hpc : s.pc t = .iter sg (q :: todo)) (hl : (s.q q).srcLock = none) :
      TStep s t (.acqQ q) ((s.setQ q fun x => { x with srcLock := some t }).setPc t (.asking sg q todo))
  | contains (sg q todo res) (hpc : s.pc t = .asking sg q todo)
      (hres : res = match sg.src with | some n => (s.q q).sources.contains n | none => false) :
      TStep s t (.contains q sg.src res) (s.setPc t (.asked sg q todo res))
  | askRelYes (sg q todo) (hpc : s.pc t = .asked sg q todo true) :
      TStep s t (.relQ q) ((s.setQ q fun x => { x with srcLock := none }).setPc t (.putAcq sg q true))
  | askRelNo (sg q todo) (hpc : s.pc t = .asked sg q todo false) :
      TStep s t (.relQ q) ((s.setQ q fun x => { x with srcLock := none }).setPc t (.iter sg todo))
  | relMainNotFound (sg) (hpc : s.pc t = .iter sg []) (hl : s.mainLock = some t) :
      TStep s t .relMain ({ s with mainLock := none }.setPc t (.fallback sg))
  | acqO (sg q found) (hpc : s.pc t = .putAcq sg q found) (hl : (s.q q).ordLock = none) :
      TStep s t (.acqO q) ((s.setQ q fun x => { x with ordLock := some t }).setPc t (.putDo sg q found))
  | put (sg q found) (hpc : s.pc t = .putDo sg q found) :
      TStep s t (.put q sg.sid sg.prio (s.q q).seq)
        ((s.setQ q fun x => { x with entries := (sg.prio, x.seq, sg.sid) :: x.entries, seq := x.seq + 1 }).setPc t
          (.putRel sg q found))
  | relOFound (sg q) (hpc : s.pc t = .putRel sg q true) :
      TStep s t (.relO q) ((s.setQ q fun x => { x with ordLock := none }).setPc t (.relFound sg))
  | relONotFound (sg q) (hpc : s.pc t = .putRel sg q false) :
      TStep s t (.relO q)
        ({ (s.setQ q fun x => { x with ordLock := none }) with completed := sg.sid :: s.completed }.setPc t .idle)
  | relMainFound (sg) (hpc : s.pc t = .relFound sg) (hl : s.mainLock = some t) :
      TStep s t .relMain ({ s with mainLock := none, completed := sg.sid :: s.completed }.setPc t .idle)
  | fallbackRead (sg) (hpc : s.pc t = .fallback sg) :
      TStep s t (.activeRead s.active) (s.setPc t (.putAcq sg s.active false))
  | newLoop (seed) (hpc : s.pc t = .idle) (ht : t = 0) :
      TStep s t (.newLoop seed) (s.setPc t (.nlLock s.queues.length seed))
  | nlWrite (seed) (hpc : s.pc t = .nlLock s.queues.length seed) :
      TStep s t (.activeWrite s.queues.length)
        ({ s with queues := s.queues ++ [({} : TQ)], active := s.queues.length }.setPc t
          (.nlRead s.queues.length seed))
  | nlAcq (q seed) (hpc : s.pc t = .nlRead q seed) (hl : s.mainLock = none) :
      TStep s t .acqMain ({ s with mainLock := some t }.setPc t (.nlAppend q seed))
  | nlReadActive (seed) (hpc : s.pc t = .nlAppend s.active seed) : TStep s t (.activeRead s.active) s
  | nlAppend (q seed) (hpc : s.pc t = .nlAppend q seed) (hl : s.mainLock = some t) :
      TStep s t (.lvAppend q) ({ s with levels := s.levels ++ [q] }.setPc t (.nlRel q seed))
  | nlRel (q seed) (hpc : s.pc t = .nlRel q seed) (hl : s.mainLock = some t) :
      TStep s t .relMain ({ s with mainLock := none }.setPc t (.wantMain seed))
  | clAcq (hpc : s.pc t = .idle) (ht : t = 0) (hl : s.mainLock = none) :
      TStep s t .acqMain ({ s with mainLock := some t }.setPc t .clHold)
  | clPop (q) (hpc : s.pc t = .clHold) (hl : s.mainLock = some t) (hq : s.levels.getLast? = some q) :
      TStep s t (.lvPop q) ({ s with levels := s.levels.dropLast }.setPc t .clPopped)
  | clTop (q) (hpc : s.pc t = .clPopped) (hq : s.levels.getLast? = some q) :
      TStep s t (.lvTop q) (s.setPc t (.clSetActive q))
  | clExit (hpc : s.pc t = .clPopped) (hl : s.mainLock = some t) (hq : s.levels = []) :
      TStep s t .relMain ({ s with mainLock := none }.setPc t .idle)
  | clWrite (q) (hpc : s.pc t = .clSetActive q) :
      TStep s t (.activeWrite q) ({ s with active := q }.setPc t .clRel)
  | clRel (hpc : s.pc t = .clRel) (hl : s.mainLock = some t) :
      TStep s t .relMain ({ s with mainLock := none }.setPc t .idle)
  | regSource (src) (hpc : s.pc t = .idle) (ht : t = 0) :
      TStep s t (.regSource src) (s.setPc t (.srcWant s.active src))
  | srcAcq (q src) (hpc : s.pc t = .srcWant q src) (hl : (s.q q).srcLock = none) :
      TStep s t (.acqQ q) ((s.setQ q fun x => { x with srcLock := some t }).setPc t (.srcHold q src))
  | addSource (q src) (hpc : s.pc t = .srcHold q src) (hl : (s.q q).srcLock = some t) :
      TStep s t (.addSource q src)
        ((s.setQ q fun x => { x with sources := if x.sources.contains src then x.sources else src :: x.sources }).setPc t
          (.srcAdded q))
  | srcRel (q) (hpc : s.pc t = .srcAdded q) :
      TStep s t (.relQ q) ((s.setQ q fun x => { x with srcLock := none }).setPc t .idle)
  | idleRead (hpc : s.pc t = .idle) (ht : t = 0) : TStep s t (.activeRead s.active) s
  | srcRead (q src) (hpc : s.pc t = .srcWant q src) : TStep s t (.activeRead q) s
  | get (m) (hpc : s.pc t = .idle) (ht : t = 0) (hm : minEntry (s.q s.active).entries = some m) :
      TStep s t (.get s.active m.2.2)
        { (s.setQ s.active fun x => { x with entries := x.entries.erase m }) with
            dispatched := (s.active, m.2.2) :: s.dispatched, lastTaken := some (s.active, m) }
  | putBack (q m d ds) (hpc : s.pc t = .idle) (ht : t = 0) (hlt : s.lastTaken = some (q, m))
      (hd : s.dispatched = d :: ds) :
      TStep s t (.putBack q m.2.2)
        { (s.setQ q fun x => { x with entries := m :: x.entries }) with dispatched := ds, lastTaken := none }

/-- an arm `if guard then result else none` of `tstep` that returned `some`: the guard held -/
theorem of_guarded {α} {c : Prop} [Decidable c] {x : Option α} {b : α} (h : (if c then x else none) = some b) :
    c ∧ x = some b :=
  Option.ite_none_right_eq_some.1 h

/-- Arm by arm, in the order of `tstep`'s `match`: the guard of the arm gives the hypotheses of the constructor named. -/
theorem tstep_sound {s : TState} {t : Nat} {e : Ev} {s' : TState} (h : tstep s t e = some s') :
    TStep s t e s' := by
  unfold tstep at h
  split at h
  next sg hpc => cases h; exact .submit sg hpc
  next sg hpc => obtain ⟨hl, ⟨⟩⟩ := of_guarded h; exact .acqMainSub sg hpc hl
  next sg lv hpc => obtain ⟨rfl, ⟨⟩⟩ := of_guarded h; exact .lvIter sg hpc
  next sg q todo q' hpc => obtain ⟨⟨rfl, hl⟩, ⟨⟩⟩ := of_guarded h; exact .askAcq sg _ todo hpc hl
  next sg q todo q' src res hpc =>
    obtain ⟨⟨rfl, rfl, hres⟩, ⟨⟩⟩ := of_guarded h; exact .contains sg _ todo res hpc hres
  next sg q todo res q' hpc =>
    obtain ⟨rfl, ⟨⟩⟩ := of_guarded h
    cases res
    · exact .askRelNo sg _ todo hpc
    · exact .askRelYes sg _ todo hpc
  next sg hpc => obtain ⟨hl, ⟨⟩⟩ := of_guarded h; exact .relMainNotFound sg hpc hl
  next sg q found q' hpc => obtain ⟨⟨rfl, hl⟩, ⟨⟩⟩ := of_guarded h; exact .acqO sg _ found hpc hl
  next sg q found q' sid prio order hpc =>
    obtain ⟨⟨rfl, rfl, rfl, rfl⟩, ⟨⟩⟩ := of_guarded h; exact .put sg _ found hpc
  next sg q found q' hpc =>
    obtain ⟨rfl, h⟩ := of_guarded h
    cases found
    · cases h; exact .relONotFound sg _ hpc
    · cases h; exact .relOFound sg _ hpc
  next sg hpc => obtain ⟨hl, ⟨⟩⟩ := of_guarded h; exact .relMainFound sg hpc hl
  next sg q hpc => obtain ⟨rfl, ⟨⟩⟩ := of_guarded h; exact .fallbackRead sg hpc
  next seed hpc => obtain ⟨ht, ⟨⟩⟩ := of_guarded h; exact .newLoop seed hpc ht
  next q seed q' hpc => obtain ⟨⟨rfl, rfl⟩, ⟨⟩⟩ := of_guarded h; exact .nlWrite seed hpc
  next q seed hpc => obtain ⟨hl, ⟨⟩⟩ := of_guarded h; exact .nlAcq q seed hpc hl
  next q seed q' hpc => obtain ⟨⟨rfl, rfl⟩, ⟨⟩⟩ := of_guarded h; exact .nlReadActive seed hpc
  next q seed q' hpc => obtain ⟨⟨rfl, hl⟩, ⟨⟩⟩ := of_guarded h; exact .nlAppend _ seed hpc hl
  next q seed hpc => obtain ⟨hl, ⟨⟩⟩ := of_guarded h; exact .nlRel q seed hpc hl
  next hpc => obtain ⟨⟨ht, hl⟩, ⟨⟩⟩ := of_guarded h; exact .clAcq hpc ht hl
  next q hpc => obtain ⟨⟨hl, hq⟩, ⟨⟩⟩ := of_guarded h; exact .clPop q hpc hl hq
  next q hpc => obtain ⟨hq, ⟨⟩⟩ := of_guarded h; exact .clTop q hpc hq
  next hpc => obtain ⟨⟨hl, hq⟩, ⟨⟩⟩ := of_guarded h; exact .clExit hpc hl hq
  next q q' hpc => obtain ⟨rfl, ⟨⟩⟩ := of_guarded h; exact .clWrite _ hpc
  next hpc => obtain ⟨hl, ⟨⟩⟩ := of_guarded h; exact .clRel hpc hl
  next src hpc => obtain ⟨ht, ⟨⟩⟩ := of_guarded h; exact .regSource src hpc ht
  next q src q' hpc => obtain ⟨⟨rfl, hl⟩, ⟨⟩⟩ := of_guarded h; exact .srcAcq _ src hpc hl
  next q src q' src' hpc => obtain ⟨⟨rfl, rfl, hl⟩, ⟨⟩⟩ := of_guarded h; exact .addSource _ _ hpc hl
  next q q' hpc => obtain ⟨rfl, ⟨⟩⟩ := of_guarded h; exact .srcRel _ hpc
  next q hpc => obtain ⟨⟨ht, rfl⟩, ⟨⟩⟩ := of_guarded h; exact .idleRead hpc ht
  next q src q' hpc => obtain ⟨rfl, ⟨⟩⟩ := of_guarded h; exact .srcRead _ src hpc
  next q sid hpc =>
    obtain ⟨⟨ht, rfl⟩, h⟩ := of_guarded h
    split at h
    next m hm => obtain ⟨rfl, ⟨⟩⟩ := of_guarded h; exact .get m hpc ht hm
    next => cases h
  next q sid hpc =>
    obtain ⟨ht, h⟩ := of_guarded h
    split at h
    next q' m d ds hlt hd => obtain ⟨⟨rfl, rfl⟩, ⟨⟩⟩ := of_guarded h; exact .putBack _ m d ds hpc ht hlt hd
    next => cases h
  next => cases h

theorem run_cons {s : TState} {t : Nat} {e : Ev} {rest : List (Nat × Ev)} {s' : TState} :
    run s ((t, e) :: rest) = some s' ↔ ∃ s1, tstep s t e = some s1 ∧ run s1 rest = some s' := by
  simp only [run]
  cases tstep s t e <;> simp

theorem run_append_some {s : TState} {a b : List (Nat × Ev)} {s' : TState} :
    run s (a ++ b) = some s' ↔ ∃ s1, run s a = some s1 ∧ run s1 b = some s' := by
  induction a generalizing s with
  | nil => simp [run]
  | cons x a ih =>
    obtain ⟨t, e⟩ := x
    simp only [List.cons_append, run_cons, ih]
    exact ⟨fun ⟨s1, h1, s2, h2, h3⟩ => ⟨s2, ⟨s1, h1, h2⟩, h3⟩, fun ⟨s2, ⟨s1, h1, h2⟩, h3⟩ => ⟨s1, h1, s2, h2, h3⟩⟩

theorem run_snoc {s : TState} {a : List (Nat × Ev)} {t : Nat} {e : Ev} {s' : TState} :
    run s (a ++ [(t, e)]) = some s' ↔ ∃ s1, run s a = some s1 ∧ tstep s1 t e = some s' := by
  simp only [run_append_some, run_cons]
  simp [run]

/-- induction over accepted schedules, from the left end (the history grows at the right) -/
theorem run_induction {init : TState} {P : List (Nat × Ev) → TState → Prop} (h0 : P [] init)
    (hstep : ∀ pre s t e s', run init pre = some s → P pre s → TStep s t e s' →
      run init (pre ++ [(t, e)]) = some s' → P (pre ++ [(t, e)]) s') :
    ∀ sched s, run init sched = some s → P sched s := by
  intro sched
  induction hn : sched.length generalizing sched with
  | zero =>
    intro s hr
    rw [List.eq_nil_of_length_eq_zero hn] at hr ⊢
    exact Option.some.inj hr ▸ h0
  | succ n ih =>
    intro s hr
    obtain ⟨pre, ⟨t, e⟩, h⟩ := (List.eq_nil_or_concat sched).resolve_left fun h => by simp [h] at hn
    rw [List.concat_eq_append] at h
    subst h
    obtain ⟨s1, h1, hs⟩ := run_snoc.1 hr
    exact hstep pre s1 t e s h1 (ih pre (by simpa using hn) s1 h1) (tstep_sound hs) hr

theorem treach_induction {src0 : List Nat} {P : TState → Prop} (h0 : P (initState src0))
    (hstep : ∀ s t e s', TReach src0 s → P s → TStep s t e s' → P s') :
    ∀ s, TReach src0 s → P s := by
  intro s ⟨sched, hr⟩
  exact run_induction (P := fun _ s => P s) h0
    (fun pre s t e s' hpre hp hs _ => hstep s t e s' ⟨pre, hpre⟩ hp hs) sched s hr

end Simpleline.Threads
