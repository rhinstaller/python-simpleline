/-
  Signal ids are conserved: as multisets, the ids submitted so far are the ids in the hands of submitting threads,
  those waiting in queues and those dispatched; and also the ids in the hands of threads and those put so far.
-/
import Simpleline.Lemmas.ThreadQueue

namespace Simpleline.Threads
open List

variable {s s' : TState} {t : Nat} {e : Ev}

theorem count_preIds_step (hs : TStep s t e s') (a : Nat) :
    count a s'.preIds + count a (s.pc t).preId = count a s.preIds + count a (s'.pc t).preId := by
  unfold TState.preIds
  rcases pcs_step hs with h | h
  · rw [h, pc_congr h]
  · rw [h]; exact count_preIds_setPc s t _ a

theorem cntPut_step (hs : TStep s t e s') (a : Nat) :
    count a s'.preIds + count a e.putId = count a s.preIds + count a e.newId := by
  have := count_preIds_step hs a
  have := thread_cnt_step hs a
  omega

theorem cnt_step (h : TInv s) (hq : QInv s) (hs : TStep s t e s') (a : Nat) :
    count a s'.preIds + count a s'.entryIds + count a s'.dispatchedIds =
      count a s.preIds + count a s.entryIds + count a s.dispatchedIds + count a e.newId := by
  have := cntPut_step hs a
  have := (qeff h hq hs).count a
  omega

theorem submitted_snoc (pre : List (Nat × Ev)) (t : Nat) (e : Ev) :
    submitted (pre ++ [(t, e)]) = submitted pre ++ e.newId := by
  simp [submitted]

theorem cnt_run {src0 : List Nat} {sched : List (Nat × Ev)} {s : TState}
    (hr : run (initState src0) sched = some s) (a : Nat) :
    count a s.preIds + count a s.entryIds + count a s.dispatchedIds = count a (submitted sched) := by
  refine run_induction (P := fun sched s =>
    count a s.preIds + count a s.entryIds + count a s.dispatchedIds = count a (submitted sched)) ?_ ?_ sched s hr
  · simp [initState, TState.preIds, TState.entryIds, TState.dispatchedIds, submitted]
  · intro pre s t e s' hpre ih hs _
    have hreach : TReach src0 s := ⟨pre, hpre⟩
    rw [cnt_step (tinv_reach hreach) (qcinv_reach hreach).1 hs a, ih, submitted_snoc, count_append]

/-- put records: `(queue, id, priority, arrival number)` -/
abbrev PutRec := Nat × Nat × Int × Nat

theorem puts_snoc (pre : List (Nat × Ev)) (t : Nat) (e : Ev) : puts (pre ++ [(t, e)]) = puts pre ++ e.putRec := by
  simp [puts]

def putIds (sched : List (Nat × Ev)) : List Nat := (puts sched).map (·.2.1)

theorem cntPut_run {src0 : List Nat} {sched : List (Nat × Ev)} {s : TState}
    (hr : run (initState src0) sched = some s) (a : Nat) :
    count a (putIds sched) + count a s.preIds = count a (submitted sched) := by
  refine run_induction (P := fun sched s => count a (putIds sched) + count a s.preIds = count a (submitted sched))
    ?_ ?_ sched s hr
  · simp [putIds, puts, initState, TState.preIds, submitted]
  · intro pre s t e s' hpre ih hs _
    have := cntPut_step hs a
    simp only [putIds, puts_snoc, submitted_snoc, List.map_append, count_append, Ev.putId] at ih this ⊢
    omega

theorem distinct_prefix {pre : List (Nat × Ev)} {x : Nat × Ev} (h : DistinctIds (pre ++ [x])) : DistinctIds pre := by
  unfold DistinctIds submitted at *
  rw [List.flatMap_append, List.nodup_append] at h
  exact h.1

theorem putIds_nodup {src0 : List Nat} {sched : List (Nat × Ev)} {s : TState}
    (hr : run (initState src0) sched = some s) (hd : DistinctIds sched) : (putIds sched).Nodup := by
  rw [List.nodup_iff_count]
  intro a
  have h1 := cntPut_run hr a
  have h2 := (List.nodup_iff_count.1 hd) a
  omega

theorem preId_not_dispatched {src0 : List Nat} {sched : List (Nat × Ev)} {s : TState}
    (hr : run (initState src0) sched = some s) (hd : DistinctIds sched) (t : Nat) :
    ∀ x ∈ (s.pc t).preId, x ∉ s.dispatchedIds := by
  intro x hx hx'
  have h1 := cnt_run hr x
  have h2 := (List.nodup_iff_count.1 hd) x
  have h3 := count_preId_le s t x
  have h4 : 0 < count x (s.pc t).preId := List.count_pos_iff.2 hx
  have h5 : 0 < count x s.dispatchedIds := List.count_pos_iff.2 hx'
  omega

end Simpleline.Threads
