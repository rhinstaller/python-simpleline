/-
  What the pending instructions still carry, as lists: the `InputReceivedSignal` on its way to the thread manager
  (`Instr.recvSig?`, all of them in code order: `Rv`) and the typed lines on their way to an `input` callback
  (`Instr.lines k`, in code order: `Qc k`). `Instr.pre k`: the line of a successful `InputReadySignal` on its way to the
  handler of its `InputHandler` (`processSignal`, `dispatch` up to handler number `k + s.ih`, the call of that handler);
  `Instr.post`: the line once that handler runs. The counters of C18 and C06 are the length of the first list
  (`irCode_eq`, `Lemmas/InputFlight.lean`) and the count of a line in both (`Instr.toks`; `potCode_eq`,
  `Lemmas/InputOnce.lean`). All these are `flatMap`s of functions empty on inert instructions, so they can only shrink
  when instructions are dropped and inert ones pushed (`flatMap_carriers`).
-/
import Simpleline.Lemmas.InputEff

namespace Simpleline.InputOrder
open Input

def _root_.Simpleline.Instr.pre (k : Nat) : Instr → List Str
  | .processSignal s => if s.okReady = true then [s.line] else []
  | .dispatch s i => if s.okReady = true ∧ i ≤ k + s.ih then [s.line] else []
  | .callH (.ih n) _ s => if s.okReady = true ∧ s.ih = n then [s.line] else []
  | _ => []

def _root_.Simpleline.Instr.post : Instr → List Str
  | .inputReady n s => if s.okReady = true ∧ s.ih = n then [s.line] else []
  | .processInput _ key => [key]
  | .callScr _ .input _ (some key) => [key]
  | _ => []

def _root_.Simpleline.Instr.lines (k : Nat) (i : Instr) : List Str := i.pre k ++ i.post

def _root_.Simpleline.Instr.recvSig? : Instr → Option Sig
  | .processSignal s => if s.cls = .inputReceived then some s else none
  | .dispatch s i => if s.cls = .inputReceived ∧ i = 0 then some s else none
  | .callH .itm _ s => some s
  | .inputReceived s => some s
  | _ => none

def _root_.Simpleline.Instr.recvL (last : Option Str) (i : Instr) : Prop :=
  ∀ s, i.recvSig? = some s → last = some s.line

def Qc (k : Nat) (code : List Instr) : List Str := code.flatMap (Instr.lines k)

def nPre (k : Nat) (code : List Instr) : Nat := (code.flatMap (Instr.pre k)).length

def postFree (code : List Instr) : Prop := ∀ i ∈ code, i.post = []

def codeL (last : Option Str) (code : List Instr) : Prop := ∀ ins ∈ code, ins.recvL last

def Rv (code : List Instr) : List Sig := code.flatMap fun i => i.recvSig?.toList

def _root_.Simpleline.Instr.toks (k : Nat) (i : Instr) : List Str := i.recvSig?.toList.map (·.line) ++ i.lines k

theorem pre_of_inert {i : Instr} (h : i.inert = true) (k : Nat) : i.pre k = [] := by
  cases i <;> first | rfl | cases h

theorem post_of_inert {i : Instr} (h : i.inert = true) : i.post = [] := by
  cases i with
  | callScr scr cb arg key => cases cb <;> cases key <;> first | rfl | cases h
  | _ => first | rfl | cases h

theorem recvSig?_of_inert {i : Instr} (h : i.inert = true) : i.recvSig? = none := by
  cases i <;> first | rfl | cases h

theorem recvL_of_none {last : Option Str} {i : Instr} (h : i.recvSig? = none) : i.recvL last := by
  intro s hs; rw [h] at hs; cases hs

def carriers (code : List Instr) : List Instr := code.filter fun i => !i.inert

theorem carriers_append (is js : List Instr) : carriers (is ++ js) = carriers is ++ carriers js :=
  List.filter_append ..

theorem carriers_of_inert {is : List Instr} (h : is.all Instr.inert = true) : carriers is = [] := by
  rw [carriers, List.filter_eq_nil_iff]
  intro i hi
  simp [List.all_eq_true.mp h i hi]

theorem carriers_sublist (is : List Instr) : (carriers is).Sublist is := List.filter_sublist

theorem carriers_pushed {new rest' rest : List Instr} (hn : new.all Instr.inert = true) (h : rest'.Sublist rest) :
    (carriers (new ++ rest')).Sublist rest := by
  rw [carriers_append, carriers_of_inert hn]; exact (carriers_sublist _).trans h

theorem flatMap_carriers {α} {f : Instr → List α} (hf : ∀ i, i.inert = true → f i = []) (code : List Instr) :
    (carriers code).flatMap f = code.flatMap f := by
  induction code with
  | nil => rfl
  | cons i is ih =>
    cases hi : i.inert
    · simp [carriers, hi] at ih ⊢; exact ih
    · simp [carriers, hi, hf i hi] at ih ⊢; exact ih

theorem flatMap_sublist {α} (f : Instr → List α) {is js : List Instr} (h : is.Sublist js) :
    (is.flatMap f).Sublist (js.flatMap f) := by
  induction h with
  | slnil => exact .slnil
  | cons a _ ih => rw [List.flatMap_cons]; exact ih.trans (List.sublist_append_right _ _)
  | cons_cons a _ ih => rw [List.flatMap_cons, List.flatMap_cons]; exact (List.Sublist.refl _).append ih

theorem flatMap_sublist_of_carriers {α} {f : Instr → List α} (hf : ∀ i, i.inert = true → f i = [])
    {is js : List Instr} (h : (carriers is).Sublist js) : (is.flatMap f).Sublist (js.flatMap f) := by
  rw [← flatMap_carriers hf is]
  exact flatMap_sublist f h

@[simp] theorem Qc_nil (k : Nat) : Qc k [] = [] := rfl
@[simp] theorem Qc_cons (k : Nat) (i : Instr) (is : List Instr) : Qc k (i :: is) = i.lines k ++ Qc k is := by
  simp [Qc]
@[simp] theorem Qc_append (k : Nat) (is js : List Instr) : Qc k (is ++ js) = Qc k is ++ Qc k js := by
  simp [Qc]

theorem lines_of_inert {i : Instr} (h : i.inert = true) (k : Nat) : i.lines k = [] := by
  rw [Instr.lines, pre_of_inert h, post_of_inert h]; rfl

theorem toks_of_inert {i : Instr} (h : i.inert = true) (k : Nat) : i.toks k = [] := by
  rw [Instr.toks, recvSig?_of_inert h, lines_of_inert h]; rfl

@[simp] theorem Rv_cons (i : Instr) (is : List Instr) : Rv (i :: is) = i.recvSig?.toList ++ Rv is := by
  simp [Rv]

theorem Rv_carriers {is js : List Instr} (h : (carriers is).Sublist js) : (Rv is).Sublist (Rv js) :=
  flatMap_sublist_of_carriers (fun _ hi => by rw [recvSig?_of_inert hi]; rfl) h

theorem Rv_of_inert {is : List Instr} (h : is.all Instr.inert = true) : Rv is = [] :=
  List.eq_nil_of_sublist_nil (Rv_carriers (js := []) (by rw [carriers_of_inert h]; exact .slnil))

theorem mem_Rv {s : Sig} {code : List Instr} : s ∈ Rv code ↔ ∃ i ∈ code, i.recvSig? = some s := by
  simp [Rv, List.mem_flatMap]

theorem count_toks (l : Str) (k : Nat) (code : List Instr) :
    (code.flatMap (Instr.toks k)).count l = ((Rv code).map (·.line)).count l + (Qc k code).count l := by
  induction code with
  | nil => rfl
  | cons i is ih =>
    simp only [List.flatMap_cons, Rv, Qc, Instr.toks, List.count_append, List.map_append] at ih ⊢
    omega

theorem Qc_carriers {k : Nat} {is js : List Instr} (h : (carriers is).Sublist js) : (Qc k is).Sublist (Qc k js) :=
  flatMap_sublist_of_carriers (fun _ hi => lines_of_inert hi k) h

theorem Qc_of_inert {is : List Instr} (h : is.all Instr.inert = true) (k : Nat) : Qc k is = [] :=
  List.eq_nil_of_sublist_nil (Qc_carriers (js := []) (by rw [carriers_of_inert h]; exact .slnil))

@[simp] theorem nPre_nil (k : Nat) : nPre k [] = 0 := rfl
@[simp] theorem nPre_cons (k : Nat) (i : Instr) (is : List Instr) :
    nPre k (i :: is) = (i.pre k).length + nPre k is := by
  simp [nPre]
@[simp] theorem nPre_append (k : Nat) (is js : List Instr) : nPre k (is ++ js) = nPre k is + nPre k js := by
  simp [nPre]

theorem nPre_carriers {k : Nat} {is js : List Instr} (h : (carriers is).Sublist js) : nPre k is ≤ nPre k js :=
  (flatMap_sublist_of_carriers (fun _ hi => pre_of_inert hi k) h).length_le

theorem nPre_of_inert {is : List Instr} (h : is.all Instr.inert = true) (k : Nat) : nPre k is = 0 :=
  Nat.le_zero.mp (nPre_carriers (js := []) (by rw [carriers_of_inert h]; exact .slnil))

theorem nPre_sublist {k : Nat} {is js : List Instr} (h : is.Sublist js) : nPre k is ≤ nPre k js :=
  nPre_carriers ((carriers_sublist is).trans h)

@[simp] theorem postFree_cons (i : Instr) (is : List Instr) : postFree (i :: is) ↔ i.post = [] ∧ postFree is := by
  simp [postFree]
theorem Qc_eq_nil {k : Nat} {code : List Instr} (h1 : nPre k code = 0) (h2 : postFree code) : Qc k code = [] := by
  induction code with
  | nil => rfl
  | cons i is ih =>
    simp only [nPre_cons, Nat.add_eq_zero_iff, List.length_eq_zero_iff] at h1
    simp only [postFree_cons] at h2
    simp [Instr.lines, h1.1, h2.1, ih h1.2 h2.2]

@[simp] theorem codeL_nil (last : Option Str) : codeL last [] := by simp [codeL]
@[simp] theorem codeL_cons (last : Option Str) (i : Instr) (is : List Instr) :
    codeL last (i :: is) ↔ i.recvL last ∧ codeL last is := by simp [codeL]
@[simp] theorem codeL_append (last : Option Str) (is js : List Instr) :
    codeL last (is ++ js) ↔ codeL last is ∧ codeL last js := by
  simp [codeL, or_imp, forall_and]

theorem codeL_iff {last : Option Str} {code : List Instr} : codeL last code ↔ ∀ s ∈ Rv code, last = some s.line := by
  simp only [mem_Rv]
  exact ⟨fun h s ⟨i, hi, hs⟩ => h i hi s hs, fun h i hi s hs => h s ⟨i, hi, hs⟩⟩

theorem codeL_carriers {last : Option Str} {is js : List Instr} (h : (carriers is).Sublist js) (hj : codeL last js) :
    codeL last is :=
  codeL_iff.mpr fun s hs => codeL_iff.mp hj s ((Rv_carriers h).subset hs)

theorem codeL_of_inert {is : List Instr} (h : is.all Instr.inert = true) (last : Option Str) : codeL last is :=
  codeL_carriers (js := []) (by rw [carriers_of_inert h]; exact .slnil) (codeL_nil last)

theorem post_callH (h : HRef) (d : Option Nat) (s : Sig) : (Instr.callH h d s).post = [] := rfl
theorem post_dispatch (s : Sig) (i : Nat) : (Instr.dispatch s i).post = [] := rfl

theorem pre_dispatch_zero (k : Nat) (s : Sig) : (Instr.dispatch s 0).pre k = (Instr.processSignal s).pre k := by
  simp [Instr.pre]

theorem lines_dispatch_zero (k : Nat) (s : Sig) : (Instr.dispatch s 0).lines k = (Instr.processSignal s).lines k := by
  simp [Instr.lines, Instr.pre, Instr.post]

end Simpleline.InputOrder
