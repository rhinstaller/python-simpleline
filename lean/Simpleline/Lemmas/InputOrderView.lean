/-
  C06b: the history predicates of `Spec/InputOrderSpec.lean` describe the state. The replayed level stack
  `levelsOf c.tr` is `c.L.levels` in every reachable configuration, and `readyPending q c.tr` is the number of
  successful `InputReadySignal`s in queue object `q` (a queue is the replay of its history: `WF.reach`). Hence under
  `NoReadyCovered` no covered level holds such a signal.
-/
import Simpleline.Lemmas.InputOrderTrace
import Simpleline.Lemmas.LoopProps

namespace Simpleline.InputOrder

def LevOK (v : QView) : Prop := levelsOf v.tr = v.levels

theorem isStruct_of_boring {t : Tr} (h : t.boring = true) : t.isStruct = false := by
  cases t <;> first | rfl | cases h

theorem LevOK.note {v : QView} (h : LevOK v) (t : Tr) (ht : t.isStruct = false) : LevOK (v.note t) := by
  show levelsOf (t :: v.tr) = v.levels
  rw [levelsOf_cons_other t _ ht]; exact h

theorem LevOK.enq {v : QView} (h : LevOK v) (s : Sig) : LevOK (v.enq s) := by
  unfold LevOK
  rw [enq_tr, enq_levels, levelsOf_cons_other _ _ (by split <;> rfl)]
  exact h

theorem LevOK.enqSteps {v v' : QView} (hs : EnqSteps v v') (h : LevOK v) : LevOK v' := by
  induction hs with
  | refl => exact h
  | enq s _ ih => exact ih.enq s
  | note t hb _ ih => exact ih.note t (isStruct_of_boring hb)

theorem LevOK.struct {v v' : QView} (hs : StructOp v v') (h : LevOK v) : LevOK v' := by
  cases hs with
  | addSrc s => exact h
  | forceQuit => rfl
  | apprun => exact h
  | setRun => exact h
  | «open» hf =>
    show levelsOf (Tr.openLevel _ _ :: v.tr) = v.levels ++ [_]
    simp only [levelsOf]; rw [h]
  | pop q hq =>
    unfold LevOK
    rw [pop_levels]
    have : (v.pop q).tr = .closeLevel q :: v.tr := by unfold QView.pop; split <;> rfl
    rw [this]
    simp only [levelsOf]; rw [h]

theorem LevOK.plain {v v' : QView} (hp : Plain v v') (h : LevOK v) : LevOK v' := by
  obtain ⟨vm, h1, h2⟩ := hp
  rcases h1 with rfl | h1
  · exact h.enqSteps h2
  · exact (h.struct h1).enqSteps h2

theorem LevOK.takeV {v v' : QView} (ht : TakeV v v') (h : LevOK v) : LevOK v' := by
  obtain ⟨e, es, _, rfl⟩ := ht
  exact h

theorem LevOK.eff {c c' : Cfg} (he : Eff c c') (h : LevOK c.view) : LevOK c'.view := by
  rcases he with hp | ⟨vm, h1, h2⟩ | ⟨e, es, _, h2⟩
  · exact h.plain hp
  · rcases h1 with rfl | ⟨_, d, hd, rfl⟩
    · exact h.takeV h2
    · exact (h.plain (Plain.deliver hd Plain.rfl')).takeV h2
  · rw [h2]; exact h

theorem levOK_reach {P : Prog} {c0 c : Cfg} (h0 : Started c0) (h : Reach P c0 c) : levelsOf c.tr = c.L.levels := by
  show LevOK c.view
  induction h with
  | init => obtain ⟨i, hd, qc, si, rfl⟩ := h0; rfl
  | step _ hs ih => exact ih.eff (trans_eff (.step hs))
  | deliver _ hd ih => exact ih.eff (trans_eff (P := P) (.deliver hd))
  | halt _ hs ih => exact ih.eff (trans_eff (.halt hs))

theorem readyPending_reach {P : Prog} {c0 c : Cfg} (h0 : Started c0) (h : Reach P c0 c) (q : Nat) :
    readyPending q c.tr = (c.queue q).sigs.countP Sig.okReady := by
  have wf := WF.reach h0 h
  have := wf.replay q
  show _ = (c.view.queue q).sigs.countP _
  rw [this]
  exact readyPending_eq_replay q wf.heads

theorem covered_no_ready {P : Prog} {c0 c : Cfg} (h0 : Started c0) (h : Reach P c0 c) (hN : NoReadyCovered c.tr) :
    ∀ q ∈ c.L.levels.dropLast, ∀ s ∈ (c.queue q).sigs, s.okReady = false := by
  intro q hq s hs
  have h1 := noReadyCovered_now hN q (by rw [levOK_reach h0 h]; exact hq)
  rw [readyPending_reach h0 h q, List.countP_eq_zero] at h1
  simpa using h1 s hs

end Simpleline.InputOrder
