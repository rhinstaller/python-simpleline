/-
  The queues as a multiset of pending signals. What the input-pipeline invariants ask of the queue store (how many
  pending signals satisfy a predicate, whether all do) depends only on `Cfg.pending` up to permutation, so it is
  enough to know what `enqueue`, `pop` and `deliver` do to that multiset.
-/
import Simpleline.Lemmas.InputFrame
import Simpleline.Lemmas.LoopQueue

namespace Simpleline.Input

theorem sigs_put (q : EQueue) (s : Sig) : (q.put s).sigs.Perm (s :: q.sigs) :=
  (insertEntry_perm _ _).map _

/-- changing queue `i` by `f`, where `f` trades the signals `a` for the signals `b` -/
theorem flatMap_sigs_listSet (qs : List EQueue) (i : Nat) (f : EQueue → EQueue) (a b : List Sig) (hi : i < qs.length)
    (hf : (a ++ (f (qs.getD i {})).sigs).Perm (b ++ (qs.getD i {}).sigs)) :
    (a ++ (listSet qs i f).flatMap EQueue.sigs).Perm (b ++ qs.flatMap EQueue.sigs) := by
  unfold listSet
  induction qs generalizing i with
  | nil => cases hi
  | cons q qs ih =>
    cases i with
    | zero =>
      simp only [List.modify_zero_cons, List.flatMap_cons, ← List.append_assoc]
      exact hf.append_right _
    | succ i =>
      simp only [List.modify_succ_cons, List.flatMap_cons]
      exact (List.perm_append_comm_assoc _ _ _).trans
        (((ih i (by simpa using hi) hf).append_left _).trans (List.perm_append_comm_assoc _ _ _))

theorem listSet_of_le {α} {l : List α} {i : Nat} (f : α → α) (h : l.length ≤ i) : listSet l i f = l :=
  List.modify_eq_self h

/-- a signal that is enqueued becomes pending, unless the loop was force-quit or the signal is routed nowhere -/
theorem pending_enqueue (c : Cfg) (s : Sig) :
    ∃ d, d.Sublist [s] ∧ (c.enqueue s).pending.Perm (d ++ c.pending) := by
  unfold Cfg.pending
  rw [enqueue_queues]
  split
  · exact ⟨[], List.nil_sublist _, .refl _⟩
  · by_cases hi : c.L.route s.src < c.L.queues.length
    · exact ⟨[s], .refl _, flatMap_sigs_listSet _ _ _ [] [s] hi (sigs_put _ s)⟩
    · rw [listSet_of_le _ (Nat.le_of_not_lt hi)]
      exact ⟨[], List.nil_sublist _, .refl _⟩

theorem pending_enqueueAll (sigs : List Sig) (c : Cfg) :
    ∃ d, d.Sublist sigs ∧ (enqueueAll c sigs).pending.Perm (d ++ c.pending) := by
  induction sigs generalizing c with
  | nil => exact ⟨[], .refl _, .refl _⟩
  | cons s ss ih =>
    obtain ⟨d1, h1, p1⟩ := pending_enqueue c s
    obtain ⟨d2, h2, p2⟩ := ih (c.enqueue s)
    refine ⟨d1 ++ d2, h1.append h2, p2.trans ?_⟩
    rw [List.append_assoc]
    exact (p1.append_left d2).trans (List.perm_append_comm_assoc _ _ _)

theorem pending_addSource (qs : List EQueue) (i : Nat) (src : Src) :
    (listSet qs i (addSource · src)).flatMap EQueue.sigs = qs.flatMap EQueue.sigs := by
  unfold listSet
  induction qs generalizing i with
  | nil => rw [List.modify_nil]
  | cons q qs ih =>
    cases i with
    | zero => simp only [List.modify_zero_cons, List.flatMap_cons]; unfold addSource; split <;> rfl
    | succ i => simp only [List.modify_succ_cons, List.flatMap_cons, ih]

theorem active_lt {c : Cfg} {e : Int × Nat × Sig} {es : List (Int × Nat × Sig)} (h : c.L.activeQ.entries = e :: es) :
    c.L.active < c.L.queues.length := by
  refine Decidable.byContradiction fun hn => ?_
  unfold LoopSt.activeQ at h
  rw [List.getD_eq_getElem?_getD, List.getElem?_eq_none (Nat.le_of_not_lt hn)] at h
  cases h

theorem pending_pop {c : Cfg} {e : Int × Nat × Sig} {es : List (Int × Nat × Sig)} (h : c.L.activeQ.entries = e :: es) :
    (e.2.2 :: (c.pop e es).pending).Perm c.pending := by
  refine flatMap_sigs_listSet c.L.queues c.L.active _ [e.2.2] [] (active_lt h) ?_
  unfold LoopSt.activeQ at h
  simp only [EQueue.sigs, h, List.map_cons]
  exact .refl _

theorem forall_entries_iff {ok : Sig → Prop} (qs : List EQueue) :
    (∀ q ∈ qs, ∀ e ∈ q.entries, ok e.2.2) ↔ ∀ s ∈ qs.flatMap EQueue.sigs, ok s := by
  simp only [List.mem_flatMap, EQueue.sigs, List.mem_map]
  exact ⟨fun h s ⟨q, hq, e, he, hs⟩ => hs ▸ h q hq e he, fun h q hq e he => h _ ⟨q, hq, e, he, rfl⟩⟩

theorem all_enqueueAll {ok : Sig → Prop} (sigs : List Sig) (c : Cfg) (hs : ∀ s ∈ sigs, ok s)
    (h : ∀ s ∈ c.pending, ok s) : ∀ s ∈ (enqueueAll c sigs).pending, ok s := by
  obtain ⟨d, hd, hp⟩ := pending_enqueueAll sigs c
  intro s hx
  rcases List.mem_append.mp (hp.subset hx) with hx | hx
  · exact hs s (hd.subset hx)
  · exact h s hx

theorem all_pop {ok : Sig → Prop} {c : Cfg} {e : Int × Nat × Sig} {es : List (Int × Nat × Sig)}
    (he : c.L.activeQ.entries = e :: es) (h : ∀ s ∈ c.pending, ok s) :
    (∀ s ∈ (c.pop e es).pending, ok s) ∧ ok e.2.2 :=
  have hp := pending_pop he
  ⟨fun s hs => h s (hp.subset (List.mem_cons_of_mem _ hs)), h _ (hp.subset List.mem_cons_self)⟩

theorem countP_enqueue_le (p : Sig → Bool) (c : Cfg) (s : Sig) :
    (c.enqueue s).pending.countP p ≤ c.pending.countP p + (if p s then 1 else 0) := by
  obtain ⟨d, hd, hp⟩ := pending_enqueue c s
  have := hd.countP_le (p := p)
  rw [hp.countP_eq, List.countP_append, List.countP_singleton] at *
  omega

theorem countP_pop (p : Sig → Bool) {c : Cfg} {e : Int × Nat × Sig} {es : List (Int × Nat × Sig)}
    (h : c.L.activeQ.entries = e :: es) :
    (c.pop e es).pending.countP p + (if p e.2.2 then 1 else 0) = c.pending.countP p := by
  rw [← (pending_pop h).countP_eq, List.countP_cons]

theorem countP_enqueueAll_le (p : Sig → Bool) (c : Cfg) (sigs : List Sig) :
    (enqueueAll c sigs).pending.countP p ≤ c.pending.countP p + sigs.countP p := by
  obtain ⟨d, hd, hp⟩ := pending_enqueueAll sigs c
  have := hd.countP_le (p := p)
  rw [hp.countP_eq, List.countP_append]
  omega

theorem countP_deliver_le (p : Sig → Bool) {c c' : Cfg} (h : c.deliver = some c') :
    ∃ r s, c.A.readers = r :: c'.A.readers ∧ s.cls = .inputReceived ∧ s.line = c.A.stdin.headD [] ∧
      c'.pending.countP p ≤ c.pending.countP p + (if p s then 1 else 0) := by
  obtain ⟨r, rs, hr, rfl⟩ := deliver_eq h
  exact ⟨r, _, by rw [enqueue_A]; exact hr, rfl, rfl, countP_enqueue_le p _ _⟩

end Simpleline.Input
