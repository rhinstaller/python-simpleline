/-
  The statement of the master lemma of the shape proofs (proved in `ShapeStepProof`): every machine transition,
  seen through the shape view, is one of a small number of abstract transitions (`SStepE`, which also records the
  shape events added; `SStep` forgets them): the head instruction is replaced by a *batch* (`Batch`, state
  otherwise untouched), or one of the few state-changing operations happens, or an exception unwinds the code.
-/
import Simpleline.Lemmas.ShapeView

namespace Simpleline

open Shape

/-- acts that only touch queues -/
def Act.silent : Act → Bool
  | .regSource _ | .closeSig _ | .redrawSig _ | .schedRedraw => true
  | _ => false

/-- instructions whose only effect on the shape view is to disappear (when they do not raise) -/
def Instr.passive : Instr → Bool
  | .catchExit | .quitCb | .catchHandler | .catchPS | .catchDraw | .catchPI _ | .endPI | .hret _ | .note _
  | .scrRet .. | .printLines _ | .classify _ | .inputReceived _ | .afterQuit _ | .getInput2 .. | .closeScreen3 _
  | .afterSetupFail _ => true
  | _ => false

def Instr.canRaise : Instr → Kind → Bool
  | .act .raiseExit, .exit => true
  | .act .raiseErr, .err => true
  | .act (.replace ..), .err => true
  | .popLevel, .err => true
  | .closeScreen _, .err => true
  | .closeScreen2 .., .err => true
  | .closeScreen3 _, .exit => true
  | .processScreen, .exit => true
  | .afterSetup _, .err => true
  | .afterSetupFail _, .exit => true
  | .identCheck _, .exit => true
  | .printWidget _, .err => true
  | .getInput2 .., .err => true
  | .blockingInput .., .err => true
  | .inputReceived _, .err => true
  | .countAndAct _, .exit => true
  | .afterQuit _, .exit => true
  | _, _ => false

/-- the instructions at which a run can stop without an exception (blocked, livelock, nothing scheduled) -/
def Instr.canHalt : Instr → Bool
  | .apprun | .getDispatch | .waitStep .. | .printWidget _ | .waitInput _ => true
  | _ => false

/-- `Batch P v h B evs`: in view `v`, head instruction `h` may be replaced by the instructions `B`,
adding the shape events `evs` (newest first), with no other change of the view -/
inductive Batch (P : Prog) (v : SV) : Instr → List Instr → List Tr → Prop
  | passive {h : Instr} : h.passive = true → Batch P v h [] []
  | actSilent {a : Act} : a.silent = true → Batch P v (.act a) [] []
  | actNewLoop (cls : Cls) (prio : Int) (sid : Nat) :
      Batch P v (.act (.newLoop cls prio sid)) [.newLoop { id := sid, cls := cls, prio := prio, src := .none }, .note "new<"] []
  | actCloseLoop : Batch P v (.act .closeLoop) [.closeLoop, .note "closed<"] []
  | actProcNone : Batch P v (.act (.proc none)) [.procIter none, .note "proc<"] [.procBegin]
  | actProcSome (cls : Cls) : Batch P v (.act (.proc (some cls))) [.procWait cls, .note "proc<"] []
  | actPushModal (scr : Nat) (args : Option Nat) :
      Batch P v (.act (.pushModal scr args)) [.pushModal scr args, .note "modal<"] []
  | actCloseDirect : Batch P v (.act .closeDirect) [.closeScreen none] []
  | actGetUserInput (scr : Nat) (hidden : Bool) :
      Batch P v (.act (.getUserInput scr hidden)) [.blockingInput scr false, .note "gui<"] []
  | mainLoop (q : Nat) : v.runLoop = true → Batch P v (.mainCheck q) [.loopCheck, .mainCheck q] []
  | mainExit (q : Nat) : v.runLoop = false → Batch P v (.mainCheck q) [.restoreRun] [.loopReturn q]
  | restoreFQ : v.forceQuit = true → Batch P v .restoreRun [] []
  | loopGo : v.runLoop = true → Batch P v .loopCheck [.getDispatch, .loopCheck] []
  | loopEnd : v.runLoop = false → Batch P v .loopCheck [] []
  | getDispatch (s : Sig) : Batch P v .getDispatch [.processSignal s] [.take v.active s]
  | psDispatch (s : Sig) : Batch P v (.processSignal s) [.dispatch s 0] []
  | psKill (s : Sig) : Batch P v (.processSignal s) [.kill s] []
  | psNone (s : Sig) : Batch P v (.processSignal s) [] []
  | dispCall (s : Sig) (i : Nat) (h : HRef) (d : Option Nat) : v.forceQuit = false →
      Batch P v (.dispatch s i) [.callH h d s, .catchHandler, .dispatch s (i + 1)] []
  | dispDone (s : Sig) (i : Nat) : Batch P v (.dispatch s i) [] []
  | callRender (d : Option Nat) (s : Sig) : Batch P v (.callH .render d s) [.processScreen] []
  | callClose (d : Option Nat) (s : Sig) : Batch P v (.callH .close d s) [.closeScreen (some s.src)] []
  | callItm (d : Option Nat) (s : Sig) : Batch P v (.callH .itm d s) [.inputReceived s] []
  | callIh (n : Nat) (d : Option Nat) (s : Sig) : Batch P v (.callH (.ih n) d s) [.inputReady n s] []
  | callExc (d : Option Nat) (s : Sig) : Batch P v (.callH .exc d s) [] []
  | callUser (hid : Nat) (d : Option Nat) (s : Sig) (n : Nat) :
      Batch P v (.callH (.user hid) d s) ((P.handlerScript hid n).map .act ++ [.hret hid]) []
  | procWait (cls : Cls) (t : Nat) : Batch P v (.procWait cls) [.waitStep cls t] []
  | waitTake (cls : Cls) (t : Nat) (s : Sig) : v.runLoop = true →
      Batch P v (.waitStep cls t) [.processSignal s, .waitCheck cls t] [.take v.active s]
  | waitEnd (cls : Cls) (t : Nat) : v.runLoop = false → Batch P v (.waitStep cls t) [] []
  | waitCheckDone (cls : Cls) (t : Nat) : Batch P v (.waitCheck cls t) [] []
  | waitCheckAgain (cls : Cls) (t : Nat) : Batch P v (.waitCheck cls t) [.waitStep cls t] []
  | procEnd (p : Option Int) : Batch P v (.procIter p) [] [.procEnd]
  | procTake (p : Option Int) (s : Sig) (p' : Int) : v.runLoop = true →
      Batch P v (.procIter p) [.processSignal s, .procIter (some p')] [.take v.active s]
  | newLoopFQ (s : Sig) : v.forceQuit = true → Batch P v (.newLoop s) [] []
  | closeLoop (n : Nat) : Batch P v .closeLoop [.procIter none, .popLevel] [.procBegin, .closeReq v.runLoop n]
  | modalRet (e : Entry) : Batch P v (.modalRet e) [] [.modalEnd e]
  | close2Modal (e : Entry) (frm : Option Src) : e.modal = true →
      Batch P v (.closeScreen2 e frm) [.closeLoop, .closeScreen3 e] []
  | close2Plain (e : Entry) (frm : Option Src) : e.modal = false →
      Batch P v (.closeScreen2 e frm) [.closeScreen3 e] []
  | psReady (top : Entry) : v.stack.getLast? = some top → Batch P v .processScreen [.afterSetup2 top] []
  | psSetup (top : Entry) : v.stack.getLast? = some top →
      Batch P v .processScreen [.callScr top.screen .setup top.args none, .afterSetup top] []
  | afterSetupOk (top : Entry) : Batch P v (.afterSetup top) [.afterSetup2 top] []
  | afterSetup2 (top : Entry) :
      Batch P v (.afterSetup2 top) [.callScr top.screen .refresh top.args none, .identCheck top, .catchPS] [.refresh top]
  | identOk (top l : Entry) : v.stack.getLast? = some l → l.eid = top.eid →
      Batch P v (.identCheck top) [.drawScreen top, .maybeInput top] []
  | drawScreen (top : Entry) :
      Batch P v (.drawScreen top) [.callScr top.screen .show none none, .catchDraw] [.show top]
  | maybeInputYes (top : Entry) : Batch P v (.maybeInput top) [.getInput top.screen top.args] []
  | maybeInputNo (top : Entry) : Batch P v (.maybeInput top) [] []
  | callScr (scr : Nat) (cb : Cb) (arg : Option Nat) (key : Option Str) (n : Nat) :
      Batch P v (.callScr scr cb arg key)
        ((if cb = .show then [.printWidget scr] else []) ++ (P.screenScript scr cb n).acts.map .act ++
          [.scrRet scr cb (P.screenScript scr cb n).ret key]) []
  | printWidget (scr : Nat) (B : List Instr) :
      (∀ i ∈ B, (∃ ls, i = .printLines ls) ∨ i = .blockingInput scr true) → Batch P v (.printWidget scr) B []
  | getInput (scr : Nat) (args : Option Nat) :
      Batch P v (.getInput scr args) [.callScr scr .prompt args none, .getInput2 scr args] []
  | blockingInput (scr : Nat) (cont : Bool) (ih : Nat) : Batch P v (.blockingInput scr cont) [.waitInput ih] []
  | waitInputDone (ih : Nat) : Batch P v (.waitInput ih) [] []
  | waitInputWait (ih : Nat) : v.runLoop = true →
      Batch P v (.waitInput ih) [.procWait .inputReady, .waitInput ih] []
  | inputReadyNone (n : Nat) (s : Sig) : Batch P v (.inputReady n s) [] []
  | inputReadyCb (n : Nat) (s : Sig) (scr : Nat) : Batch P v (.inputReady n s) [.processInput scr s.line] []
  | processInput (scr : Nat) (key : Str) (a : Option Nat) :
      Batch P v (.processInput scr key)
        [.callScr scr .input a (some key), .classify scr, .catchPI scr, .countAndAct scr, .endPI] []
  | caaNone (scr : Nat) : Batch P v (.countAndAct scr) [] []
  | caaInput (scr : Nat) (top : Entry) : v.stack.getLast? = some top →
      Batch P v (.countAndAct scr) [.getInput top.screen top.args] []
  | caaClose (scr : Nat) : Batch P v (.countAndAct scr) [.closeScreen none] []
  | caaQuit (scr q : Nat) : P.quitScreen = some q → Batch P v (.countAndAct scr) [.pushModal q none, .afterQuit q] []

def notCatchPS : Instr → Bool
  | .catchPS => false
  | _ => true

/-- the abstract transitions of the shape view: `SStepE P v evs v'` — from `v` to `v'`, adding the shape
events `evs` (newest first) -/
inductive SStepE (P : Prog) : SV → List Tr → SV → Prop
  | stutter (v : SV) : SStepE P v [] v
  | batch {v : SV} {h : Instr} {rest B : List Instr} {evs : List Tr} :
      v.code = h :: rest → Batch P v h B evs → SStepE P v evs { v with code := B ++ rest, ev := evs ++ v.ev }
  | halt {v : SV} {h : Instr} {rest : List Instr} :
      v.code = h :: rest → h.canHalt = true → SStepE P v [] { v with code := rest }
  | raise {v : SV} {h : Instr} {rest : List Instr} {k : Kind} :
      v.code = h :: rest → h.canRaise k = true → SStepE P v (exitEv k) (raisedSV k { v with code := rest })
  | kill {v : SV} {s : Sig} {rest : List Instr} :
      v.code = .kill s :: rest → SStepE P v [.kill] { v with code := [], ev := .kill :: v.ev }
  | forceQuit {v : SV} {rest : List Instr} :
      v.code = .act .forceQuit :: rest →
      SStepE P v [.forceQuit]
        { v with code := rest, forceQuit := true, levels := [], runLoop := false, ev := .forceQuit :: v.ev }
  | schedule {v : SV} {rest : List Instr} {scr : Nat} {args : Option Nat} :
      v.code = .act (.schedule scr args) :: rest →
      SStepE P v [.stackOp "schedule" (⟨v.nextEid, scr, args, false⟩ :: v.stack)]
        { v with code := rest, stack := ⟨v.nextEid, scr, args, false⟩ :: v.stack, nextEid := v.nextEid + 1,
                 ev := .stackOp "schedule" (⟨v.nextEid, scr, args, false⟩ :: v.stack) :: v.ev }
  | pushScr {v : SV} {rest : List Instr} {scr : Nat} {args : Option Nat} :
      v.code = .act (.push scr args) :: rest →
      SStepE P v [.stackOp "push" (v.stack ++ [⟨v.nextEid, scr, args, false⟩])]
        { v with code := rest, stack := v.stack ++ [⟨v.nextEid, scr, args, false⟩], nextEid := v.nextEid + 1,
                 ev := .stackOp "push" (v.stack ++ [⟨v.nextEid, scr, args, false⟩]) :: v.ev }
  | replace {v : SV} {rest : List Instr} {scr : Nat} {args : Option Nat} {old : Entry} :
      v.code = .act (.replace scr args) :: rest → v.stack.getLast? = some old →
      SStepE P v [.stackOp "replace" (v.stack.dropLast ++ [⟨v.nextEid, scr, args, old.modal⟩])]
        { v with code := rest, stack := v.stack.dropLast ++ [⟨v.nextEid, scr, args, old.modal⟩],
                 nextEid := v.nextEid + 1,
                 ev := .stackOp "replace" (v.stack.dropLast ++ [⟨v.nextEid, scr, args, old.modal⟩]) :: v.ev }
  | apprun {v : SV} {rest : List Instr} :
      v.code = .apprun :: rest →
      SStepE P v [] { v with code := [.mainCheck 0, .catchExit, .quitCb] ++ rest, forceQuit := false, runLoop := true }
  | restore {v : SV} {rest : List Instr} :
      v.code = .restoreRun :: rest → v.forceQuit = false → SStepE P v [] { v with code := rest, runLoop := true }
  | enqAct {v : SV} {rest : List Instr} {cls : Cls} {prio : Int} {src : Src} {sid : Nat} :
      v.code = .act (.enq cls prio src sid) :: rest →
      SStepE P v [] (SV.noteExc { v with code := rest } (cls == .exception))
  | «open» {v : SV} {rest : List Instr} {s : Sig} :
      v.code = .newLoop s :: rest → v.forceQuit = false →
      SStepE P v [.openLevel v.nq v.runLoop]
        (SV.noteExc { v with code := .mainCheck v.nq :: rest, levels := v.levels ++ [v.nq], active := v.nq,
                             nq := v.nq + 1, ev := .openLevel v.nq v.runLoop :: v.ev } (s.cls == .exception))
  | pop {v : SV} {rest : List Instr} {q a : Nat} :
      v.code = .popLevel :: rest → v.levels.getLast? = some q → v.levels.dropLast.getLast? = some a →
      SStepE P v [.closeLevel q]
        { v with code := rest, levels := v.levels.dropLast, active := a, runLoop := false,
                 ev := .closeLevel q :: v.ev }
  | popExit {v : SV} {rest : List Instr} {q : Nat} :
      v.code = .popLevel :: rest → v.levels.getLast? = some q → v.levels.dropLast.getLast? = none →
      SStepE P v [.exit, .closeLevel q]
        (raisedSV .exit { v with code := rest, levels := [], ev := .closeLevel q :: v.ev })
  | pushModal {v : SV} {rest : List Instr} {scr : Nat} {args : Option Nat} {s : Sig} :
      v.code = .pushModal scr args :: rest →
      SStepE P v [.modalBegin ⟨v.nextEid, scr, args, true⟩, .stackOp "pushModal" (v.stack ++ [⟨v.nextEid, scr, args, true⟩])]
        { v with code := .newLoop s :: .modalRet ⟨v.nextEid, scr, args, true⟩ :: rest,
                 stack := v.stack ++ [⟨v.nextEid, scr, args, true⟩], nextEid := v.nextEid + 1,
                 ev := .modalBegin ⟨v.nextEid, scr, args, true⟩ ::
                       .stackOp "pushModal" (v.stack ++ [⟨v.nextEid, scr, args, true⟩]) :: v.ev }
  | closeScreen {v : SV} {rest : List Instr} {frm : Option Src} {e : Entry} :
      v.code = .closeScreen frm :: rest → v.stack.getLast? = some e →
      SStepE P v [.stackOp "close" v.stack.dropLast]
        { v with code := .callScr e.screen .closed none none :: .closeScreen2 e frm :: rest,
                 stack := v.stack.dropLast, ev := .stackOp "close" v.stack.dropLast :: v.ev }
  | discard {v : SV} {rest : List Instr} {top e : Entry} :
      v.code = .afterSetup top :: rest → v.stack.getLast? = some e →
      SStepE P v [.stackOp "discard" v.stack.dropLast]
        { v with code := (if e.modal then [.closeLoop, .afterSetupFail e] else []) ++ rest,
                 stack := v.stack.dropLast, ev := .stackOp "discard" v.stack.dropLast :: v.ev }
  | identSkip {v : SV} {rest : List Instr} {top l : Entry} :
      v.code = .identCheck top :: rest → v.stack.getLast? = some l → l.eid ≠ top.eid →
      SStepE P v [] { v with code := rest.dropWhile notCatchPS }

def SStep (P : Prog) (v v' : SV) : Prop := ∃ evs, SStepE P v evs v'

namespace Shape

theorem SStep.stutter {P : Prog} (v : SV) : SStep P v v := ⟨_, .stutter v⟩
theorem SStep.kill {P : Prog} {v : SV} {s : Sig} {rest : List Instr} (h : v.code = .kill s :: rest) :
    SStep P v { v with code := [], ev := .kill :: v.ev } := ⟨_, .kill h⟩
theorem SStep.forceQuit {P : Prog} {v : SV} {rest : List Instr} (h : v.code = .act .forceQuit :: rest) :
    SStep P v { v with code := rest, forceQuit := true, levels := [], runLoop := false, ev := .forceQuit :: v.ev } :=
  ⟨_, .forceQuit h⟩
theorem SStep.schedule {P : Prog} {v : SV} {rest : List Instr} {scr : Nat} {args : Option Nat}
    (h : v.code = .act (.schedule scr args) :: rest) :
    SStep P v { v with code := rest, stack := ⟨v.nextEid, scr, args, false⟩ :: v.stack, nextEid := v.nextEid + 1,
                       ev := .stackOp "schedule" (⟨v.nextEid, scr, args, false⟩ :: v.stack) :: v.ev } :=
  ⟨_, .schedule h⟩
theorem SStep.pushScr {P : Prog} {v : SV} {rest : List Instr} {scr : Nat} {args : Option Nat}
    (h : v.code = .act (.push scr args) :: rest) :
    SStep P v { v with code := rest, stack := v.stack ++ [⟨v.nextEid, scr, args, false⟩], nextEid := v.nextEid + 1,
                       ev := .stackOp "push" (v.stack ++ [⟨v.nextEid, scr, args, false⟩]) :: v.ev } :=
  ⟨_, .pushScr h⟩
theorem SStep.replace {P : Prog} {v : SV} {rest : List Instr} {scr : Nat} {args : Option Nat} {old : Entry}
    (h : v.code = .act (.replace scr args) :: rest) (ho : v.stack.getLast? = some old) :
    SStep P v { v with code := rest, stack := v.stack.dropLast ++ [⟨v.nextEid, scr, args, old.modal⟩],
                       nextEid := v.nextEid + 1,
                       ev := .stackOp "replace" (v.stack.dropLast ++ [⟨v.nextEid, scr, args, old.modal⟩]) :: v.ev } :=
  ⟨_, .replace h ho⟩
theorem SStep.apprun {P : Prog} {v : SV} {rest : List Instr} (h : v.code = .apprun :: rest) :
    SStep P v { v with code := [.mainCheck 0, .catchExit, .quitCb] ++ rest, forceQuit := false, runLoop := true } :=
  ⟨_, .apprun h⟩
theorem SStep.restore {P : Prog} {v : SV} {rest : List Instr} (h : v.code = .restoreRun :: rest)
    (hf : v.forceQuit = false) : SStep P v { v with code := rest, runLoop := true } := ⟨_, .restore h hf⟩
theorem SStep.enqAct {P : Prog} {v : SV} {rest : List Instr} {cls : Cls} {prio : Int} {src : Src} {sid : Nat}
    (h : v.code = .act (.enq cls prio src sid) :: rest) :
    SStep P v (SV.noteExc { v with code := rest } (cls == .exception)) := ⟨_, .enqAct h⟩
theorem SStep.open {P : Prog} {v : SV} {rest : List Instr} {s : Sig} (h : v.code = .newLoop s :: rest)
    (hf : v.forceQuit = false) :
    SStep P v (SV.noteExc { v with code := .mainCheck v.nq :: rest, levels := v.levels ++ [v.nq], active := v.nq,
                                   nq := v.nq + 1, ev := .openLevel v.nq v.runLoop :: v.ev } (s.cls == .exception)) :=
  ⟨_, .open h hf⟩
theorem SStep.pop {P : Prog} {v : SV} {rest : List Instr} {q a : Nat} (h : v.code = .popLevel :: rest)
    (hq : v.levels.getLast? = some q) (ha : v.levels.dropLast.getLast? = some a) :
    SStep P v { v with code := rest, levels := v.levels.dropLast, active := a, runLoop := false,
                       ev := .closeLevel q :: v.ev } := ⟨_, .pop h hq ha⟩
theorem SStep.popExit {P : Prog} {v : SV} {rest : List Instr} {q : Nat} (h : v.code = .popLevel :: rest)
    (hq : v.levels.getLast? = some q) (ha : v.levels.dropLast.getLast? = none) :
    SStep P v (raisedSV .exit { v with code := rest, levels := [], ev := .closeLevel q :: v.ev }) :=
  ⟨_, .popExit h hq ha⟩
theorem SStep.pushModal {P : Prog} {v : SV} {rest : List Instr} {scr : Nat} {args : Option Nat} {s : Sig}
    (h : v.code = .pushModal scr args :: rest) :
    SStep P v { v with code := .newLoop s :: .modalRet ⟨v.nextEid, scr, args, true⟩ :: rest,
                       stack := v.stack ++ [⟨v.nextEid, scr, args, true⟩], nextEid := v.nextEid + 1,
                       ev := .modalBegin ⟨v.nextEid, scr, args, true⟩ ::
                             .stackOp "pushModal" (v.stack ++ [⟨v.nextEid, scr, args, true⟩]) :: v.ev } :=
  ⟨_, .pushModal h⟩
theorem SStep.closeScreen {P : Prog} {v : SV} {rest : List Instr} {frm : Option Src} {e : Entry}
    (h : v.code = .closeScreen frm :: rest) (he : v.stack.getLast? = some e) :
    SStep P v { v with code := .callScr e.screen .closed none none :: .closeScreen2 e frm :: rest,
                       stack := v.stack.dropLast, ev := .stackOp "close" v.stack.dropLast :: v.ev } :=
  ⟨_, .closeScreen h he⟩
theorem SStep.discard {P : Prog} {v : SV} {rest : List Instr} {top e : Entry}
    (h : v.code = .afterSetup top :: rest) (he : v.stack.getLast? = some e) :
    SStep P v { v with code := (if e.modal then [.closeLoop, .afterSetupFail e] else []) ++ rest,
                       stack := v.stack.dropLast, ev := .stackOp "discard" v.stack.dropLast :: v.ev } :=
  ⟨_, .discard h he⟩
theorem SStep.identSkip {P : Prog} {v : SV} {rest : List Instr} {top l : Entry}
    (h : v.code = .identCheck top :: rest) (hl : v.stack.getLast? = some l) (hne : l.eid ≠ top.eid) :
    SStep P v { v with code := rest.dropWhile notCatchPS } := ⟨_, .identSkip h hl hne⟩

theorem SStep.batch' {P : Prog} {v v' : SV} {h : Instr} {rest B : List Instr} {evs : List Tr}
    (hc : v.code = h :: rest) (hb : Batch P v h B evs) (hv : v' = { v with code := B ++ rest, ev := evs ++ v.ev }) :
    SStep P v v' := hv ▸ ⟨_, SStepE.batch hc hb⟩

theorem SStep.raise' {P : Prog} {v v' : SV} {h : Instr} {rest : List Instr} (k : Kind)
    (hc : v.code = h :: rest) (hr : h.canRaise k = true) (hv : v' = raisedSV k { v with code := rest }) :
    SStep P v v' := hv ▸ ⟨_, SStepE.raise hc hr⟩

theorem SStep.halt' {P : Prog} {v v' : SV} {h : Instr} {rest : List Instr}
    (hc : v.code = h :: rest) (hr : h.canHalt = true) (hv : v' = { v with code := rest }) :
    SStep P v v' := hv ▸ ⟨_, SStepE.halt hc hr⟩

structure StepOK (P : Prog) (c d : Cfg) : Prop where
  sstep : SStep P c.sv d.sv
  grow : Grow c d

end Shape

end Simpleline
