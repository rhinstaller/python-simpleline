/-
  C20, loop level: steps that are sibling-calm (`sibCalmStep`, which `calmStep` implies) preserve the simulation `Sim`
  between the `MainLoop` state and the GLib state.
-/
import Simpleline.Lemmas.GLoopSort

namespace Simpleline.GLoop

variable {σ : Type}

theorem sim_init (st : σ) (initial : List GSig) : Sim (minit st initial) (ginit st initial) where
  st := rfl
  done := rfl
  queue := rfl
  batch_prefix := List.nil_prefix
  batch_urgent := by intro b hb; cases hb

/-- `gstep` with the collected batch named -/
theorem gstep_eq (P : Prog σ) (g : GState σ) :
    gstep P g = match (match g.batch with | [] => collect g.attached | b => b) with
      | [] => none
      | s :: rest => some { st := (P g.st s).1, attached := g.attached.erase s ++ (P g.st s).2, batch := rest,
                            done := g.done ++ [s] } := rfl

theorem gstep_of_batch_cons (P : Prog σ) {g : GState σ} {s : GSig} {rest : List GSig} (h : g.batch = s :: rest) :
    gstep P g = some { st := (P g.st s).1, attached := g.attached.erase s ++ (P g.st s).2, batch := rest,
                       done := g.done ++ [s] } := by
  rw [gstep_eq]
  simp only [h]

theorem gstep_of_batch_nil (P : Prog σ) {g : GState σ} (h : g.batch = []) :
    gstep P g = gstep P { g with batch := collect g.attached } := by
  rw [gstep_eq, gstep_eq]
  simp only [h]
  cases collect g.attached <;> rfl

theorem sim_collect {m : MState σ} {g : GState σ} (h : Sim m g) :
    Sim m { g with batch := collect g.attached } where
  st := h.st
  done := h.done
  queue := h.queue
  batch_prefix := by
    rw [h.queue]
    exact collect_prefix_stableSort g.attached
  batch_urgent := by
    intro b hb x hx
    rw [h.queue, mem_stableSort] at hx
    exact (mem_collect hb).2 x hx

theorem sim_step_batch (P : Prog σ) {m : MState σ} {g : GState σ} {s : GSig} {br : List GSig}
    (h : Sim m g) (hb : g.batch = s :: br) (hc : sibCalmStep P m = true) :
    ∃ m' g', mstep P m = some m' ∧ gstep P g = some g' ∧ Sim m' g' ∧ g'.batch = br ∧
      m'.done = m.done ++ [s] ∧ m'.st = (P m.st s).1 := by
  obtain ⟨t, ht⟩ := h.batch_prefix
  rw [hb, List.cons_append] at ht
  have hq := h.queue
  rw [← ht] at hq
  have hurg := h.batch_urgent
  rw [hb, ← ht] at hurg
  refine ⟨{ st := (P m.st s).1, queue := (P m.st s).2.foldl (fun q e => insertStable e q) (br ++ t),
             done := m.done ++ [s] },
    { st := (P g.st s).1, attached := g.attached.erase s ++ (P g.st s).2, batch := br, done := g.done ++ [s] },
    ?_, gstep_of_batch_cons P hb, ?_, rfl, rfl, rfl⟩
  · unfold mstep
    rw [← ht]
  · -- what the handlers enqueued is not more urgent than the rest of the batch
    have hnew : br ≠ [] → ∀ e ∈ (P m.st s).2, ∀ b ∈ br, b.prio ≤ e.prio := by
      intro hne e he b hbm
      unfold sibCalmStep at hc
      rw [← ht] at hc
      simp only [Bool.or_eq_true, List.all_eq_true, decide_eq_true_eq] at hc
      have h2 := hurg b (List.mem_cons_of_mem _ hbm) s (List.mem_cons_self ..)
      rcases hc with hc | hc
      · have h3 := hurg s (List.mem_cons_self ..) b (List.mem_cons_of_mem _ (List.mem_append_left _ hbm))
        exact absurd (by omega) (hc b (List.mem_append_left _ hbm))
      · have h1 := hc e he
        omega
    constructor
    · exact h.st ▸ rfl
    · show m.done ++ [s] = g.done ++ [s]
      rw [h.done]
    · show List.foldl (fun q e => insertStable e q) (br ++ t) (P m.st s).2
        = stableSort (g.attached.erase s ++ (P g.st s).2)
      rw [stableSort_append, stableSort_erase_head hq.symm, h.st]
    · show br <+: List.foldl (fun q e => insertStable e q) (br ++ t) (P m.st s).2
      cases br with
      | nil => exact List.nil_prefix
      | cons b0 br' => exact prefix_foldl_insertStable (List.prefix_append ..) (hnew (by simp))
    · show ∀ b ∈ br, ∀ x ∈ List.foldl (fun q e => insertStable e q) (br ++ t) (P m.st s).2, b.prio ≤ x.prio
      intro b hbm x hx
      rcases mem_foldl_insertStable.1 hx with hx | hx
      · exact hurg b (List.mem_cons_of_mem _ hbm) x (List.mem_cons_of_mem _ hx)
      · exact hnew (List.ne_nil_of_mem hbm) x hx b hbm

theorem mstep_eq_none {P : Prog σ} {m : MState σ} : mstep P m = none ↔ m.queue = [] := by
  unfold mstep
  split <;> simp [*]

theorem sim_step (P : Prog σ) {m : MState σ} {g : GState σ} (h : Sim m g) (hc : sibCalmStep P m = true) :
    (mstep P m = none ∧ gstep P g = none) ∨
    ∃ m' g', mstep P m = some m' ∧ gstep P g = some g' ∧ Sim m' g' := by
  cases hb : g.batch with
  | cons s br =>
    obtain ⟨m', g', h1, h2, h3, _⟩ := sim_step_batch P h hb hc
    exact .inr ⟨m', g', h1, h2, h3⟩
  | nil =>
    rw [gstep_of_batch_nil P hb]
    have h' := sim_collect h
    cases hcol : collect g.attached with
    | nil =>
      refine .inl ⟨mstep_eq_none.2 ?_, by rw [gstep_eq]; simp only [hcol]⟩
      rw [h.queue, stableSort_eq_nil]
      exact collect_eq_nil.1 hcol
    | cons s br =>
      obtain ⟨m', g', h1, h2, h3, _⟩ := sim_step_batch P h' (by simpa using hcol) hc
      rw [hcol] at h2
      exact .inr ⟨m', g', h1, h2, h3⟩

theorem calmStep_imp_sibCalmStep (P : Prog σ) {m : MState σ} (h : calmStep P m = true) :
    sibCalmStep P m = true := by
  unfold calmStep at h
  unfold sibCalmStep
  split
  · rfl
  · next s rest hq =>
    simp only [hq, Bool.or_eq_true, List.isEmpty_iff] at h
    rcases h with h | h
    · simp [h]
    · simp only [h, Bool.or_true]

theorem calmRun_imp_sibCalmRun (P : Prog σ) (n : Nat) {m : MState σ} (h : calmRun P n m = true) :
    sibCalmRun P n m = true := by
  induction n generalizing m with
  | zero => rfl
  | succ n ih =>
    simp only [calmRun, Bool.and_eq_true] at h
    simp only [sibCalmRun, Bool.and_eq_true, calmStep_imp_sibCalmStep P h.1, true_and]
    cases hs : mstep P m with
    | none => rfl
    | some m' =>
      have h2 := h.2
      simp only [hs] at h2
      exact ih h2

theorem sim_run (P : Prog σ) (n : Nat) {m : MState σ} {g : GState σ} (h : Sim m g)
    (hc : sibCalmRun P n m = true) : Sim (mrun P n m) (grun P n g) := by
  induction n generalizing m g with
  | zero => exact h
  | succ n ih =>
    simp only [sibCalmRun, Bool.and_eq_true] at hc
    rcases sim_step P h hc.1 with ⟨h1, h2⟩ | ⟨m', g', h1, h2, h3⟩
    · simp only [mrun, grun, h1, h2]
      exact h
    · simp only [mrun, grun, h1, h2]
      have hc2 := hc.2
      simp only [h1] at hc2
      exact ih h3 hc2

theorem calmRun_add (P : Prog σ) (k n : Nat) (m : MState σ) :
    calmRun P (k + n) m = (calmRun P k m && calmRun P n (mrun P k m)) := by
  induction k generalizing m with
  | zero => simp [calmRun, mrun]
  | succ k ih =>
    rw [Nat.add_right_comm]
    simp only [calmRun, mrun]
    cases hs : mstep P m with
    | none =>
      simp only [Bool.and_true]
      cases n with
      | zero => simp [calmRun]
      | succ n => simp [calmRun, hs]
    | some m' => simp only [ih, Bool.and_assoc]

theorem gstep_eq_none {P : Prog σ} {g : GState σ} : gstep P g = none ↔ g.batch = [] ∧ g.attached = [] := by
  rw [gstep_eq]
  cases hb : g.batch with
  | cons s br => simp
  | nil =>
    simp only [true_and]
    cases hcol : collect g.attached with
    | nil => simpa using collect_eq_nil.1 hcol
    | cons x xs =>
      simp only [reduceCtorEq, false_iff]
      intro h
      rw [collect_eq_nil.2 h] at hcol
      cases hcol

theorem sim_stuck_iff (P : Prog σ) {m : MState σ} {g : GState σ} (h : Sim m g) :
    mstep P m = none ↔ gstep P g = none := by
  rw [mstep_eq_none, gstep_eq_none, h.queue, stableSort_eq_nil]
  constructor
  · intro ha
    refine ⟨?_, ha⟩
    have hp := h.batch_prefix
    rw [h.queue, ha] at hp
    exact List.prefix_nil.1 hp
  · exact fun ha => ha.2

/-- for any run function defined the way `mrun` and `grun` are -/
theorem optRun_add {α : Type} (step : α → Option α) (run : Nat → α → α) (h0 : ∀ a, run 0 a = a)
    (hs : ∀ n a, run (n + 1) a = match step a with
      | some a' => run n a'
      | none => a) (k n : Nat) (a : α) : run (k + n) a = run n (run k a) := by
  induction k generalizing a with
  | zero => rw [Nat.zero_add, h0]
  | succ k ih =>
    rw [Nat.add_right_comm, hs, hs]
    cases hst : step a with
    | some a' => exact ih a'
    | none => cases n with
      | zero => rw [h0]
      | succ n => rw [hs, hst]

theorem mrun_add (P : Prog σ) (k n : Nat) (m : MState σ) : mrun P (k + n) m = mrun P n (mrun P k m) :=
  optRun_add (mstep P) (mrun P) (fun _ => rfl) (fun _ a => by rw [mrun]; cases mstep P a <;> rfl) k n m

theorem grun_add (P : Prog σ) (k n : Nat) (g : GState σ) : grun P (k + n) g = grun P n (grun P k g) :=
  optRun_add (gstep P) (grun P) (fun _ => rfl) (fun _ a => by rw [grun]; cases gstep P a <;> rfl) k n g

/-- while a batch lasts both loops dispatch exactly the batch, whatever the handlers enqueue meanwhile -/
theorem sim_batch_first (P : Prog σ) (k : Nat) {m : MState σ} {g : GState σ} (h : Sim m g)
    (hk : k ≤ g.batch.length) (hc : sibCalmRun P k m = true) :
    (mrun P k m).done = m.done ++ g.batch.take k ∧ (grun P k g).done = g.done ++ g.batch.take k ∧
      (grun P k g).batch = g.batch.drop k := by
  induction k generalizing m g with
  | zero => simp [mrun, grun]
  | succ k ih =>
    cases hb : g.batch with
    | nil => rw [hb] at hk; simp at hk
    | cons s br =>
      simp only [sibCalmRun, Bool.and_eq_true] at hc
      obtain ⟨m', g', h1, h2, h3, h4, h5, _⟩ := sim_step_batch P h hb hc.1
      have hc2 := hc.2
      simp only [h1] at hc2
      rw [hb] at hk
      have hk' : k ≤ g'.batch.length := by rw [h4]; simpa using hk
      obtain ⟨i1, i2, i3⟩ := ih h3 hk' hc2
      simp only [mrun, grun, h1, h2, List.take_succ_cons, List.drop_succ_cons]
      rw [i1, i2, i3, h4, h5, ← h3.done, h5, h.done]
      simp

end Simpleline.GLoop
