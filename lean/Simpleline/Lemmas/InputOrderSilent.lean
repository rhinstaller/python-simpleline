/-
  C06b: the quiet steps as the order proof sees them. Of the pipeline's objects it reads only whether a reader thread
  runs and whether the subsystem is busy, of the code only the instructions that carry something. `Silent` is what is
  left of `Quiet` then; it also holds of the steps that only change an `InputHandler` or record a request.
-/
import Simpleline.Lemmas.InputStep
import Simpleline.Lemmas.InputOrderCode

namespace Simpleline.InputOrder
open Input

/-- instructions dropped and inert ones pushed, signals without a line enqueued; nothing logged, taken or handled -/
structure Silent (c c' : Cfg) : Prop where
  code : (carriers c'.code).Sublist c.code
  log : c'.log = c.log
  depth : readyDepth c'.tr = readyDepth c.tr
  active : c'.L.active = c.L.active
  ready : ∀ a, readyQ c'.L.queues a = readyQ c.L.queues a
  sigs : ∀ last, queuesL last c.L.queues → queuesL last c'.L.queues
  processing : c'.A.processing = c.A.processing
  readers : c'.A.readers = c.A.readers

theorem Silent.trans {a b c : Cfg} (h1 : Silent a b) (h2 : Silent b c) : Silent a c where
  code := by
    have : (carriers c.code).Sublist (carriers b.code) := by
      simpa [carriers, List.filter_filter] using h2.code.filter fun i => !i.inert
    exact this.trans h1.code
  log := h2.log.trans h1.log
  depth := h2.depth.trans h1.depth
  active := h2.active.trans h1.active
  ready a := (h2.ready a).trans (h1.ready a)
  sigs last h := h2.sigs last (h1.sigs last h)
  processing := h2.processing.trans h1.processing
  readers := h2.readers.trans h1.readers

theorem _root_.Simpleline.Input.Calm.queuesL {c X : Cfg} (h : Calm c X) (last : Option Str)
    (hq : queuesL last c.L.queues) : queuesL last X.L.queues :=
  queuesL_pending.mpr (h.all_pending (fun _ => sigL_of_not_input) (queuesL_pending.mp hq))

theorem _root_.Simpleline.Input.Quiet.silent {c X : Cfg} {rest : List Instr} (h : Quiet c X)
    (hc : (carriers X.code).Sublist rest) : Silent { c with code := rest } X :=
  ⟨hc, h.log, h.depth, h.active, h.ready, h.toCalm.queuesL, h.processing, h.readers⟩

theorem _root_.Simpleline.Input.Still.silent {c X : Cfg} {rest : List Instr} (h : Still c X)
    (hc : (carriers X.code).Sublist rest) : Silent { c with code := rest } X :=
  ⟨hc, h.log, by rw [h.tr], h.active, fun _ => by rw [h.queues], fun _ => by rw [h.queues]; exact id, h.processing,
    h.readers⟩

theorem silent_raise (c : Cfg) (k : Kind) : Silent c (final (c.raise k)) :=
  have h := (Quiet.refl c).raise k
  ⟨(carriers_sublist _).trans (raise_code c k), h.log, h.depth, h.active, h.ready, h.toCalm.queuesL, h.processing,
    h.readers⟩

/-- `start_input_thread` while the input subsystem is idle: it becomes busy and a reader thread is started -/
structure ReaderStarted (c c' : Cfg) : Prop where
  idle : c.A.processing = false
  code : c'.code = c.code
  log : c'.log = c.log
  tr : c'.tr = c.tr
  L : c'.L = c.L
  processing : c'.A.processing = true
  readers : c'.A.readers ≠ []

/-- `start_input_thread`: refused (`KeyError`), or accepted, and then a reader thread is started unless one runs -/
theorem request_cases {b X : Cfg} (ih : Nat) (requester : Src) (text : Str) (h : Silent b X) :
    Silent b (final (startRequest X ih requester text)) ∨
      ∃ c1, Silent b c1 ∧ ReaderStarted c1 (final (startRequest X ih requester text)) := by
  have same {A : AppSt} (hp : A.processing = X.A.processing) (hr : A.readers = X.A.readers) :
      Silent b { X with A := A } :=
    h.trans ⟨carriers_sublist _, rfl, rfl, rfl, fun _ => rfl, fun _ => id, hp, hr⟩
  rw [startRequest_eq]
  split
  · exact .inl ((same (A := reqRecorded X.A ih requester text) rfl rfl).trans (silent_raise _ _))
  · split
    · exact .inl (same rfl rfl)
    · rename_i hp
      exact .inr ⟨X, h, by simpa using hp, rfl, rfl, rfl, rfl, rfl, by simp [Cfg.write]⟩

theorem _root_.Simpleline.Input.Logs.lines {ins : Instr} {e : Ev} (h : Logs ins e) (k : Nat) :
    (inputLines [e]).Sublist (ins.lines k) := by
  cases h with
  | plain he => cases e <;> first | exact List.nil_sublist _ | cases he
  | cb scr cb arg key => cases cb <;> cases key <;> exact .refl _

end Simpleline.InputOrder
