/-
  `drawStack` (one column of a `ColumnWidget`) and `drawCols` (all columns) as drawings of pieces (C15b): each
  later piece lies below or right of the earlier ones. Where the columns start (`colStartsFrom`, the
  `col_pos` of the source): right of every widget of the columns before, and at the sum of the declared
  widths and spacings before it when every column has a declared width that its widgets respect.
-/
import Simpleline.Lemmas.GridPieces
import Simpleline.Lemmas.ContainersOrder
import Simpleline.Spec.ColumnSpec

namespace Simpleline

@[simp] theorem gridsTop_zero (gs : List Grid) : gridsTop gs 0 = 0 := rfl

@[simp] theorem gridsTop_nil (j : Nat) : gridsTop [] j = 0 := by
  rw [gridsTop, List.take_nil]; rfl

@[simp] theorem gridsTop_cons_succ (g : Grid) (gs : List Grid) (j : Nat) :
    gridsTop (g :: gs) (j + 1) = g.length + gridsTop gs j := rfl

@[simp] theorem gridsHeight_nil : gridsHeight [] = 0 := rfl

@[simp] theorem gridsHeight_cons (g : Grid) (gs : List Grid) :
    gridsHeight (g :: gs) = g.length + gridsHeight gs := rfl

theorem gridsTop_eq_rowTop (gs : List Grid) :
    ∀ j, gridsTop gs j = rowTop (fun j => (gs.getD j []).length) j := by
  intro j
  induction j with
  | zero => rfl
  | succ j ih =>
    rw [rowTop, ← ih, gridsTop, gridsTop, List.take_add_one, List.map_append, List.sum_append,
      List.getD_eq_getElem?_getD]
    cases gs[j]? <;> rfl

theorem gridsTop_sep (gs : List Grid) (j j' : Nat) (h : j < j') :
    gridsTop gs j + (gs.getD j []).length ≤ gridsTop gs j' := by
  rw [gridsTop_eq_rowTop, gridsTop_eq_rowTop]
  exact rowTop_mono _ j j' h

theorem gridsTop_le_height (gs : List Grid) : ∀ j, gridsTop gs j + (gs.getD j []).length ≤ gridsHeight gs := by
  induction gs with
  | nil => intro j; rw [gridsTop_nil]; exact Nat.le_refl _
  | cons g gs ih =>
    intro j
    cases j with
    | zero => exact Nat.zero_add _ ▸ Nat.le_add_right _ _
    | succ j => exact Nat.add_assoc .. ▸ Nat.add_le_add_left (ih j) _

theorem gridsExtent_ge (pos : Nat) (gs : List Grid) : ∀ j, gs.getD j [] ≠ [] →
    pos + gridWidth (gs.getD j []) ≤ gridsExtent pos gs := by
  induction gs with
  | nil => intro j h; exact absurd rfl h
  | cons g gs ih =>
    intro j h
    cases j with
    | zero => rw [gridsExtent, if_neg (show g ≠ [] from h)]; exact Nat.le_max_left _ _
    | succ j => exact Nat.le_trans (ih j h) (Nat.le_max_right _ _)

theorem gridsExtent_le (pos n : Nat) (gs : List Grid) (h : ∀ g ∈ gs, gridWidth g ≤ n) :
    gridsExtent pos gs ≤ pos + n := by
  induction gs with
  | nil => exact Nat.zero_le _
  | cons g gs ih =>
    refine Nat.max_le.2 ⟨?_, ih fun g' hg' => h g' (List.mem_cons_of_mem _ hg')⟩
    split
    · exact Nat.zero_le _
    · exact Nat.add_le_add_left (h g (List.mem_cons_self ..)) pos

section stack

/-- the widgets of one column as pieces, one below the other from `(row, col)` on -/
def stackAt (row col : Nat) (gs : List Grid) : List Piece :=
  (List.range gs.length).map fun j => ⟨gs.getD j [], row + gridsTop gs j, col⟩

theorem stackAt_cons (row col : Nat) (g : Grid) (gs : List Grid) :
    stackAt row col (g :: gs) = ⟨g, row, col⟩ :: stackAt (row + g.length) col gs := by
  simp only [stackAt, List.length_cons, List.range_succ_eq_map, List.map_cons, List.map_map]
  refine congrArg _ (List.map_congr_left fun j _ => ?_)
  simp only [Function.comp, Nat.succ_eq_add_one, List.getD_cons_succ, gridsTop_cons_succ, Nat.add_assoc]

theorem drawStack_eq (col : Nat) (gs : List Grid) : ∀ (B : Grid) (row : Nat),
    drawStack B row col gs = drawAll B (stackAt row col gs) := by
  induction gs with
  | nil => intro B row; rfl
  | cons g gs ih => intro B row; rw [stackAt_cons, drawStack, ih]; rfl

variable (col : Nat)

theorem drawStack_length (gs : List Grid) :
    ∀ (B : Grid) (row : Nat), row ≤ B.length →
      (drawStack B row col gs).length = max B.length (row + gridsHeight gs) := by
  induction gs with
  | nil => intro B row h; exact (Nat.max_eq_left h).symm
  | cons g gs ih =>
    intro B row h
    rw [drawStack, ih _ _ (drawInto_length .. ▸ Nat.le_max_right _ _), drawInto_length, Nat.max_assoc,
      Nat.max_eq_right (Nat.le_add_right _ _), gridsHeight_cons, Nat.add_assoc]

theorem gridWidth_drawStack (gs : List Grid) :
    ∀ (B : Grid) (row : Nat),
      gridWidth (drawStack B row col gs) = max (gridWidth B) (gridsExtent col gs) := by
  induction gs with
  | nil => intro B row; exact (Nat.max_eq_left (Nat.zero_le _)).symm
  | cons g gs ih =>
    intro B row
    rw [drawStack, ih, gridWidth_drawInto, gridsExtent, Nat.max_assoc]

end stack

theorem colStartsFrom_length (spacing : Nat) (cols : List (Option Nat × List Grid)) :
    ∀ wide pos, (colStartsFrom spacing wide pos cols).length = cols.length := by
  induction cols with
  | nil => intro _ _; rfl
  | cons c cols ih => intro wide pos; exact congrArg (· + 1) (ih _ _)

variable (spacing : Nat) (cols : List (Option Nat × List Grid))

theorem colStartsFrom_ge :
    ∀ wide pos k, k < cols.length → pos ≤ (colStartsFrom spacing wide pos cols).getD k 0 := by
  induction cols with
  | nil => intro _ _ k hk; cases hk
  | cons c cols ih =>
    intro wide pos k hk
    cases k with
    | zero => exact Nat.le_refl _
    | succ k =>
      refine Nat.le_trans ?_ (ih _ _ k (Nat.lt_of_succ_lt_succ hk))
      exact Nat.le_trans (Nat.le_trans (Nat.le_add_right _ _) (Nat.le_max_left _ _)) (Nat.le_add_right _ _)

theorem colStartsFrom_sep :
    ∀ wide pos k k' j, k < k' → k' < cols.length →
      (colStartsFrom spacing wide pos cols).getD k 0 +
          gridWidth (((cols.getD k (none, [])).2).getD j []) ≤
        (colStartsFrom spacing wide pos cols).getD k' 0 := by
  induction cols with
  | nil => intro _ _ k k' j _ hk; cases hk
  | cons c cols ih =>
    intro wide pos k k' j hkk hk'
    obtain ⟨cw, gs⟩ := c
    cases k' with
    | zero => cases hkk
    | succ k' =>
      have hk' : k' < cols.length := Nat.lt_of_succ_lt_succ hk'
      cases k with
      | zero =>
        -- the next column starts right of everything in this one, the later ones right of the next
        refine Nat.le_trans ?_ (colStartsFrom_ge spacing cols _ _ k' hk')
        show pos + gridWidth (gs.getD j []) ≤ max (pos + cw.getD 0) (max wide (gridsExtent pos gs)) + spacing
        by_cases hg : gs.getD j [] = []
        · rw [hg, gridWidth_nil]; omega
        · have := gridsExtent_ge pos gs j hg; omega
      | succ k => exact ih _ _ k k' j (Nat.lt_of_succ_lt_succ hkk) hk'

theorem colStartsFrom_fixed :
    ∀ wide pos, wide ≤ pos →
      (∀ c ∈ cols, ∃ n, c.1 = some n ∧ ∀ g ∈ c.2, gridWidth g ≤ n) →
      ∀ k, k < cols.length →
        (colStartsFrom spacing wide pos cols).getD k 0 =
          pos + ((cols.take k).map fun c => c.1.getD 0 + spacing).sum := by
  induction cols with
  | nil => intro _ _ _ _ k hk; cases hk
  | cons c cols ih =>
    intro wide pos hw hall k hk
    obtain ⟨cw, gs⟩ := c
    cases k with
    | zero => rfl
    | succ k =>
      obtain ⟨n, hn, hg⟩ := hall (cw, gs) (List.mem_cons_self ..)
      -- nothing reaches beyond `pos + n`, so the `max` is `pos + n`
      have hmax : max (pos + n) (max wide (gridsExtent pos gs)) = pos + n :=
        Nat.max_eq_left (Nat.max_le.2 ⟨Nat.le_trans hw (Nat.le_add_right _ _), gridsExtent_le pos n gs hg⟩)
      have hrec := ih (max wide (gridsExtent pos gs)) (pos + n + spacing)
        (Nat.max_le.2 ⟨Nat.le_trans hw (Nat.le_trans (Nat.le_add_right _ _) (Nat.le_add_right _ _)),
          Nat.le_trans (gridsExtent_le pos n gs hg) (Nat.le_add_right _ _)⟩)
        (fun c hc => hall c (List.mem_cons_of_mem _ hc)) k (Nat.lt_of_succ_lt_succ hk)
      subst hn
      rw [colStartsFrom, List.getD_cons_succ, Option.getD_some, hmax, hrec, List.take_succ_cons,
        List.map_cons, List.sum_cons, Option.getD_some, Nat.add_assoc, Nat.add_assoc, Nat.add_assoc]

/-- `colStartsFrom` follows the `col_pos` recurrence of `drawCols`: the later columns start where they
start on the buffer with the first column drawn -/
theorem colStartsFrom_cons (B : Grid) (pos : Nat) (cw : Option Nat) (gs : List Grid) :
    colStartsFrom spacing (gridWidth B) pos ((cw, gs) :: cols) =
      pos :: colStartsFrom spacing (gridWidth (drawStack B 0 pos gs))
        (max (pos + cw.getD 0) (gridWidth (drawStack B 0 pos gs)) + spacing) cols := by
  rw [gridWidth_drawStack, colStartsFrom]

/-- all widgets of all columns as pieces, column `k` starting at character column `starts[k]` -/
def colPieces (starts : List Nat) (cols : List (Option Nat × List Grid)) : List Piece :=
  (List.range cols.length).flatMap fun k => stackAt 0 (starts.getD k 0) (cols.getD k (none, [])).2

theorem drawCols_eq : ∀ (B : Grid) (pos : Nat),
    drawCols spacing B pos cols = drawAll B (colPieces (colStartsFrom spacing (gridWidth B) pos cols) cols) := by
  induction cols with
  | nil => intro B pos; rfl
  | cons c cols ih =>
    intro B pos
    obtain ⟨cw, gs⟩ := c
    rw [drawCols, ih, colStartsFrom_cons, drawStack_eq, ← drawAll_append]
    simp only [colPieces, List.length_cons, List.range_succ_eq_map, List.flatMap_cons, List.flatMap_map,
      List.getD_cons_zero, List.getD_cons_succ, Nat.succ_eq_add_one]

omit spacing in
theorem mem_colPieces {starts : List Nat} {p : Piece} :
    p ∈ colPieces starts cols ↔ ∃ k j, k < cols.length ∧ j < (cols.getD k (none, [])).2.length ∧
      p = ⟨(cols.getD k (none, [])).2.getD j [], 0 + gridsTop (cols.getD k (none, [])).2 j, starts.getD k 0⟩ := by
  simp only [colPieces, stackAt, List.mem_flatMap, List.mem_map, List.mem_range]
  exact ⟨fun ⟨k, hk, j, hj, e⟩ => ⟨k, j, hk, hj, e.symm⟩, fun ⟨k, j, hk, hj, e⟩ => ⟨k, hk, j, hj, e.symm⟩⟩

theorem colPieces_before (wide pos : Nat) :
    (colPieces (colStartsFrom spacing wide pos cols) cols).Pairwise Piece.Before := by
  refine List.pairwise_flatMap.2 ⟨fun k _ => ?_, ?_⟩
  · exact List.pairwise_map.2 (List.pairwise_lt_range.imp fun {j j'} h =>
      Or.inl (Nat.add_assoc .. ▸ Nat.add_le_add_left (gridsTop_sep _ j j' h) 0))
  · refine List.pairwise_lt_range.imp_of_mem fun {k k'} _ hk' h p hp q hq => ?_
    obtain ⟨j, _, rfl⟩ := List.mem_map.1 hp
    obtain ⟨j', _, rfl⟩ := List.mem_map.1 hq
    exact Or.inr fun r hr => Nat.le_trans (Nat.add_le_add_left (col_mem_le_gridWidth _ r hr) _)
      (colStartsFrom_sep spacing cols wide pos k k' j h (List.mem_range.1 hk'))

theorem drawCols_length :
    ∀ (B : Grid) (pos : Nat), (drawCols spacing B pos cols).length = max B.length (colsHeight cols) := by
  induction cols with
  | nil => intro B pos; exact (Nat.max_eq_left (Nat.zero_le _)).symm
  | cons c cols ih =>
    intro B pos
    rw [drawCols, ih, drawStack_length pos c.2 B 0 (Nat.zero_le _), Nat.zero_add, colsHeight, Nat.max_assoc]

end Simpleline
