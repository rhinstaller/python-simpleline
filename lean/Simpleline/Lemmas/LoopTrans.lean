/-
  Transition-level consequences of the master lemma. Every transition is a `Plain` part followed by at
  most one take or put-back (`Eff.split`); from the events a transition adds one reads off which it was
  (`eff_take`, `eff_struct`). Frame facts for everything else.
-/
import Simpleline.Lemmas.LoopInv

namespace Simpleline

structure PlainFacts (v v' : QView) where
  vm : QView
  first : vm = v ∨ StructOp v vm
  static : Static vm v'
  sub : ∀ q, (v.queue q).entries.Sublist (v'.queue q).entries
  length : v.queues.length ≤ v'.queues.length
  sources : ∀ q, q ≠ v.active → (v'.queue q).sources = (v.queue q).sources
  sources_sub : ∀ q, ∀ x ∈ (v.queue q).sources, x ∈ (v'.queue q).sources
  new1 : List Tr
  new2 : List Tr
  tr1 : vm.tr = new1 ++ v.tr
  tr2 : v'.tr = new2 ++ vm.tr
  ev1 : ∀ t ∈ new1, StructEv t
  ev2 : ∀ t ∈ new2, EnqEv v' t

theorem Plain.facts {v v' : QView} (h : Plain v v') : Nonempty (PlainFacts v v') := by
  obtain ⟨vm, h1, h2⟩ := h
  obtain ⟨new2, t2, e2⟩ := h2.tr
  have st := h2.static
  rcases h1 with rfl | h1
  · exact ⟨⟨vm, .inl rfl, st, h2.sub, by rw [st.length]; exact Nat.le_refl _, fun q _ => st.sources q,
      fun q x hx => by rw [st.sources q]; exact hx, [], new2, rfl, t2, by simp,
      e2⟩⟩
  · obtain ⟨new1, t1, e1⟩ := h1.tr
    refine ⟨⟨vm, .inr h1, st, ?_, ?_, ?_, ?_, new1, new2, t1, t2, e1, e2⟩⟩
    · intro q
      have := h2.sub q
      rwa [h1.entries q] at this
    · rw [st.length]; exact h1.length
    · intro q hq; rw [st.sources q, h1.sources q hq]
    · intro q x hx; rw [st.sources q]; exact h1.sources_sub q x hx

theorem PlainFacts.tr {v v' : QView} (f : PlainFacts v v') : v'.tr = (f.new2 ++ f.new1) ++ v.tr := by
  rw [f.tr2, f.tr1, List.append_assoc]

def PlainEv (v : QView) (t : Tr) : Prop := StructEv t ∨ EnqEv v t

theorem PlainFacts.ev {v v' : QView} (f : PlainFacts v v') : ∀ t ∈ f.new2 ++ f.new1, PlainEv v' t :=
  fun t ht => (List.mem_append.1 ht).elim (fun h => .inr (f.ev2 t h)) (fun h => .inl (f.ev1 t h))

theorem PlainEv.not_take {v : QView} {q : Nat} {s : Sig} : ¬ PlainEv v (.take q s) := by
  rintro ((h | ⟨_, _, h⟩ | ⟨_, h⟩) | (h | ⟨_, h, _⟩ | ⟨_, h, _⟩)) <;> cases h

theorem PlainEv.not_putBack {v : QView} {q : Nat} {s : Sig} : ¬ PlainEv v (.putBack q s) := by
  rintro ((h | ⟨_, _, h⟩ | ⟨_, h⟩) | (h | ⟨_, h, _⟩ | ⟨_, h, _⟩)) <;> cases h

theorem EnqEv.not_struct {v : QView} {t : Tr} (h : EnqEv v t) : ¬ StructEv t := by
  rintro (rfl | ⟨_, _, rfl⟩ | ⟨_, rfl⟩) <;> rcases h with h | ⟨_, h, _⟩ | ⟨_, h, _⟩ <;> cases h

/-- The end of a transition from `c` whose `Plain` part leads to `vm`: nothing more, the take of the head of
the active queue (then the `Plain` part was empty or the delivery the empty active queue waited for), or the
put-back of `process_signals`' partial batch (then it was empty); with the events this adds. -/
inductive Last (c : Cfg) (vm v' : QView) : List Tr → Prop
  | none : v' = vm → Last c vm v' []
  | take (first : vm = c.view ∨ (c.L.activeQ.entries = [] ∧ ∃ d, c.deliver = some d ∧ vm = d.view))
      (e : QEntry) (es : List QEntry) (he : (vm.queue vm.active).entries = e :: es)
      (hv : v' = { vm with queues := listSet vm.queues vm.active (fun q => { q with entries := es }),
                           tr := .take vm.active e.2.2 :: vm.tr }) :
      Last c vm v' [.take vm.active e.2.2]
  | putBack (hvm : vm = c.view) (e : QEntry) (es : List QEntry) (he : (vm.queue vm.active).entries = e :: es)
      (hv : v' = { vm with tr := .procEnd :: .putBack vm.active e.2.2 :: vm.tr }) :
      Last c vm v' [.procEnd, .putBack vm.active e.2.2]

theorem Last.static {c : Cfg} {vm v' : QView} {new : List Tr} (h : Last c vm v' new) : Static vm v' := by
  cases h with
  | none hv => exact hv ▸ .rfl'
  | take _ e es he hv => exact takeV_static ⟨e, es, he, hv⟩
  | putBack _ _ _ _ hv => exact hv ▸ ⟨rfl, rfl, rfl, rfl, rfl, fun _ => rfl⟩

theorem Last.tr {c : Cfg} {vm v' : QView} {new : List Tr} (h : Last c vm v' new) : v'.tr = new ++ vm.tr := by
  cases h <;> rename_i hv <;> rw [hv] <;> rfl

theorem Eff.plain_last {c c' : Cfg} (h : Eff c c') : ∃ vm new, Plain c.view vm ∧ Last c vm c'.view new := by
  rcases h with hp | ⟨vm, h1, e, es, he, h2⟩ | ⟨e, es, he, h2⟩
  · exact ⟨_, _, hp, .none rfl⟩
  · refine ⟨vm, _, ?_, .take h1 e es he h2⟩
    rcases h1 with rfl | ⟨_, d, hd, rfl⟩
    · exact Plain.rfl'
    · exact Plain.deliver hd Plain.rfl'
  · exact ⟨_, _, Plain.rfl', .putBack rfl e es he h2⟩

theorem Eff.split {c c' : Cfg} (h : Eff c c') :
    ∃ vm new, ∃ f : PlainFacts c.view vm, Plain c.view vm ∧ Last c vm c'.view new ∧
      newTr c c' = new ++ (f.new2 ++ f.new1) := by
  obtain ⟨vm, new, hp, hl⟩ := h.plain_last
  obtain ⟨f⟩ := hp.facts
  exact ⟨vm, new, f, hp, hl, newTr_of_append (by rw [← view_tr c', hl.tr, f.tr, ← List.append_assoc]; rfl)⟩

/-- `vm` is the view right after the structural operation of the transition, `evs` the event of that operation (at
most one); whatever follows it in the transition is `Static`. -/
theorem eff_struct {c c' : Cfg} (h : Eff c c') :
    ∃ vm evs, Static vm c'.view ∧ (∀ t, StructEv t → (t ∈ newTr c c' ↔ t ∈ evs)) ∧
      ((evs = [] ∧ vm.levels = c.L.levels ∧ vm.active = c.L.active) ∨ (evs = [.forceQuit] ∧ vm.levels = []) ∨
        (evs = [.openLevel c.L.queues.length c.L.runLoop] ∧ c.L.forceQuit = false ∧ vm = openView c.view) ∨
        ∃ q, evs = [.closeLevel q] ∧ c.L.levels.getLast? = some q ∧ vm = c.view.pop q) := by
  obtain ⟨vm, new, f, -, hl, hn⟩ := h.split
  refine ⟨f.vm, f.new1, f.static.trans hl.static, fun t ht => ⟨fun hm => ?_, fun hm => ?_⟩, ?_⟩
  · -- a structural event is neither the take or put-back that ends the transition nor an event of an enqueue
    rcases List.mem_append.1 (hn ▸ hm) with hm | hm
    · rcases ht with rfl | ⟨_, _, rfl⟩ | ⟨_, rfl⟩ <;> cases hl <;> simp at hm
    · exact (List.mem_append.1 hm).elim (fun hm => absurd ht (f.ev2 _ hm).not_struct) id
  · exact hn ▸ List.mem_append_right _ (List.mem_append_right _ hm)
  · have key : ∀ {new}, f.vm.tr = new ++ c.view.tr → f.new1 = new :=
      fun h => List.append_cancel_right (f.tr1.symm.trans h)
    rcases f.first with h | h
    · exact .inl ⟨key (by rw [h]; rfl), by rw [h]; rfl, by rw [h]; rfl⟩
    · rcases h.cases_tr with ⟨h1, h2, h3⟩ | ⟨h1, h2⟩ | ⟨h1, h2⟩ | ⟨q, h1, h2⟩
      · exact .inl ⟨key h1, h2, h3⟩
      · exact .inr (.inl ⟨key h1, h2⟩)
      · exact .inr (.inr (.inl ⟨key (by rw [h2]; rfl), h1, h2⟩))
      · exact .inr (.inr (.inr ⟨q, key (by rw [h2, pop_tr]; rfl), h1, h2⟩))

structure TakeFacts (c c' : Cfg) (q : Nat) (s : Sig) where
  vm : QView
  first : vm = c.view ∨ (c.L.activeQ.entries = [] ∧ ∃ d, c.deliver = some d ∧ vm = d.view)
  plain : Plain c.view vm
  active : q = vm.active
  e : QEntry
  es : List QEntry
  entries : (vm.queue q).entries = e :: es
  sig : e.2.2 = s
  after : c'.view = { vm with queues := listSet vm.queues q (fun x => { x with entries := es }),
                              tr := .take q s :: vm.tr }
  takeV : TakeV vm c'.view

theorem eff_take {c c' : Cfg} (h : Eff c c') {q : Nat} {s : Sig} (hm : Tr.take q s ∈ newTr c c') :
    Nonempty (TakeFacts c c' q s) := by
  obtain ⟨vm, new, f, hp, hl, hn⟩ := h.split
  rw [hn] at hm
  rcases List.mem_append.1 hm with hm | hm
  · cases hl with
    | take first e es he hv =>
      cases List.mem_singleton.1 hm
      exact ⟨⟨vm, first, hp, rfl, e, es, he, rfl, hv, ⟨e, es, he, hv⟩⟩⟩
    | _ => simp at hm
  · exact (PlainEv.not_take (f.ev _ hm)).elim

/-- a take is from the active queue, and a delivery before it does not change which that is -/
theorem take_active {c c' : Cfg} (h : Eff c c') {q : Nat} {s : Sig} (hm : Tr.take q s ∈ newTr c c') :
    q = c.L.active := by
  obtain ⟨f⟩ := eff_take h hm
  rcases f.first with h1 | ⟨_, d, hd, h1⟩
  · rw [f.active, h1]; rfl
  · obtain ⟨s', hs⟩ := deliver_view hd
    rw [f.active, h1, hs]; simp

theorem eff_entries {c c' : Cfg} (h : Eff c c') (q : Nat) :
    (c.queue q).entries.Sublist (c'.queue q).entries ∨
      ((∃ s, Tr.take q s ∈ newTr c c') ∧ q = c.L.active ∧
        (c'.queue q).entries = (c.queue q).entries.tail) := by
  obtain ⟨vm, new, f, hp, hl, hn⟩ := h.split
  have same : c'.view.queue q = vm.queue q → (c.view.queue q).entries.Sublist (c'.view.queue q).entries :=
    fun e => e ▸ f.sub q
  cases hl with
  | none hv => exact .inl (same (by rw [hv]))
  | putBack _ _ _ _ hv => exact .inl (same (by rw [hv]; rfl))
  | take first e es he hv =>
    have hq := takeV_queue ⟨e, es, he, hv⟩ q
    by_cases hqa : vm.active = q
    · rw [if_pos hqa] at hq
      rcases first with rfl | ⟨h1, d, hd, rfl⟩
      · exact .inr ⟨⟨e.2.2, by rw [hn, ← hqa]; simp⟩, hqa.symm, congrArg EQueue.entries hq⟩
      · -- the take follows a delivery: the active queue of `c` was empty
        obtain ⟨s, hs⟩ := deliver_view hd
        have hce : (c.queue q).entries = [] := by rw [← hqa, hs, enq_active]; exact h1
        exact .inl (hce ▸ List.nil_sublist _)
    · exact .inl (same (by rw [hq, if_neg hqa]))

theorem eff_frame {c c' : Cfg} (h : Eff c c') (q : Nat) :
    c.L.queues.length ≤ c'.L.queues.length ∧
      (q ≠ c.L.active → (c'.queue q).sources = (c.queue q).sources) ∧
      ∀ x ∈ (c.queue q).sources, x ∈ (c'.queue q).sources := by
  obtain ⟨vm, new, f, hp, hl, hn⟩ := h.split
  have hs := hl.static.sources q
  exact ⟨Nat.le_trans f.length (Nat.le_of_eq hl.static.length.symm), fun hq => hs.trans (f.sources q hq),
    fun x hx => hs.symm ▸ f.sources_sub q x hx⟩

theorem eff_tr {c c' : Cfg} (h : Eff c c') : ∃ new, c'.tr = new ++ c.tr := by
  obtain ⟨vm, new, f, hp, hl, hn⟩ := h.split
  exact ⟨new ++ (f.new2 ++ f.new1), by rw [← view_tr c', hl.tr, f.tr, ← List.append_assoc]; rfl⟩

theorem pop_levels (v : QView) (q : Nat) : (v.pop q).levels = v.levels.dropLast := by
  unfold QView.pop
  split
  · rename_i h
    exact (List.getLast?_eq_none_iff.1 h).symm
  · rfl

end Simpleline
