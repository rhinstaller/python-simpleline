/-
  ScreenStack object: every call is a step of the ideal list machine (`SStack.step_eq_ideal`, `idealFold_eq`).
-/
import Simpleline.Spec.ObjectsSpec

namespace Simpleline.Objects

theorem reverse_eq_cons_of_getLast? {s : List Nat} {e : Nat} (h : s.getLast? = some e) :
    s.reverse = e :: s.dropLast.reverse := by
  obtain ⟨r, rfl⟩ := List.getLast?_eq_some_iff.1 h
  simp

theorem SStack.step_eq_ideal (s : SStack) (op : SOp) :
    (s.step op).1 = (idealStackStep s.screens op).1 ∧ (s.step op).2.screens = (idealStackStep s.screens op).2 := by
  cases op with
  | pop r =>
    simp only [SStack.step, idealStackStep]
    cases h : s.screens.getLast? with
    | none => simp [List.getLast?_eq_none_iff.1 h]
    | some e => simp only [reverse_eq_cons_of_getLast? h]; cases r <;> simp
  | empty => simp only [SStack.step, idealStackStep]; cases s.screens <;> simp
  | _ => simp [SStack.step, idealStackStep]

theorem SStack.run_append (s : SStack) (ops ops' : List SOp) :
    s.run (ops ++ ops') = ((s.run ops).1 ++ ((s.run ops).2.run ops').1, ((s.run ops).2.run ops').2) := by
  induction ops generalizing s with
  | nil => simp [SStack.run]
  | cons op ops ih => simp [SStack.run, ih]

theorem SStack.run_length (s : SStack) (ops : List SOp) : (s.run ops).1.length = ops.length := by
  induction ops generalizing s with
  | nil => simp [SStack.run]
  | cons op ops ih => simp [SStack.run, ih]

theorem idealFold_eq (ops : List SOp) (outs : List SOut) (s : SStack) :
    ops.foldl (fun acc op => let r := idealStackStep acc.2 op; (acc.1 ++ [r.1], r.2)) (outs, s.screens)
      = (outs ++ (s.run ops).1, (s.run ops).2.screens) := by
  induction ops generalizing outs s with
  | nil => simp [SStack.run]
  | cons op ops ih =>
    obtain ⟨h1, h2⟩ := s.step_eq_ideal op
    simp only [List.foldl_cons, SStack.run]
    rw [← h1, ← h2, ih]
    simp

theorem SStack.step_length (s : SStack) (op : SOp) :
    (s.step op).2.screens.length + (if removedOne (op, (s.step op).1) then 1 else 0)
      = s.screens.length + (if op.isPush then 1 else 0) := by
  cases op with
  | pop r =>
    obtain ⟨scr⟩ := s
    rcases List.eq_nil_or_concat scr with rfl | ⟨r', y, rfl⟩
    · simp [SStack.step, SOp.isPush, removedOne]
    · cases r <;> simp [SStack.step, SOp.isPush, removedOne]
  | _ => simp [SStack.step, SOp.isPush, removedOne]

end Simpleline.Objects
