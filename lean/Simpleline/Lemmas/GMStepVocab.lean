/-
  GLib machine: the vocabulary of the step facts — which trace events are loud (handler calls, batch collections, dispatch
  starts), which instruction justifies a loud event, which instructions may change the ticket lines and how.
-/
import Simpleline.Spec.GMSpec

namespace Simpleline.G

def Tr.quiet : Tr → Bool
  | .m (.call ..) => false
  | .iter .. => false
  | .disp .. => false
  | _ => true

/-- where a loud trace event comes from -/
def LoudOK (c : Cfg) : Tr → Prop
  | .m (.call h d s) => c.code.head? = some (.callH h d s)
  | .iter q _ p att batch => (∃ mode, c.code.head? = some (.gIter q mode)) ∧
      minPrio (att.filter fun g => !g.inCall) = some p ∧ batch = (att.filter fun g => !g.inCall).filter fun g => g.sig.prio = p
  | .disp q e g => c.code.head? = some (.gDisp q e g)
  | _ => True

/-- how the ticket lines change: only `take_ticket` (`procWait`), a released wait (`gWait`), and the epilogue of
`_run_handlers` (`endRun`: `mark_line_to_go`) touch them -/
def TicketOK (c : Cfg) (ts : List Ticket) : Prop :=
  match c.code.head? with
  | some (.procWait cls) => ts = c.L.tickets ++ [({ line := cls, id := c.L.tcounter, marked := false } : Ticket)]
  | some (.gWait cls t _) => ts = c.L.tickets.filter fun k => ¬ (k.line = cls ∧ k.id = t)
  | some (.endRun _ g) => ts = mark c.L.tickets g.sig.cls
  | _ => False

end Simpleline.G
