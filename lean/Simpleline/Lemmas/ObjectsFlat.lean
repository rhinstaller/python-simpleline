/-
  TicketMachine object: refinement of the flat ticket list of the abstract machine.
-/
import Simpleline.Lemmas.ObjectsTM

namespace Simpleline.Objects

variable {κ : Type} [DecidableEq κ]

omit [DecidableEq κ] in
theorem FlatTM.mem_take (f : FlatTM κ) (l : κ) (x : κ × Nat × Bool) :
    x ∈ (f.take l).2.tickets ↔ x ∈ f.tickets ∨ x = (l, f.counter, false) := by
  simp [FlatTM.take]

theorem FlatTM.mem_mark (f : FlatTM κ) (l l' : κ) (t : Nat) (b : Bool) :
    (l', t, b) ∈ (f.mark l).tickets ↔
      if l' = l then b = true ∧ ∃ b0, (l', t, b0) ∈ f.tickets else (l', t, b) ∈ f.tickets := by
  simp only [FlatTM.mark, List.mem_map]
  constructor
  · rintro ⟨⟨a, c, d⟩, hm, he⟩
    by_cases hal : a = l
    · simp only [hal, if_true, Prod.mk.injEq] at he
      obtain ⟨rfl, rfl, rfl⟩ := he
      rw [if_pos rfl]
      exact ⟨rfl, d, hal ▸ hm⟩
    · simp only [hal, if_false, Prod.mk.injEq] at he
      obtain ⟨rfl, rfl, rfl⟩ := he
      rw [if_neg hal]; exact hm
  · intro h
    split at h
    · rename_i hl
      obtain ⟨rfl, b0, hb0⟩ := h
      exact ⟨_, hb0, by simp [hl]⟩
    · rename_i hl
      exact ⟨_, h, by simp [hl]⟩

theorem FlatTM.any_marked_iff (f : FlatTM κ) (l : κ) (t : Nat) :
    f.tickets.any (fun k => k.1 = l ∧ k.2.1 = t ∧ k.2.2) = true ↔ (l, t, true) ∈ f.tickets := by
  simp only [List.any_eq_true, decide_eq_true_eq]
  constructor
  · rintro ⟨⟨a, c, d⟩, hm, rfl, rfl, rfl⟩; exact hm
  · intro h; exact ⟨_, h, rfl, rfl, rfl⟩

theorem FlatTM.check_eq (f : FlatTM κ) (l : κ) (t : Nat) :
    f.check l t =
      if (l, t, true) ∈ f.tickets then
        (.ready, { f with tickets := f.tickets.filter fun k => ¬ (k.1 = l ∧ k.2.1 = t) })
      else if ∃ b, (l, t, b) ∈ f.tickets then (.wait, f) else (.keyError, f) := by
  have hp : f.tickets.any (fun k => k.1 = l ∧ k.2.1 = t) = true ↔ ∃ b, (l, t, b) ∈ f.tickets := by
    simp only [List.any_eq_true, decide_eq_true_eq]
    constructor
    · rintro ⟨⟨a, c, d⟩, hm, rfl, rfl⟩; exact ⟨_, hm⟩
    · rintro ⟨b, h⟩; exact ⟨_, h, rfl, rfl⟩
  simp only [FlatTM.check, FlatTM.any_marked_iff, hp]

theorem FlatTM.mem_check (f : FlatTM κ) (l l' : κ) (t t' : Nat) (b : Bool) :
    (l', t', b) ∈ (f.check l t).2.tickets ↔
      (l', t', b) ∈ f.tickets ∧ ¬ ((l, t, true) ∈ f.tickets ∧ l' = l ∧ t' = t) := by
  rw [FlatTM.check_eq]
  split
  · next h => simp only [List.mem_filter, h, true_and, decide_eq_true_eq]
  · next h => split <;> simp [h]

theorem FlatTM.check_counter (f : FlatTM κ) (l : κ) (t : Nat) : (f.check l t).2.counter = f.counter := by
  rw [FlatTM.check_eq]; split
  · rfl
  · split <;> rfl

theorem TM.Abs.check {m : TM κ} {f : FlatTM κ} (h : m.Abs f) (hwf : m.WF) (l : κ) (t : Nat) :
    (m.check l t).2.Abs (f.check l t).2 := by
  refine ⟨by rw [TM.check_counter, FlatTM.check_counter]; exact h.1, fun l' t' b => ?_⟩
  rw [hwf.get_check_iff, FlatTM.mem_check, h.2]
  refine and_congr_right fun hm => not_congr ⟨?_, ?_⟩
  · rintro ⟨rfl, rfl, rfl⟩; exact ⟨hm, rfl, rfl⟩
  · rintro ⟨h0, rfl, rfl⟩
    rw [← h.2] at h0 hm
    exact ⟨rfl, rfl, Option.some.inj (hm.symm.trans h0)⟩

theorem TM.Abs.step {m : TM κ} {f : FlatTM κ} (h : m.Abs f) (hwf : m.WF) (op : TMOp κ) :
    (m.step op).1 = (f.step op).1 ∧ (m.step op).2.Abs (f.step op).2 := by
  cases op with
  | take l =>
    refine ⟨congrArg TMOut.ticket h.1, congrArg (· + 1) h.1, fun l' t' b => ?_⟩
    simp only [TM.step, FlatTM.step]
    rw [hwf.get_take_iff, FlatTM.mem_take, h.2, h.1, Prod.mk.injEq, Prod.mk.injEq]
  | check l t =>
    refine ⟨congrArg TMOut.checked ?_, h.check hwf l t⟩
    rw [TM.check_fst, FlatTM.check_eq]
    simp only [← h.2]
    cases m.get l t with
    | none => simp
    | some b => cases b <;> simp
  | mark l =>
    refine ⟨rfl, by rw [TM.step, TM.mark_counter]; exact h.1, fun l' t' b => ?_⟩
    simp only [TM.step, FlatTM.step]
    rw [TM.get_mark_iff, FlatTM.mem_mark]
    simp only [h.2]

theorem TM.Abs.run {m : TM κ} {f : FlatTM κ} (h : m.Abs f) (hwf : m.WF) (ops : List (TMOp κ)) :
    (m.run ops).1 = (f.run ops).1 ∧ (m.run ops).2.Abs (f.run ops).2 := by
  induction ops generalizing m f with
  | nil => exact ⟨rfl, h⟩
  | cons op ops ih =>
    obtain ⟨h1, h2⟩ := h.step hwf op
    obtain ⟨h3, h4⟩ := ih h2 (hwf.step op)
    exact ⟨by simp [TM.run, FlatTM.run, h1, h3], h4⟩

end Simpleline.Objects
