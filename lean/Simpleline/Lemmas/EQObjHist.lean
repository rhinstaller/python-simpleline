/-
  Sequences of calls on an `EventQueue`: the answer to one call of a sequence (`run_out_at`), and membership in
  the source set as a function of the call history: `contains_run` computes it by one pass (`regAfter`), which
  `regAfter_iff` relates to the declarative `Registered`.
-/
import Simpleline.Lemmas.EQObjBasic

namespace Simpleline.EQObj

open Simpleline.Heapq

theorem run_append (q : HQueue) (a b : List Op) :
    run q (a ++ b) = ((run q a).1 ++ (run (run q a).2 b).1, (run (run q a).2 b).2) := by
  induction a generalizing q with
  | nil => rfl
  | cons o os ih => simp only [List.cons_append, run, ih, List.cons_append]

theorem run_length (q : HQueue) (ops : List Op) : (run q ops).1.length = ops.length := by
  induction ops generalizing q with
  | nil => rfl
  | cons o os ih => simp [run, ih]

theorem run_out_at (q : HQueue) (pre post : List Op) (o : Op) :
    (run q (pre ++ o :: post)).1[pre.length]? = some (step (run q pre).2 o).1 := by
  rw [run_append]
  simp only [run]
  rw [List.getElem?_append_right (by rw [run_length]; exact Nat.le_refl _), run_length]
  simp

theorem contains_run (q : HQueue) (ops : List Op) (x : Src) :
    containsSource (run q ops).2 x = regAfter x (containsSource q x) ops := by
  induction ops generalizing q with
  | nil => rfl
  | cons o os ih =>
    simp only [run, regAfter]
    rw [ih, contains_step]
    cases o <;> simp only

theorem registered_cons (x : Src) (o : Op) (os : List Op) :
    Registered x (o :: os) ↔ (o = .addSource x ∧ Op.removeSource x ∉ os) ∨ Registered x os := by
  constructor
  · rintro ⟨pre, post, h, hn⟩
    cases pre with
    | nil =>
      simp only [List.nil_append, List.cons.injEq] at h
      exact Or.inl ⟨h.1, h.2 ▸ hn⟩
    | cons p pre' =>
      simp only [List.cons_append, List.cons.injEq] at h
      exact Or.inr ⟨pre', post, h.2, hn⟩
  · rintro (⟨rfl, hn⟩ | ⟨pre, post, rfl, hn⟩)
    · exact ⟨[], os, rfl, hn⟩
    · exact ⟨o :: pre, post, rfl, hn⟩

theorem regAfter_iff (x : Src) (ops : List Op) : ∀ b : Bool,
    regAfter x b ops = true ↔ Registered x ops ∨ (b = true ∧ Op.removeSource x ∉ ops) := by
  induction ops with
  | nil => intro b; simp [regAfter, Registered]
  | cons o os ih =>
    intro b
    rw [registered_cons]
    cases o with
    | addSource x' =>
      simp only [regAfter]
      rw [ih]
      by_cases hx : x = x'
      · subst hx
        simp only [decide_true, Bool.true_or, true_and, List.mem_cons, reduceCtorEq, false_or]
        grind
      · have hne : ¬ (Op.addSource x' = Op.addSource x) := fun h => hx (Op.addSource.inj h).symm
        simp only [hx, decide_false, Bool.false_or, hne, false_and, false_or, List.mem_cons, reduceCtorEq]
    | removeSource x' =>
      simp only [regAfter]
      rw [ih]
      by_cases hx : x = x'
      · subst hx
        simp only [decide_true, Bool.not_true, Bool.and_false, Bool.false_eq_true, false_and, or_false,
          reduceCtorEq, List.mem_cons, true_or, not_true_eq_false, and_false, false_or]
      · have hne : ¬ (Op.removeSource x = Op.removeSource x') := fun h => hx (Op.removeSource.inj h)
        simp only [hx, decide_false, Bool.not_false, Bool.and_true, reduceCtorEq, false_and, false_or,
          List.mem_cons, hne]
    | _ => simp only [regAfter]; rw [ih]; simp only [reduceCtorEq, false_and, false_or, List.mem_cons]

theorem step_contains (q : HQueue) (x : Src) : step q (.contains x) = (.bool (containsSource q x), q) := rfl

end Simpleline.EQObj
