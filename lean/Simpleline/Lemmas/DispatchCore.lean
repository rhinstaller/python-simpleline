import Simpleline.Lemmas.DispatchOther

/-
  The loop core as a table: `CoreStep` has one row per branch of `step` on a loop-core instruction, giving what the branch
  pushes in front of the remaining code, what it adds to trace and log, the new loop state and how the step ends.
  Every invariant of the loop is a property of the rows.
-/

namespace Simpleline.Dispatch
open Simpleline Simpleline.Machine

/-- how a step ends once its effect `m` on the configuration is known -/
inductive End where
  | ok
  | raise (k : Kind)
  | halt (o : Outcome)

def End.run : End → Cfg → Except (Outcome × Cfg) Cfg
  | .ok, m => .ok m
  | .raise k, m => m.raise k
  | .halt o, m => .error (o, m)

/-- the number of earlier invocations of user handler `hid` recorded in a trace whose newest event is the current call -/
def invNo (tr : List Tr) (hid : Nat) : Nat :=
  (tr.filter fun t => match t with | .call (.user h') _ _ => h' = hid | _ => false).length - 1

/-- the body a handler reference expands to; `tr` is the trace with the call already recorded -/
def bodyOf (P : Prog) (tr : List Tr) (h : HRef) (s : Sig) : List Instr :=
  match h with
  | .render => [.processScreen]
  | .close => [.closeScreen (some s.src)]
  | .itm => [.inputReceived s]
  | .ih n => [.inputReady n s]
  | .exc => []
  | .user hid => (P.handlerScript hid (invNo tr hid)).map .act ++ [.hret hid]

theorem bodyOf_mem {P : Prog} {tr : List Tr} {h : HRef} {s : Sig} {i : Instr} (hi : i ∈ bodyOf P tr h s) :
    (softI i = true ∧ blockI i = false) ∨ ∃ hid, i = .hret hid := by
  cases h
  case user hid =>
    rcases List.mem_append.mp hi with hi | hi
    · obtain ⟨a, -, rfl⟩ := List.mem_map.mp hi; exact .inl ⟨rfl, rfl⟩
    · exact .inr ⟨hid, List.mem_singleton.mp hi⟩
  case exc => cases hi
  all_goals rw [List.mem_singleton.mp hi]; exact .inl ⟨rfl, rfl⟩

theorem bodyOf_all {p : Instr → Bool} (hs : ∀ i, softI i = true → p i = false) (hr : ∀ hid, p (.hret hid) = false)
    {P : Prog} {tr : List Tr} {h : HRef} {s : Sig} : ∀ i ∈ bodyOf P tr h s, p i = false := by
  intro i hi
  rcases bodyOf_mem hi with ⟨h1, -⟩ | ⟨hid, rfl⟩
  · exact hs i h1
  · exact hr hid

theorem take_soft (c : Cfg) :
    ∃ Q A' lg tr' n, (∀ t ∈ tr', softT t = true) ∧ (∀ e ∈ lg, softE e = true) ∧
      (c.take = .error (.blocked,
          { c with L := { c.L with queues := Q }, A := A', log := lg ++ c.log, tr := tr' ++ c.tr, nextSid := n }) ∨
       ∃ s Q', c.take = .ok (s,
          { c with L := { c.L with queues := Q' }, A := A', log := lg ++ c.log, tr := .take c.L.active s :: (tr' ++ c.tr),
                   nextSid := n })) := by
  obtain ⟨c1, h1, h2⟩ := take_cases c
  obtain ⟨Q, A', n, tr', lg, ht, hl, rfl⟩ : ∃ Q A' n tr' lg, (∀ t ∈ tr', softT t = true) ∧ (∀ e ∈ lg, softE e = true) ∧
      c1 = { c with L := { c.L with queues := Q }, A := A', log := lg ++ c.log, tr := tr' ++ c.tr, nextSid := n } := by
    rcases h1 with rfl | ⟨-, hd⟩
    · exact ⟨c1.L.queues, c1.A, c1.nextSid, [], [], by simp, by simp, rfl⟩
    · have h := deliver_nf c
      rwa [hd] at h
  refine ⟨Q, A', lg, tr', n, ht, hl, ?_⟩
  rcases h2 with ⟨-, h2⟩ | ⟨e, es, -, h2⟩ <;> rw [h2]
  · exact .inl rfl
  · exact .inr ⟨_, _, rfl⟩

theorem emit_fields (P : Prog) (b : Cfg) (ev : Ev) :
    ∃ Q tr' lg', (∀ t ∈ tr', softT t = true) ∧ (∀ e ∈ lg', softE e = true) ∧ (b.emit P ev).code = b.code ∧
      (b.emit P ev).L = { b.L with queues := Q } ∧ (b.emit P ev).tr = tr' ++ b.tr ∧
      (b.emit P ev).log = (lg' ++ [ev]) ++ b.log := by
  obtain ⟨Q, A', n, tr', lg', h1, h2, he⟩ := emit_nf P b ev
  exact ⟨Q, tr', lg', h1, h2, by rw [he], by rw [he], by rw [he], by rw [he]⟩

/-- `CoreStep P c ins pushed new L' lg e`: in `c` the instruction `ins` may push `pushed`, trace `new`, log `lg`, leave the loop state
`L'` and end as `e`.  (`tr'`, `lg'`, `lg`, `Q`, `t` bound in a row: soft events and a queue store of which the row says no more —
what a typed line delivered during the step adds, the queue store after a take or after the enqueue of `newLoop`, and, in
`callSys`, the note the exception handler logs.) -/
inductive CoreStep (P : Prog) (c : Cfg) : Instr → List Instr → List Tr → LoopSt → List Ev → End → Prop
  | forceQuit : CoreStep P c (.act .forceQuit) [] [.forceQuit]
      { c.L with forceQuit := true, levels := [], runLoop := false } [] .ok
  | refuse (h : ¬ P.runEmpty ∧ c.A.stack = []) : CoreStep P c .apprun [] [] c.L [] (.halt (.raised "NothingScheduled"))
  | apprun (h : ¬ (¬ P.runEmpty ∧ c.A.stack = [])) : CoreStep P c .apprun [.mainCheck 0, .catchExit, .quitCb] []
      { c.L with forceQuit := false, runLoop := true } [] .ok
  | catchExit : CoreStep P c .catchExit [] [] c.L [] .ok
  | quitCbSome {d Q tr' lg'} (h : c.L.quitCb = some d) (ht : ∀ t ∈ tr', softT t = true) (hl : ∀ e ∈ lg', softE e = true) :
      CoreStep P c .quitCb [] tr' { c.L with queues := Q } (lg' ++ [.quitcb d]) .ok
  | quitCbNone (h : c.L.quitCb = none) : CoreStep P c .quitCb [] [] c.L [] .ok
  | mainGo {q} (h : c.L.runLoop = true) : CoreStep P c (.mainCheck q) [.loopCheck, .mainCheck q] [] c.L [] .ok
  | mainExit {q} (h : c.L.runLoop = false) : CoreStep P c (.mainCheck q) [.restoreRun] [.loopReturn q] c.L [] .ok
  | restoreFQ (h : c.L.forceQuit = true) : CoreStep P c .restoreRun [] [] c.L [] .ok
  | restore (h : c.L.forceQuit = false) : CoreStep P c .restoreRun [] [] { c.L with runLoop := true } [] .ok
  | loopGo (h : c.L.runLoop = true) : CoreStep P c .loopCheck [.getDispatch, .loopCheck] [] c.L [] .ok
  | loopExit (h : c.L.runLoop = false) : CoreStep P c .loopCheck [] [] c.L [] .ok
  | getDispatch {s Q tr' lg} (ht : ∀ t ∈ tr', softT t = true) (hl : ∀ e ∈ lg, softE e = true) :
      CoreStep P c .getDispatch [.processSignal s] (.take c.L.active s :: tr') { c.L with queues := Q } lg .ok
  | getBlocked {Q tr' lg} (ht : ∀ t ∈ tr', softT t = true) (hl : ∀ e ∈ lg, softE e = true) :
      CoreStep P c .getDispatch [] tr' { c.L with queues := Q } lg (.halt .blocked)
  | psDispatch {s} (h : handlersOf c.L s.cls ≠ []) : CoreStep P c (.processSignal s) [.dispatch s 0] []
      { c.L with tickets := mark c.L.tickets s.cls } [] .ok
  | psKill {s} (h : handlersOf c.L s.cls = []) (he : s.cls = .exception) : CoreStep P c (.processSignal s) [.kill s] []
      { c.L with tickets := mark c.L.tickets s.cls } [] .ok
  | psNone {s} (h : handlersOf c.L s.cls = []) (he : s.cls ≠ .exception) : CoreStep P c (.processSignal s) []
      [.dispatched s 0] { c.L with tickets := mark c.L.tickets s.cls } [] .ok
  | dispCall {s i h d} (hh : (handlersOf c.L s.cls)[i]? = some (h, d)) (hf : c.L.forceQuit = false) :
      CoreStep P c (.dispatch s i) [.callH h d s, .catchHandler, .dispatch s (i + 1)] [] c.L [] .ok
  | dispDone {s i} (hh : (handlersOf c.L s.cls)[i]? = none ∨ c.L.forceQuit = true) :
      CoreStep P c (.dispatch s i) [] [.dispatched s i] c.L [] .ok
  | catchHandler : CoreStep P c .catchHandler [] [] c.L [] .ok
  | kill {s} : CoreStep P c (.kill s) [] [.kill] c.L [] (.raise .sysexit)
  | callUser {hid d s Q tr' lg'} (ht : ∀ t ∈ tr', softT t = true) (hl : ∀ e ∈ lg', softE e = true) :
      CoreStep P c (.callH (.user hid) d s) (bodyOf P (.call (.user hid) d s :: c.tr) (.user hid) s)
        (tr' ++ [.call (.user hid) d s]) { c.L with queues := Q } (lg' ++ [.h hid s.id d c.L.levels.length]) .ok
  | callSys {h d s Q tr' lg} (hu : ∀ hid, h ≠ .user hid) (ht : ∀ t ∈ tr', softT t = true) (hl : ∀ e ∈ lg, softE e = true) :
      CoreStep P c (.callH h d s) (bodyOf P c.tr h s) (tr' ++ [.call h d s]) { c.L with queues := Q } lg .ok
  | hret {hid Q tr' lg'} (ht : ∀ t ∈ tr', softT t = true) (hl : ∀ e ∈ lg', softE e = true) :
      CoreStep P c (.hret hid) [] tr' { c.L with queues := Q } (lg' ++ [.hret hid]) .ok
  | procWait {cls} : CoreStep P c (.procWait cls) [.waitStep cls c.L.tcounter] [.waitBegin cls c.L.tcounter]
      { c.L with tcounter := c.L.tcounter + 1,
                 tickets := c.L.tickets ++ [({ line := cls, id := c.L.tcounter, marked := false } : Ticket)] } [] .ok
  | waitTake {cls t s Q tr' lg} (hr : c.L.runLoop = true) (ht : ∀ t ∈ tr', softT t = true) (hl : ∀ e ∈ lg, softE e = true) :
      CoreStep P c (.waitStep cls t) [.processSignal s, .waitCheck cls t] (.take c.L.active s :: tr')
        { c.L with queues := Q } lg .ok
  | waitBlocked {cls t Q tr' lg} (hr : c.L.runLoop = true) (ht : ∀ t ∈ tr', softT t = true) (hl : ∀ e ∈ lg, softE e = true) :
      CoreStep P c (.waitStep cls t) [] tr' { c.L with queues := Q } lg (.halt .blocked)
  | waitStop {cls t} (hr : c.L.runLoop = false) : CoreStep P c (.waitStep cls t) [] [.waitEnd cls t false] c.L [] .ok
  | waitDone {cls t} (h : c.L.tickets.any (fun k => k.line = cls ∧ k.id = t ∧ k.marked) = true) :
      CoreStep P c (.waitCheck cls t) [] [.waitEnd cls t true]
        { c.L with tickets := c.L.tickets.filter fun k => ¬ (k.line = cls ∧ k.id = t) } [] .ok
  | waitAgain {cls t} (h : c.L.tickets.any (fun k => k.line = cls ∧ k.id = t ∧ k.marked) = false) :
      CoreStep P c (.waitCheck cls t) [.waitStep cls t] [] c.L [] .ok
  | iterEnd {p} (h : c.L.activeQ.entries = [] ∨ c.L.runLoop = false) : CoreStep P c (.procIter p) [] [.procEnd] c.L [] .ok
  | iterTake {p e es Q} (h : c.L.activeQ.entries = e :: es) (hr : c.L.runLoop = true) (hp : p = none ∨ p = some e.2.2.prio) :
      CoreStep P c (.procIter p) [.processSignal e.2.2, .procIter (some e.2.2.prio)] [.take c.L.active e.2.2]
        { c.L with queues := Q } [] .ok
  | iterOther {pr e es} (h : c.L.activeQ.entries = e :: es) (hr : c.L.runLoop = true) (hp : e.2.2.prio ≠ pr) :
      CoreStep P c (.procIter (some pr)) [] [.procEnd, .putBack c.L.active e.2.2] c.L [] .ok
  | newLoopFQ {s} (h : c.L.forceQuit = true) : CoreStep P c (.newLoop s) [] [] c.L [] .ok
  | newLoop {s Q t} (h : c.L.forceQuit = false) (ht : softT t = true) :
      CoreStep P c (.newLoop s) [.mainCheck c.L.queues.length] [t, .openLevel c.L.queues.length c.L.runLoop]
        { c.L with queues := Q, active := c.L.queues.length, levels := c.L.levels ++ [c.L.queues.length] } [] .ok
  | closeLoop : CoreStep P c .closeLoop [.procIter none, .popLevel]
      [.procBegin, .closeReq c.L.runLoop c.L.activeQ.entries.length] c.L [] .ok
  | popErr (h : c.L.levels.getLast? = none) : CoreStep P c .popLevel [] [] c.L [] (.raise .err)
  | popExit {q} (h : c.L.levels.getLast? = some q) (h2 : c.L.levels.dropLast.getLast? = none) :
      CoreStep P c .popLevel [] [.closeLevel q] { c.L with levels := [] } [] (.raise .exit)
  | pop {q a} (h : c.L.levels.getLast? = some q) (h2 : c.L.levels.dropLast.getLast? = some a) :
      CoreStep P c .popLevel [] [.closeLevel q]
        { c.L with levels := c.L.levels.dropLast, active := a, runLoop := false } [] .ok

/-- `r` is the result of a row of the table for `ins` in front of `rest` -/
def IsCore (P : Prog) (c : Cfg) (ins : Instr) (rest : List Instr) (r : Except (Outcome × Cfg) Cfg) : Prop :=
  ∃ pushed new L' lg e m, CoreStep P c ins pushed new L' lg e ∧ r = End.run e m ∧
    m.code = pushed ++ rest ∧ m.L = L' ∧ m.tr = new ++ c.tr ∧ m.log = lg ++ c.log

theorem IsCore.row {P : Prog} {c m : Cfg} {ins : Instr} {rest pushed : List Instr} {new : List Tr} {L' : LoopSt}
    {lg : List Ev} {e : End} (h : CoreStep P c ins pushed new L' lg e) (h1 : m.code = pushed ++ rest) (h2 : m.L = L')
    (h3 : m.tr = new ++ c.tr) (h4 : m.log = lg ++ c.log) : IsCore P c ins rest (e.run m) :=
  ⟨_, _, _, _, _, _, h, rfl, h1, h2, h3, h4⟩

theorem IsCore.ite {P : Prog} {c : Cfg} {ins : Instr} {rest : List Instr} {p : Prop} [Decidable p]
    {r r' : Except (Outcome × Cfg) Cfg} (h : p → IsCore P c ins rest r) (h' : ¬ p → IsCore P c ins rest r') :
    IsCore P c ins rest (if p then r else r') := by
  split
  · exact h ‹_›
  · exact h' ‹_›

theorem step_core {P : Prog} {c : Cfg} {ins : Instr} {rest : List Instr} (hc : c.code = ins :: rest)
    (ho : otherI ins = false) : IsCore P c ins rest (step P c) := by
  have take : ∀ {f : Sig × Cfg → Except (Outcome × Cfg) Cfg},
      (∀ {Q A' lg tr' n}, (∀ t ∈ tr', softT t = true) → (∀ e ∈ lg, softE e = true) → IsCore P c ins rest
        (.error (.blocked, { c with code := rest, L := { c.L with queues := Q }, A := A', log := lg ++ c.log,
                                    tr := tr' ++ c.tr, nextSid := n }))) →
      (∀ {s Q A' lg tr' n}, (∀ t ∈ tr', softT t = true) → (∀ e ∈ lg, softE e = true) → IsCore P c ins rest
        (f (s, { c with code := rest, L := { c.L with queues := Q }, A := A', log := lg ++ c.log,
                        tr := .take c.L.active s :: (tr' ++ c.tr), nextSid := n }))) →
      IsCore P c ins rest (({ c with code := rest } : Cfg).take >>= f) := by
    intro f h1 h2
    obtain ⟨Q, A', lg, tr', n, ht, hl, h | ⟨s, Q', h⟩⟩ := take_soft { c with code := rest } <;> rw [h]
    · exact h1 ht hl
    · exact h2 ht hl
  unfold step
  simp only [hc]
  cases ins
  case act a =>
    cases a
    case forceQuit => exact .row .forceQuit rfl rfl rfl rfl
    case proc cls => cases cls <;> cases ho
    all_goals cases ho
  case apprun => exact .ite (fun h => .row (.refuse h) rfl rfl rfl rfl) fun h => .row (.apprun h) rfl rfl rfl rfl
  case catchExit => exact .row .catchExit rfl rfl rfl rfl
  case quitCb =>
    dsimp only
    split
    · obtain ⟨Q, tr', lg', h1, h2, e1, e2, e3, e4⟩ := emit_fields P { c with code := rest } (.quitcb ‹_›)
      exact .row (.quitCbSome ‹_› h1 h2) e1 e2 e3 e4
    · exact .row (.quitCbNone ‹_›) rfl rfl rfl rfl
  case mainCheck q =>
    exact .ite (fun h => .row (.mainGo h) rfl rfl rfl rfl) fun h => .row (.mainExit (Bool.eq_false_iff.mpr h)) rfl rfl rfl rfl
  case restoreRun =>
    exact .ite (fun h => .row (.restoreFQ h) rfl rfl rfl rfl) fun h => .row (.restore (Bool.eq_false_iff.mpr h)) rfl rfl rfl rfl
  case loopCheck =>
    exact .ite (fun h => .row (.loopGo h) rfl rfl rfl rfl) fun h => .row (.loopExit (Bool.eq_false_iff.mpr h)) rfl rfl rfl rfl
  case getDispatch =>
    exact take (fun ht hl => .row (.getBlocked ht hl) rfl rfl rfl rfl) fun ht hl => .row (.getDispatch ht hl) rfl rfl rfl rfl
  case processSignal s =>
    refine .ite (fun h => .row (.psDispatch h) rfl rfl rfl rfl) fun h => ?_
    have hn : handlersOf c.L s.cls = [] := Classical.not_not.mp h
    exact .ite (fun he => .row (.psKill hn he) rfl rfl rfl rfl) fun he => .row (.psNone hn he) rfl rfl rfl rfl
  case dispatch s i =>
    dsimp only
    split
    · exact .ite (fun h => .row (.dispDone (.inr h)) rfl rfl rfl rfl)
        fun h => .row (.dispCall ‹_› (Bool.eq_false_iff.mpr h)) rfl rfl rfl rfl
    · exact .row (.dispDone (.inl ‹_›)) rfl rfl rfl rfl
  case catchHandler => exact .row .catchHandler rfl rfl rfl rfl
  case kill s => exact .row .kill rfl rfl rfl rfl
  case callH h d s =>
    cases h
    case user hid =>
      obtain ⟨Q, tr', lg', h1, h2, e1, e2, e3, e4⟩ :=
        emit_fields P (({ c with code := rest } : Cfg).trace (.call (.user hid) d s)) (.h hid s.id d c.L.levels.length)
      exact .row (.callUser h1 h2) (congrArg (bodyOf P (.call (.user hid) d s :: c.tr) (.user hid) s ++ ·) e1) e2
        (e3.trans (List.append_assoc tr' [_] c.tr).symm) e4
    case exc =>
      obtain ⟨Q, tr', lg', h1, h2, e1, e2, e3, e4⟩ :=
        emit_fields P (({ c with code := rest } : Cfg).trace (.call .exc d s)) (.note "EXC-handled")
      exact .row (.callSys (by simp) h1 (forall_mem_snoc h2 rfl)) e1 e2 (e3.trans (List.append_assoc tr' [_] c.tr).symm) e4
    all_goals exact .row (.callSys (tr' := []) (lg := []) (by simp) (by simp) (by simp)) rfl rfl rfl rfl
  case hret hid =>
    obtain ⟨Q, tr', lg', h1, h2, e1, e2, e3, e4⟩ := emit_fields P { c with code := rest } (.hret hid)
    exact .row (.hret h1 h2) e1 e2 e3 e4
  case procWait cls => exact .row .procWait rfl rfl rfl rfl
  case waitStep cls t =>
    refine .ite (fun hr => ?_) fun h => .row (.waitStop (Bool.eq_false_iff.mpr h)) rfl rfl rfl rfl
    exact take (fun ht hl => .row (.waitBlocked hr ht hl) rfl rfl rfl rfl) fun ht hl => .row (.waitTake hr ht hl) rfl rfl rfl rfl
  case waitCheck cls t =>
    exact .ite (fun h => .row (.waitDone h) rfl rfl rfl rfl) fun h => .row (.waitAgain (Bool.eq_false_iff.mpr h)) rfl rfl rfl rfl
  case procIter p =>
    dsimp only
    split
    · exact .row (.iterEnd (.inl ‹_›)) rfl rfl rfl rfl
    · rename_i e es he
      refine .ite (fun h => .row (.iterEnd (.inr (Bool.eq_false_iff.mpr h))) rfl rfl rfl rfl) fun h => ?_
      have hr : c.L.runLoop = true := Classical.not_not.mp h
      cases p with
      | none => exact .row (.iterTake he hr (.inl rfl)) rfl rfl rfl rfl
      | some pr =>
        refine .ite (fun hp => ?_) fun hp => .row (.iterOther he hr hp) rfl rfl rfl rfl
        exact .row (.iterTake he hr (.inr (by rw [hp]))) (by rw [hp]; rfl) rfl rfl rfl
  case newLoop s =>
    refine .ite (fun h => .row (.newLoopFQ h) rfl rfl rfl rfl) fun h => ?_
    rw [enqueue_eq]
    exact .row (.newLoop (Bool.eq_false_iff.mpr h) (softT_enqT _ s)) rfl rfl rfl rfl
  case closeLoop => exact .row .closeLoop rfl rfl rfl rfl
  case popLevel =>
    dsimp only
    split
    · exact .row (.popErr ‹_›) rfl rfl rfl rfl
    · split
      · exact .row (.popExit ‹_› ‹_›) rfl rfl rfl rfl
      · exact .row (.pop ‹_› ‹_›) rfl rfl rfl rfl
  all_goals cases ho

end Simpleline.Dispatch
