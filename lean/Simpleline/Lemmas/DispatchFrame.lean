import Simpleline.Lemmas.MachineOps

/-
  The effect of a delivery on the fields, and where an exception lands (`unwind`, `raise` of MachineOps) in the
  vocabulary of the dispatch properties: `errCatch` for the catchers of an ordinary exception, `isCatchExit` for the
  one of an exit request.
-/

namespace Simpleline.Dispatch
open Simpleline Simpleline.Machine

theorem deliver_eq {c c' : Cfg} (h : c.deliver = some c') :
    ∃ r rs, c.A.readers = r :: rs ∧
      c' = { c with L := { c.L with queues := enqQ c.L (lineSig c r) },
                    A := { c.A with readers := rs, stdin := c.A.stdin.tail },
                    log := .read (c.A.stdin.headD []) :: c.log,
                    tr := enqT c.L (lineSig c r) :: c.tr, nextSid := c.nextSid + 1 } := by
  rcases deliver_cases c with ⟨-, h'⟩ | ⟨r, rs, hr, h'⟩ <;> rw [h'] at h <;> cases h
  exact ⟨r, rs, hr, enqueue_eq _ _⟩

theorem not_catches_err {l : List Instr} (h : ∀ i ∈ l, errCatch i = none) : ∀ i ∈ l, i.catches .err = false :=
  fun i hi => by rw [catches_err, h i hi]; rfl

theorem not_catches_exit {l : List Instr} (h : ∀ i ∈ l, isCatchExit i = false) : ∀ i ∈ l, i.catches .exit = false :=
  fun i hi => by rw [catches_exit, h i hi]

theorem unwind_err_none {code : List Instr} (h : ∀ i ∈ code, errCatch i = none) (c : Cfg) :
    unwind .err code c = .error (.raised "err", { c with code := [] }) :=
  unwind_none (not_catches_err h) c

theorem unwind_exit_none {code : List Instr} (h : ∀ i ∈ code, isCatchExit i = false) (c : Cfg) :
    unwind .exit code c = .error (.raised "exit", { c with code := [] }) :=
  unwind_none (not_catches_exit h) c

theorem unwind_err_catch {pre : List Instr} (hpre : ∀ i ∈ pre, errCatch i = none) {ins : Instr} {src : Src}
    (hins : errCatch ins = some src) (rest : List Instr) (c : Cfg) :
    unwind .err (pre ++ ins :: rest) c = .ok { excEnq c src with code := afterCatch ins rest } := by
  rw [unwind_append (not_catches_err hpre), unwind_cons, catches_err, caughtBy_err hins, hins]; rfl

theorem unwind_exit_catch {pre : List Instr} (hpre : ∀ i ∈ pre, isCatchExit i = false) (rest : List Instr) (c : Cfg) :
    unwind .exit (pre ++ .catchExit :: rest) c = .ok { c with code := rest } := by
  rw [unwind_append (not_catches_exit hpre)]; rfl

theorem catchExit_split (code : List Instr) :
    (∀ i ∈ code, isCatchExit i = false) ∨
    ∃ pre rest, code = pre ++ .catchExit :: rest ∧ (∀ i ∈ pre, isCatchExit i = false) := by
  rcases split_first isCatchExit code with h | ⟨pre, x, rest, h1, h2, h3⟩
  · exact .inl h
  · cases x <;> cases h3
    exact .inr ⟨pre, rest, h1, h2⟩

theorem raise_ok {c c' : Cfg} {k : Kind} (h : c.raise k = .ok c') :
    (k = .exit ∧ ∃ pre rest, c.code = pre ++ .catchExit :: rest ∧ (∀ i ∈ pre, isCatchExit i = false) ∧
        c' = { c with code := rest, tr := .exit :: c.tr }) ∨
    (k = .err ∧ ∃ pre ins rest src, c.code = pre ++ ins :: rest ∧ (∀ i ∈ pre, errCatch i = none) ∧
        errCatch ins = some src ∧ c' = { excEnq c src with code := afterCatch ins rest }) := by
  rw [raise_eq] at h
  rcases unwind_cases k c.code (preRaise c k) with ⟨-, he⟩ | ⟨pre, ins, rest, hc, hp, hi, he⟩ <;> rw [he] at h <;> cases h
  cases k with
  | exit =>
    cases ins <;> cases hi
    exact .inl ⟨rfl, pre, rest, hc, fun i hi => catches_exit i ▸ hp i hi, rfl⟩
  | err =>
    obtain ⟨src, hs⟩ := Option.isSome_iff_exists.mp (catches_err ins ▸ hi)
    exact .inr ⟨rfl, pre, ins, rest, src, hc, fun i hi => Option.not_isSome_iff_eq_none.mp (by rw [← catches_err, hp i hi]; simp),
      hs, by rw [caughtBy_err hs]; rfl⟩
  | sysexit => rw [catches_sysexit] at hi; cases hi

theorem raise_error {c c' : Cfg} {k : Kind} {o : Outcome} (h : c.raise k = .error (o, c')) :
    c' = { preRaise c k with code := [] } ∧ o = failOutcome k := by
  rw [raise_eq] at h
  rcases unwind_cases k c.code (preRaise c k) with ⟨-, he⟩ | ⟨_, _, _, -, -, -, he⟩ <;> rw [he] at h <;> cases h
  exact ⟨rfl, rfl⟩

def popQ (L : LoopSt) : List EQueue := listSet L.queues L.active fun q => { q with entries := q.entries.tail }

end Simpleline.Dispatch
