/-
  Basic invariants relating markers, levels and flags (no history hypothesis needed):
  markers strictly decreasing and below the number of queue objects, levels strictly increasing,
  force-quit empties the levels, the active queue is the top level.  `reach_sv_inv`: the induction that carries an
  invariant of the view together with `Basic` and a history hypothesis inherited backwards.
-/
import Simpleline.Lemmas.ShapeMarkers

namespace Simpleline

/-- `markersA` lists the activations innermost first, `levels` outermost first. -/
structure Basic (v : SV) : Prop where
  chained : Chained v.code
  nq_pos : 0 < v.nq
  msorted : (markersA v.code).Pairwise (· > ·)
  mlt : ∀ q ∈ markersA v.code, q < v.nq
  lsorted : v.levels.Pairwise (· < ·)
  llt : ∀ q ∈ v.levels, q < v.nq
  fq : v.forceQuit = true → v.levels = [] ∧ v.runLoop = false
  active : ∀ a, v.levels.getLast? = some a → v.active = a

namespace Shape

theorem getLast?_dropLast_lt {l : List Nat} (hs : l.Pairwise (· < ·)) {q : Nat} (hq : l.getLast? = some q) :
    ∀ x ∈ l.dropLast, x < q := by
  obtain ⟨l', rfl⟩ := List.getLast?_eq_some_iff.1 hq
  rw [List.dropLast_concat]
  exact fun x hx => (List.pairwise_append.1 hs).2.2 x hx q (List.mem_singleton_self q)

theorem basic_markers {P : Prog} {v v' : SV} {evs : List Tr} (hb : Basic v) (hs : SStepE P v evs v') :
    0 < v'.nq ∧ (markersA v'.code).Pairwise (· > ·) ∧ ∀ q ∈ markersA v'.code, q < v'.nq := by
  rcases sstepE_markers_sub (sstepE_level hb.chained hs) with ⟨h1, h2⟩ | ⟨h1, h2, _⟩
  · rw [h2]
    exact ⟨hb.nq_pos, hb.msorted.sublist h1, fun q hq => hb.mlt q (h1.subset hq)⟩
  · rw [h1, h2]
    refine ⟨by omega, List.pairwise_cons.2 ⟨hb.mlt, hb.msorted⟩, fun q hq => ?_⟩
    rcases List.mem_cons.1 hq with rfl | hq
    · omega
    · have := hb.mlt q hq; omega

theorem basic_step {P : Prog} {v v' : SV} {evs : List Tr} (hb : Basic v) (hs : SStepE P v evs v') : Basic v' := by
  have hch := sstep_chained hb.chained hs
  obtain ⟨h1, h2, h3⟩ := basic_markers hb hs
  cases hs with
  | forceQuit _ => exact ⟨hch, h1, h2, h3, .nil, nofun, fun _ => ⟨rfl, rfl⟩, nofun⟩
  | apprun _ => exact ⟨hch, h1, h2, h3, hb.lsorted, hb.llt, nofun, hb.active⟩
  | restore _ hf => exact ⟨hch, h1, h2, h3, hb.lsorted, hb.llt, fun h => absurd (hf ▸ h) nofun, hb.active⟩
  | «open» _ hf =>
    refine ⟨hch, h1, h2, h3, ?_, ?_, fun h => absurd (hf ▸ h) nofun, ?_⟩
    · show (v.levels ++ [v.nq]).Pairwise (· < ·)
      rw [List.pairwise_append]
      exact ⟨hb.lsorted, List.pairwise_singleton _ _, fun a ha b hb' => List.mem_singleton.1 hb' ▸ hb.llt a ha⟩
    · intro q hq
      show q < v.nq + 1
      rcases List.mem_append.1 (show q ∈ v.levels ++ [v.nq] from hq) with hq | hq
      · have := hb.llt q hq; omega
      · have := List.mem_singleton.1 hq; omega
    · intro a ha
      exact (Option.some.inj ((List.getLast?_concat ..).symm.trans ha))
  | pop _ hq ha =>
    refine ⟨hch, h1, h2, h3, hb.lsorted.sublist (List.dropLast_sublist _),
      fun q hq => hb.llt q (List.dropLast_subset _ hq), fun hf => ?_, fun a' ha' => ?_⟩
    · rw [(hb.fq hf).1] at hq; cases hq
    · exact Option.some.inj (ha.symm.trans ha')
  | popExit _ _ _ => exact ⟨hch, h1, h2, h3, .nil, nofun, fun hf => ⟨rfl, (hb.fq hf).2⟩, nofun⟩
  | stutter | batch _ _ | halt _ _ | raise _ _ | kill _ | schedule _ | enqAct _ | pushScr _ | replace _ _ | pushModal _
  | closeScreen _ _ | discard _ _ | identSkip _ _ _ => exact ⟨hch, h1, h2, h3, hb.lsorted, hb.llt, hb.fq, hb.active⟩

theorem basic_init {c0 : Cfg} (h0 : Started c0) : Basic c0.sv := by
  obtain ⟨init, handlers, quitCb, stdin, rfl⟩ := h0
  have hm : markersA (initCfg init handlers quitCb stdin).sv.code = [0] := markersA_init init
  refine ⟨chained_init init, Nat.one_pos, ?_, ?_, List.pairwise_singleton _ _, ?_, nofun, ?_⟩
  · rw [hm]; exact List.pairwise_singleton _ _
  · rw [hm]; exact fun q hq => List.mem_singleton.1 hq ▸ Nat.one_pos
  · exact fun q hq => List.mem_singleton.1 hq ▸ Nat.one_pos
  · exact fun a ha => Option.some.inj ha

theorem reach_basic {P : Prog} {c0 c : Cfg} (h0 : Started c0) (h : Reach P c0 c) : Basic c.sv :=
  reach_sv_induction Basic (basic_init h0) (fun _ _ _ hb hs => basic_step hb hs) h

theorem reach_sv_inv {P : Prog} {c0 c : Cfg} {I H : SV → Prop} (h0 : Started c0) (hr : Reach P c0 c)
    (hH : ∀ {v evs v'}, SStepE P v evs v' → H v' → H v) (hinit : I c0.sv)
    (hstep : ∀ {v evs v'}, Basic v → I v → SStepE P v evs v' → H v' → I v') (hc : H c.sv) : I c.sv := by
  revert hc
  refine reach_induction_trans (motive := fun c => H c.sv → I c.sv) (fun _ => hinit) ?_ hr
  intro ca cb hra ht ih hb
  obtain ⟨evs, hs, _⟩ := trans_sstep ht
  exact hstep (reach_basic h0 hra) (ih (hH hs hb)) hs hb

end Shape

end Simpleline
