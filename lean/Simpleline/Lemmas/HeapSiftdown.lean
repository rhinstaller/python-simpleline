/-
  The loop invariants of the two sifts (`HeapExcept`: one entry may be too small; `HoleHeap`: one slot does not
  count) and how a heap and they pass into each other; `_siftdown(heap, 0, pos)` restores the heap property and
  only permutes the list.
-/
import Simpleline.Lemmas.HeapOrder

namespace Simpleline.Heapq

variable {α : Type}

theorem get_set (a : Array α) (k i : Nat) (x : α) (h : i < (a.setIfInBounds k x).size) :
    (a.setIfInBounds k x)[i] = if k = i then x else a[i]'(by simpa using h) :=
  Array.getElem_setIfInBounds _

theorem set_get_self (a : Array α) (k : Nat) (h : k < a.size) : a.setIfInBounds k a[k] = a := by
  simp [Array.setIfInBounds, h]

/-- the invariant of the `_siftdown` loop, on the list with the held item written into the hole `k` -/
def HeapExcept (lt : α → α → Bool) (a : Array α) (k : Nat) : Prop :=
  (∀ i (h : i < a.size), 0 < i → i ≠ k → lt a[i] (a[(i - 1) / 2]'(by omega)) = false) ∧
  (∀ c (h : c < a.size) (_ : 0 < c) (_ : (c - 1) / 2 = k), 0 < k → lt a[c] (a[(k - 1) / 2]'(by omega)) = false)

theorem IsHeap.heapExcept {lt : α → α → Bool} (so : StrictOrd lt) {a : Array α} (H : IsHeap lt a) (k : Nat) :
    HeapExcept lt a k := by
  refine ⟨fun i h hi _ => H i h hi, fun c h hc hk hk0 => ?_⟩
  have h1 := H c h hc
  have h2 := H k (hk ▸ parent_lt h) hk0
  simp only [hk] at h1
  exact so.le_trans _ _ _ h2 h1

/-- the invariant of the `_siftup` loop, on the list with a hole at `k` (the value stored at `k` is irrelevant) -/
def HoleHeap (lt : α → α → Bool) (a : Array α) (k : Nat) : Prop :=
  (∀ i (h : i < a.size), 0 < i → i ≠ k → (i - 1) / 2 ≠ k → lt a[i] (a[(i - 1) / 2]'(by omega)) = false) ∧
  (∀ c (h : c < a.size) (_ : 0 < c) (_ : (c - 1) / 2 = k), 0 < k → lt a[c] (a[(k - 1) / 2]'(by omega)) = false)

theorem HeapExcept.holeHeap {lt : α → α → Bool} {a : Array α} {k : Nat} (H : HeapExcept lt a k) : HoleHeap lt a k :=
  ⟨fun i hi hi0 hik _ => H.1 i hi hi0 hik, H.2⟩

theorem HeapExcept.parent_down {lt : α → α → Bool} (so : StrictOrd lt) {h : Array α} {k : Nat} {x : α}
    (hk : k < h.size) (hk0 : 0 < k) (H : HeapExcept lt (h.setIfInBounds k x) k) :
    IsHeap lt (h.setIfInBounds k (h[(k - 1) / 2]'(parent_lt hk))) := by
  intro i hi hi0
  have hi' : i < (h.setIfInBounds k x).size := by simpa using hi
  have hpk : k ≠ (k - 1) / 2 := Nat.ne_of_gt (parent_lt_self hk0)
  simp only [get_set]
  by_cases hik : k = i
  · subst hik
    rw [if_pos rfl, if_neg hpk]
    exact so.irrefl _
  · rw [if_neg hik]
    by_cases hjk : k = (i - 1) / 2
    · rw [if_pos hjk]
      simpa only [get_set, if_neg hik, if_neg hpk] using H.2 i hi' hi0 hjk.symm hk0
    · rw [if_neg hjk]
      simpa only [get_set, if_neg hik, if_neg hjk] using H.1 i hi' hi0 (Ne.symm hik)

theorem HoleHeap.fill {lt : α → α → Bool} {a : Array α} {k : Nat} (H : HoleHeap lt a k) (x : α)
    (hx : ∀ c (hc : c < a.size), 0 < c → (c - 1) / 2 = k → lt a[c] x = false) :
    HeapExcept lt (a.setIfInBounds k x) k := by
  refine ⟨fun i hi hi0 hik => ?_, fun c hc hc0 hck hk0 => ?_⟩
  · have hi' : i < a.size := by simpa using hi
    simp only [get_set, if_neg (Ne.symm hik)]
    by_cases hp : k = (i - 1) / 2
    · rw [if_pos hp]
      exact hx i hi' hi0 hp.symm
    · rw [if_neg hp]
      exact H.1 i hi' hi0 hik (Ne.symm hp)
  · have := H.2 c (by simpa using hc) hc0 hck hk0
    simp only [get_set, if_neg (hck ▸ Nat.ne_of_lt (parent_lt_self hc0)), if_neg (Nat.ne_of_gt (parent_lt_self hk0))]
    exact this

theorem heapExcept_done {lt : α → α → Bool} {a : Array α} {k : Nat} (hk : k < a.size)
    (H : HeapExcept lt a k) (hle : 0 < k → lt a[k] (a[(k - 1) / 2]'(by omega)) = false) : IsHeap lt a := by
  intro i hi hi0
  by_cases h : i = k
  · subst h; exact hle hi0
  · exact H.1 i hi hi0 h

theorem siftdownLoop_isHeap {lt : α → α → Bool} (so : StrictOrd lt) (x : α) (h : Array α) (k : Nat) :
    k < h.size → HeapExcept lt (h.setIfInBounds k x) k → IsHeap lt (siftdownLoop lt x h 0 k) := by
  fun_induction siftdownLoop lt x h 0 k with
  | case1 h k hc pp parent hlt ih =>
    intro hk H
    have hpk : k ≠ pp := Nat.ne_of_gt (parent_lt_self hc.1)
    have Hh := H.parent_down so hk hc.1
    refine ih (by simpa using parent_lt hk) ((Hh.heapExcept so pp).holeHeap.fill x fun c hc' hc0 hcp => ?_)
    -- a child of the new hole is not smaller than the parent that moved down, and that is larger than the held item
    have := Hh c (by simpa using hc') hc0
    simp only [get_set, hcp, if_neg hpk] at this ⊢
    exact so.lt_le _ _ _ hlt this
  | case2 h k hc pp parent hlt =>
    intro hk H
    refine heapExcept_done (by simpa using hk) H fun _ => ?_
    simp only [get_set, if_true]
    rw [if_neg (Nat.ne_of_gt (parent_lt_self hc.1))]
    simpa using hlt
  | case3 h k hc =>
    intro hk H
    exact heapExcept_done (by simpa using hk) H fun h0 => absurd ⟨h0, hk⟩ hc

theorem siftdown_isHeap {lt : α → α → Bool} (so : StrictOrd lt) (h : Array α) (k : Nat) (hk : k < h.size)
    (H : HeapExcept lt h k) : IsHeap lt (siftdown lt h 0 k) := by
  unfold siftdown
  rw [dif_pos hk]
  apply siftdownLoop_isHeap so _ h k hk
  rw [set_get_self]; exact H

theorem hole_move_perm (h : Array α) (k p : Nat) (x : α) (hk : k < h.size) (hp : p < h.size) (hne : k ≠ p) :
    ((h.setIfInBounds k h[p]).setIfInBounds p x).Perm (h.setIfInBounds k x) := by
  have e : (h.setIfInBounds k h[p]).setIfInBounds p x
      = (h.setIfInBounds k x).swap k p (by simpa using hk) (by simpa using hp) := by
    apply Array.ext
    · simp
    · intro i h1 h2
      simp only [Array.getElem_swap, get_set]
      grind
  rw [e]
  exact Array.swap_perm _ _

theorem siftdownLoop_perm (lt : α → α → Bool) (x : α) (h : Array α) (s k : Nat) :
    (siftdownLoop lt x h s k).Perm (h.setIfInBounds k x) := by
  fun_induction siftdownLoop lt x h s k with
  | case1 h k hc pp parent hlt ih =>
    refine ih.trans ?_
    exact hole_move_perm h k pp x hc.2 (parent_lt hc.2) (Nat.ne_of_gt (parent_lt_self (Nat.lt_of_le_of_lt (Nat.zero_le _) hc.1)))
  | case2 => exact .rfl
  | case3 => exact .rfl

theorem siftdown_perm (lt : α → α → Bool) (h : Array α) (s k : Nat) : (siftdown lt h s k).Perm h := by
  unfold siftdown; split
  · next hk =>
    refine (siftdownLoop_perm ..).trans ?_
    rw [set_get_self]
  · exact .rfl

theorem siftdown_size (lt : α → α → Bool) (h : Array α) (s k : Nat) : (siftdown lt h s k).size = h.size :=
  (siftdown_perm lt h s k).size_eq

end Simpleline.Heapq
