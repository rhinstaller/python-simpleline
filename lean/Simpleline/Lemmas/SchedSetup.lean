/-
  What the log holds when a callback is due: a screen that is ready, refreshed or about to be has had its
  `setup` invoked (`SetupInv`); an entry that is checked, drawn or about to be has had its `refresh`
  invoked (`DrawLogInv`).
-/
import Simpleline.Lemmas.SchedBridge

namespace Simpleline

def SetupSeen (log : List Ev) (s : Nat) : Prop := ∃ a k, Ev.cb s .setup a k ∈ log

/-- in a log (newest first) every `refresh` of a screen has a `setup` of that screen before it -/
def RefreshOK : List Ev → Prop
  | [] => True
  | .cb s .refresh _ _ :: l => SetupSeen l s ∧ RefreshOK l
  | _ :: l => RefreshOK l

theorem SetupSeen.mono {l l' : List Ev} {s : Nat} (h : SetupSeen l s) (hs : l <:+ l') : SetupSeen l' s := by
  obtain ⟨a, k, hm⟩ := h
  exact ⟨a, k, hs.subset hm⟩

theorem SetupSeen_cbLog {l : List Ev} {s : Nat} : SetupSeen (cbLog l) s ↔ SetupSeen l s := by
  simp [SetupSeen, cbLog]

theorem ready_of_step {P : Prog} (c : Cfg) (s : Nat) :
    ((sOutCfg (step P c)).A.scr s).ready = (c.A.scr s).ready ∨
    (((sOutCfg (step P c)).A.scr s).ready = true ∧
      ∃ ret key rest, c.code = .scrRet s .setup ret key :: rest ∧ ret ≠ .failBefore) := by
  rw [step_scr]
  unfold Cfg.screensAfter
  split
  · exact .inl (by rw [← AppSt.scr, setScr_scr]; split <;> simp_all)
  next scr ret key rest hc =>
    split
    · exact .inl rfl
    next hret =>
      rw [← AppSt.scr, setScr_scr]
      split
      next hs => exact .inr ⟨rfl, ret, key, rest, hs ▸ hc, hret⟩
      · exact .inl rfl
  · exact .inl (by split <;> rw [← AppSt.scr, setScr_scr] <;> split <;> simp_all)
  · exact .inl (by rw [Cfg.counted, ← AppSt.scr, setScr_scr]; split <;> simp_all)
  · exact .inl rfl

structure SetupInv (c : Cfg) : Prop where
  ready : ∀ s, (c.A.scr s).ready = true → SetupSeen c.log s
  after : ∀ top, .afterSetup top ∈ c.code →
    SetupSeen c.log top.screen ∨ ∃ a k rest, c.code = .callScr top.screen .setup a k :: rest
  after2 : ∀ top, c.code.head? = some (.afterSetup2 top) → SetupSeen c.log top.screen
  refresh : ∀ s a k, c.code.head? = some (.callScr s .refresh a k) → SetupSeen c.log s
  ret : ∀ s r k, .scrRet s .setup r k ∈ c.code → SetupSeen c.log s
  log : RefreshOK (cbLog c.log)

theorem SetupInv_init {c0 : Cfg} (h : Started c0) : SetupInv c0 := by
  obtain ⟨init, handlers, quitCb, stdin, rfl⟩ := h
  constructor
  · intro s hs; simp [initCfg, AppSt.scr] at hs
  · intro top h; simp [initCfg] at h
  · intro top h; cases init <;> simp [initCfg] at h
  · intro s a k h; cases init <;> simp [initCfg] at h
  · intro s r k h; simp [initCfg] at h
  · simp [initCfg, RefreshOK]

theorem SetupInv_dlv {c : Cfg} (h : SetupInv c) : SetupInv c.dlv := by
  have hl : c.log <:+ c.dlv.log := (SFrame.dlv c).log
  constructor
  · intro s hs; exact (h.ready s ((SFrame.dlv c).scr s ▸ hs)).mono hl
  · intro top hm
    rcases h.after top (by simpa using hm) with h' | h'
    · exact .inl (h'.mono hl)
    · exact .inr (by simpa using h')
  · intro top hh; exact (h.after2 top (by simpa using hh)).mono hl
  · intro s a k hh; exact (h.refresh s a k (by simpa using hh)).mono hl
  · intro s r k hm; exact (h.ret s r k (by simpa using hm)).mono hl
  · exact (SFrame.dlv c).cbs ▸ h.log

theorem SetupInv_step {P : Prog} {c : Cfg} (hi : Imm c) (h : SetupInv c) : SetupInv (sOutCfg (step P c)) := by
  have hl : c.log <:+ (sOutCfg (step P c)).log := (step_state P c).log
  have hcb := (step_state P c).cbs
  rcases hc : c.code with _ | ⟨ins, rest⟩
  · rw [Machine.step_nil hc, sOutCfg_error]; exact h
  · obtain ⟨pushed, ⟨suf, hcd, hsuf⟩, hp⟩ := (step_eff P c ins rest hc).code
    -- a `setup` invocation executed by this step is in the new log
    have hnow : ∀ s a k, ins = .callScr s .setup a k → SetupSeen (sOutCfg (step P c)).log s := by
      intro s a k hins
      rw [← SetupSeen_cbLog, hcb]
      exact ⟨a, k, by simp [Cfg.cbEvs, hc, hins]⟩
    have hsufc : ∀ i ∈ suf, i ∈ c.code := fun i hi' => by rw [hc]; exact List.mem_cons_of_mem _ (hsuf.subset hi')
    constructor
    · intro s hs
      rcases ready_of_step (P := P) c s with h' | ⟨_, ret, key, rest', hc', _⟩
      · exact (h.ready s (h' ▸ hs)).mono hl
      · exact (h.ret s ret key (by simp [hc'])).mono hl
    · intro top hm
      rw [hcd, List.mem_append] at hm
      rcases hm with hm | hm
      · right
        exact ⟨_, _, _, by rw [hcd, hp.mem _ hm]; rfl⟩
      · rcases h.after top (hsufc _ hm) with h' | ⟨a, k, rest', hc'⟩
        · exact .inl (h'.mono hl)
        · rw [hc] at hc'
          exact .inl (hnow _ a k (List.cons.inj hc').1)
    · intro top hh
      cases head_imm_after hi hc hh rfl with
      | ready _ hrd => exact (h.ready _ hrd).mono hl
      | setupOk =>
        rcases h.after top (by simp [hc]) with h' | ⟨a, k, rest', hc'⟩
        · exact h'.mono hl
        · rw [hc] at hc'; cases hc'
    · intro s a k hh
      cases head_imm_after hi hc hh rfl with
      | refresh => exact (h.after2 _ (by simp [hc])).mono hl
    · intro s r k hm
      rw [hcd, List.mem_append] at hm
      rcases hm with hm | hm
      · obtain ⟨a, rfl⟩ := hp.mem _ hm
        exact hnow s a k rfl
      · exact (h.ret s r k (hsufc _ hm)).mono hl
    · rw [hcb]
      unfold Cfg.cbEvs
      split
      · rename_i s cb a k rest' hc'
        cases cb
        case refresh =>
          refine ⟨?_, h.log⟩
          exact SetupSeen_cbLog.2 (h.refresh s a k (by simp [hc']))
        all_goals exact h.log
      · exact h.log

theorem Reach.setupInv {P : Prog} {c0 c : Cfg} (h0 : Started c0) (h : Reach P c0 c) : SetupInv c :=
  h.induct (SetupInv_init h0) (fun _ hr hI => SetupInv_step (hr.imm h0) hI) (fun _ _ => SetupInv_dlv)

/-- a `show` callback is invoked only after a `refresh` callback of the same screen -/
structure DrawLogInv (c : Cfg) : Prop where
  check : ∀ top, .identCheck top ∈ c.code →
    .cb top.screen .refresh top.args none ∈ c.log ∨ ∃ rest, c.code = .callScr top.screen .refresh top.args none :: rest
  draw : ∀ top, c.code.head? = some (.drawScreen top) → .cb top.screen .refresh top.args none ∈ c.log
  «show» : ∀ s a k, c.code.head? = some (.callScr s .show a k) → ∃ args, .cb s .refresh args none ∈ c.log

theorem DrawLogInv_init {c0 : Cfg} (h : Started c0) : DrawLogInv c0 := by
  obtain ⟨init, handlers, quitCb, stdin, rfl⟩ := h
  constructor
  · intro top h; simp [initCfg] at h
  · intro top h; cases init <;> simp [initCfg] at h
  · intro s a k h; cases init <;> simp [initCfg] at h

theorem DrawLogInv_dlv {c : Cfg} (h : DrawLogInv c) : DrawLogInv c.dlv := by
  have hl : c.log <:+ c.dlv.log := (SFrame.dlv c).log
  constructor
  · intro top hm
    rcases h.check top (by simpa using hm) with h' | h'
    · exact .inl (hl.subset h')
    · exact .inr (by simpa using h')
  · intro top hh; exact hl.subset (h.draw top (by simpa using hh))
  · intro s a k hh
    obtain ⟨args, h'⟩ := h.show s a k (by simpa using hh)
    exact ⟨args, hl.subset h'⟩

theorem DrawLogInv_step {P : Prog} {c : Cfg} (hi : Imm c) (h : DrawLogInv c) : DrawLogInv (sOutCfg (step P c)) := by
  have hl : c.log <:+ (sOutCfg (step P c)).log := (step_state P c).log
  rcases hc : c.code with _ | ⟨ins, rest⟩
  · rw [Machine.step_nil hc, sOutCfg_error]; exact h
  · obtain ⟨pushed, ⟨suf, hcd, hsuf⟩, hp⟩ := (step_eff P c ins rest hc).code
    have hsufc : ∀ i ∈ suf, i ∈ c.code := fun i hi' => by rw [hc]; exact List.mem_cons_of_mem _ (hsuf.subset hi')
    constructor
    · intro top hm
      rw [hcd, List.mem_append] at hm
      rcases hm with hm | hm
      · right
        exact ⟨_, by rw [hcd, (hp.mem _ hm).2]; rfl⟩
      · rcases h.check top (hsufc _ hm) with h' | ⟨rest', hc'⟩
        · exact .inl (hl.subset h')
        · left
          rw [hc] at hc'
          rw [← mem_cbLog rfl, (step_state P c).cbs]
          simp [Cfg.cbEvs, hc, (List.cons.inj hc').1]
    · intro top hh
      cases head_imm_after hi hc hh rfl with
      | draw =>
        rcases h.check top (by simp [hc]) with h' | ⟨rest', hc'⟩
        · exact hl.subset h'
        · rw [hc] at hc'; cases hc'
    · intro s a k hh
      cases head_imm_after hi hc hh rfl with
      | «show» => exact ⟨_, hl.subset (h.draw _ (by simp [hc]))⟩

theorem Reach.drawLogInv {P : Prog} {c0 c : Cfg} (h0 : Started c0) (h : Reach P c0 c) : DrawLogInv c :=
  h.induct (DrawLogInv_init h0) (fun _ hr hI => DrawLogInv_step (hr.imm h0) hI) (fun _ _ => DrawLogInv_dlv)

end Simpleline
