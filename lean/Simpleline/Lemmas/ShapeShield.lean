/-
  Lemmas behind C05 "shield" (the shield itself is in `ShapeShieldFix`): which instruction logs `.show`, `.refresh`, `.closeReq` (rows of `SOrigin`), and that a drawn
  entry is the top of the stack (`DrawInv`, a weakening of the scheduler family's `HeadInv.draw`).
-/
import Simpleline.Lemmas.ShapeWindow
import Simpleline.Lemmas.SchedHead

namespace Simpleline

def DrawInv (v : SV) : Prop :=
  ∀ top rest, v.code = .drawScreen top :: rest → ∃ l, v.stack.getLast? = some l ∧ l.eid = top.eid

namespace Shape

theorem show_step {P : Prog} {v v' : SV} {evs : List Tr} {x : Entry} (hs : SStepE P v evs v')
    (h : Tr.show x ∈ evs) : ∃ rest, v.code = .drawScreen x :: rest := by
  obtain ⟨_, rest, hc, rfl⟩ := sstepE_origin hs _ h
  exact ⟨rest, hc⟩

theorem refresh_step {P : Prog} {v v' : SV} {evs : List Tr} {x : Entry} (hs : SStepE P v evs v')
    (h : Tr.refresh x ∈ evs) : ∃ rest, v.code = .afterSetup2 x :: rest := by
  obtain ⟨_, rest, hc, rfl⟩ := sstepE_origin hs _ h
  exact ⟨rest, hc⟩

theorem closeReq_step {P : Prog} {v v' : SV} {evs : List Tr} {b : Bool} {n : Nat} (hs : SStepE P v evs v')
    (h : Tr.closeReq b n ∈ evs) : ∃ rest, v.code = .closeLoop :: rest := by
  obtain ⟨_, rest, hc, rfl, _⟩ := sstepE_origin hs _ h
  exact ⟨rest, hc⟩

theorem reach_draw {P : Prog} {c0 c : Cfg} (h0 : Started c0) (hr : Reach P c0 c) : DrawInv c.sv :=
  fun top rest hp => ⟨top, (hr.headInv h0).draw top (by rw [show c.code = _ from hp]; rfl), rfl⟩

end Shape

end Simpleline
