/-
  GLib machine, lemmas for `Props/C20c.lean`: where a raise lands (the innermost `try` of `_run_handlers`), what
  `_quit_all_loops` does to the loops.
-/
import Simpleline.Lemmas.GMInv

namespace Simpleline.G

/-- instructions an exception of kind `k` passes without any effect (everything but the catchers of `k` and the stand-in's
dispatch frame `gAfter`, whose `finally` clears the in-dispatch mark) -/
def Instr.passes (k : Kind) : Instr → Bool
  | .catchRun => match k with | .sysexit => true | _ => false
  | .catchPS => match k with | .err => false | _ => true
  | .catchDraw => match k with | .err => false | _ => true
  | .catchPI _ => match k with | .err => false | _ => true
  | .gAfter .. => false
  | _ => true

theorem unwind_cons_pass {k : Kind} {ins : Instr} (h : ins.passes k = true) (rest : List Instr) (c : Cfg) :
    unwind k (ins :: rest) c = unwind k rest c := by
  conv => lhs; unfold unwind
  -- the first six arms of `unwind` are the instructions that do not pass
  split
  · cases h
  · cases h
  · cases h
  · cases h
  · cases h
  · cases h
  · rfl

theorem unwind_pass (k : Kind) : ∀ (pre rest : List Instr) (c : Cfg), (∀ i ∈ pre, i.passes k = true) →
    unwind k (pre ++ rest) c = unwind k rest c
  | [], rest, c, _ => rfl
  | ins :: pre, rest, c, h => by
    rw [List.cons_append, unwind_cons_pass (h ins List.mem_cons_self)]
    exact unwind_pass k pre rest c fun i hi => h i (List.mem_cons_of_mem _ hi)

/-- **An ordinary exception lands behind the innermost `try` of `_run_handlers`**: everything in front of it — the rest
of the failing handler, the remaining handlers of the signal (`gCall`) — is dropped, one `ExceptionSignal` (priority −20,
source = the loop) is enqueued, nothing else changes. -/
theorem raise_err_catchRun (c c2 : Cfg) (pre rest : List Instr) (hc : c.code = pre ++ .catchRun :: rest)
    (hp : ∀ i ∈ pre, i.passes .err = true)
    (he : (c.newSig .exception (-20) .loop).2.enq? (c.newSig .exception (-20) .loop).1 = some c2) :
    c.raise .err = .ok { c2 with code := rest } := by
  unfold Cfg.raise
  simp only [hc]
  rw [unwind_pass .err pre _ c hp]
  simp only [unwind]
  rw [he]

/-- **`ExitMainLoop` lands behind the innermost `try` of `_run_handlers`** too — nothing beyond it is unwound — and its
effect is `_quit_all_loops()`. -/
theorem raise_exit_catchRun (c : Cfg) (pre rest : List Instr) (hc : c.code = pre ++ .catchRun :: rest)
    (hp : ∀ i ∈ pre, i.passes .exit = true) :
    c.raise .exit = .ok { ((c.trace .exit).quitAll.gtrace .quitAll) with code := rest } := by
  unfold Cfg.raise
  simp only [trace_code, hc]
  rw [unwind_pass .exit pre _ _ hp]
  simp only [unwind]

theorem quitAll_ctx (c : Cfg) (q : Nat) :
    c.quitAll.ctx q = if c.L.loops.contains q then { c.ctx q with running := false } else c.ctx q := by
  simp only [Cfg.ctx, GSt.ctx, Cfg.quitAll, List.getD_eq_getElem?_getD, List.getElem?_map, List.getElem?_zipIdx]
  cases h : c.L.ctxs[q]? with
  | none => simp
  | some x => simp

/-- after `_quit_all_loops()` no loop of `_event_loops` is running -/
theorem quitAll_not_running (c : Cfg) (q : Nat) (hq : q ∈ c.L.loops) : (c.quitAll.ctx q).running = false := by
  rw [quitAll_ctx]
  have : c.L.loops.contains q = true := by simpa using hq
  rw [if_pos this]

theorem quitAll_loops (c : Cfg) : c.quitAll.L.loops = c.L.loops := rfl

end Simpleline.G
