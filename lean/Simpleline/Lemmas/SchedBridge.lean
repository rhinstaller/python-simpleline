/-
  From the step summary to transitions (`Trans`: a machine step or a delivery of the reader thread)
  and to what a transition adds to the trace and the log (`newTr`, `newLog`); the stack as recorded by
  the trace; the configuration that emitted a scheduler event or invoked a callback.
-/
import Simpleline.Lemmas.SchedHead
import Simpleline.Lemmas.SchedClosed
import Simpleline.Lemmas.SchedInput

namespace Simpleline

theorem StepTo.eff {P : Prog} {c c' : Cfg} (h : StepTo P c c') : SEff c c' := h.eq ▸ step_state P c

theorem Trans.cases {P : Prog} {c c' : Cfg} (h : Trans P c c') : StepTo P c c' ∨ c.deliver = some c' := by
  cases h with
  | step h => exact .inl (.inl h)
  | deliver h => exact .inr h
  | halt h => exact .inl (.inr ⟨_, h⟩)

theorem Trans.eff {P : Prog} {c c' : Cfg} (h : Trans P c c') :
    (StepTo P c c' ∧ SEff c c') ∨ (c.deliver = some c' ∧ SFrame c' c ∧ c'.code = c.code) := by
  rcases h.cases with h | h
  · exact .inl ⟨h, h.eff⟩
  · exact .inr ⟨h, deliver_eq_dlv h ▸ .dlv c, deliver_eq_dlv h ▸ dlv_code c⟩

theorem tr_grows_of_suffix {c c' : Cfg} (h : c.tr <:+ c'.tr) : c'.tr = newTr c c' ++ c.tr := by
  obtain ⟨t, ht⟩ := h
  rw [newTr, ← ht]; simp

theorem log_grows_of_suffix {c c' : Cfg} (h : c.log <:+ c'.log) : c'.log = newLog c c' ++ c.log := by
  obtain ⟨t, ht⟩ := h
  rw [newLog, ← ht]; simp

theorem schedTr_new {c c' : Cfg} {evs : List Tr} (htr : c.tr <:+ c'.tr) (h : schedTr c'.tr = evs ++ schedTr c.tr) :
    schedTr (newTr c c') = evs := by
  rw [tr_grows_of_suffix htr, schedTr_append] at h
  exact List.append_cancel_right h

theorem cbLog_new {c c' : Cfg} {evs : List Ev} (hlog : c.log <:+ c'.log) (h : cbLog c'.log = evs ++ cbLog c.log) :
    cbLog (newLog c c') = evs := by
  rw [log_grows_of_suffix hlog] at h
  simp only [cbLog, List.filter_append] at h ⊢
  exact List.append_cancel_right h

theorem SEff.schedTr_new {c c' : Cfg} (h : SEff c c') : schedTr (newTr c c') = c.schedEvs :=
  Simpleline.schedTr_new h.tr h.sched
theorem SEff.cbLog_new {c c' : Cfg} (h : SEff c c') : cbLog (newLog c c') = c.cbEvs :=
  Simpleline.cbLog_new h.log h.cbs
theorem SFrame.schedTr_new {c c' : Cfg} (h : SFrame c' c) : schedTr (newTr c c') = [] :=
  Simpleline.schedTr_new h.tr h.sched
theorem SFrame.cbLog_new {c c' : Cfg} (h : SFrame c' c) : cbLog (newLog c c') = [] :=
  Simpleline.cbLog_new h.log h.cbs

theorem cb_logged {P : Prog} {c c' : Cfg} (h : StepTo P c c') {s : Nat} {cb : Cb} {a : Option Nat} {k : Option Str}
    {rest : List Instr} (hc : c.code = .callScr s cb a k :: rest) : cbLog (newLog c c') = [.cb s cb a k] := by
  rw [h.eff.cbLog_new]; simp [Cfg.cbEvs, hc]

theorem mem_schedTr {t : Tr} {l : List Tr} (ht : t.isSched = true) : t ∈ schedTr l ↔ t ∈ l := by
  simp [schedTr, ht]

theorem mem_cbLog {e : Ev} {l : List Ev} (he : e.isCb = true) : e ∈ cbLog l ↔ e ∈ l := by
  simp [cbLog, he]

theorem filter_stackOp_schedTr (l : List Tr) : (schedTr l).filter Tr.isStackOp = l.filter Tr.isStackOp := by
  unfold schedTr
  rw [List.filter_filter]
  congr 1
  funext t
  cases t <;> rfl

theorem schedEvs_stackOps (c : Cfg) : c.schedEvs.filter Tr.isStackOp = c.opEvs := by
  rcases c.schedEvs_eq with ⟨_, _, -, h, h'⟩ | ⟨_, _, -, h, h'⟩ | h <;> rw [h]
  · exact h'.symm
  · exact h'.symm
  · rcases c.opStep with ⟨-, h'⟩ | ⟨_, _, -, -, -, h'⟩ <;> rw [h'] <;> rfl

theorem sched_new_of_trans {P : Prog} {c c' : Cfg} (h : Trans P c c') {t : Tr} (ht : t.isSched = true)
    (hm : t ∈ newTr c c') : StepTo P c c' ∧ t ∈ c.schedEvs := by
  have hm' := (mem_schedTr ht).2 hm
  rcases h.eff with ⟨hs, he⟩ | ⟨_, hf, _⟩
  · exact ⟨hs, he.schedTr_new ▸ hm'⟩
  · rw [hf.schedTr_new] at hm'; cases hm'

theorem refresh_step {P : Prog} {c c' : Cfg} (h : Trans P c c') {e : Entry} (hm : .refresh e ∈ newTr c c') :
    StepTo P c c' ∧ ∃ rest, c.code = .afterSetup2 e :: rest := by
  obtain ⟨hs, hm⟩ := sched_new_of_trans h rfl hm
  refine ⟨hs, ?_⟩
  rcases schedEvs_cases c with h' | ⟨top, rest, hc, h'⟩ | ⟨top, rest, _, h'⟩ | ⟨w, s, h'⟩ <;> rw [h'] at hm <;> simp at hm
  exact ⟨rest, hm ▸ hc⟩

theorem lastStack_schedTr (l : List Tr) : lastStack (schedTr l) = lastStack l := by
  induction l with
  | nil => rfl
  | cons t l ih => cases t <;> simp [lastStack, ih]

theorem lastStack_schedEvs (c : Cfg) (l : List Tr) : lastStack (c.schedEvs ++ l) = lastStack (c.opEvs ++ l) := by
  rcases c.schedEvs_eq with ⟨_, _, -, h, h'⟩ | ⟨_, _, -, h, h'⟩ | h <;> rw [h]
  · rw [h']; rfl
  · rw [h']; rfl

theorem stack_eq_lastStack {P : Prog} {c0 c : Cfg} (h0 : Started c0) (hr : Reach P c0 c) : c.A.stack = lastStack c.tr := by
  rw [← lastStack_schedTr]
  refine hr.induct (I := fun c => c.A.stack = lastStack (schedTr c.tr)) ?_ (fun c _ ih => ?_) (fun c _ ih => ?_)
  · obtain ⟨init, handlers, quitCb, stdin, rfl⟩ := h0
    rfl
  · have h := step_state P c
    rw [h.sched, lastStack_schedEvs, show (sOutCfg (step P c)).A.stack = c.stackAfter.1 from congrArg Prod.fst h.stack]
    rcases c.opStep with ⟨h1, h2⟩ | ⟨_, _, -, -, h1, h2⟩ <;> rw [h1, h2]
    · exact ih
    · rfl
  · rw [(SFrame.dlv c).stack, (SFrame.dlv c).sched]; exact ih

theorem drawScreen_of_show {c : Cfg} {e : Entry} (h : .show e ∈ c.schedEvs) : ∃ rest, c.code = .drawScreen e :: rest := by
  rcases schedEvs_cases c with h' | ⟨top, rest, _, h'⟩ | ⟨top, rest, hc, h'⟩ | ⟨w, s, h'⟩ <;> rw [h'] at h <;> simp at h
  exact ⟨rest, h ▸ hc⟩

theorem Reach.sched_emitted {P : Prog} {c0 c : Cfg} (h0 : Started c0) (hr : Reach P c0 c) {t : Tr} (ht : t.isSched = true)
    {l1 l2 : List Tr} (h : c.tr = l1 ++ t :: l2) :
    ∃ c1, Reach P c0 c1 ∧ t ∈ c1.schedEvs ∧ schedTr c1.tr = schedTr l2 := by
  have hlen (c : Cfg) : c.schedEvs.length ≤ 1 := by
    rcases schedEvs_cases c with h' | ⟨_, _, _, h'⟩ | ⟨_, _, _, h'⟩ | ⟨_, _, h'⟩ <;> rw [h'] <;> simp
  obtain ⟨c1, hr1, hev, htr⟩ := hr.emitted h0 (fun c => schedTr c.tr) Cfg.schedEvs (fun _ _ _ _ => rfl)
    (fun c => (step_state P c).sched) hlen (fun c => (SFrame.dlv c).sched) (l1 := schedTr l1)
    (by rw [h, schedTr_append, schedTr_cons, if_pos ht])
  exact ⟨c1, hr1, hev ▸ List.mem_singleton_self t, htr⟩

theorem Reach.cb_emitted {P : Prog} {c0 c : Cfg} (h0 : Started c0) (hr : Reach P c0 c) {s : Nat} {cb : Cb} {a : Option Nat}
    {k : Option Str} {l1 l2 : List Ev} (h : c.log = l1 ++ .cb s cb a k :: l2) :
    ∃ c1 rest, Reach P c0 c1 ∧ c1.code = .callScr s cb a k :: rest ∧ cbLog c1.log = cbLog l2 := by
  obtain ⟨c1, hr1, hev, hlog⟩ := hr.emitted h0 (fun c => cbLog c.log) Cfg.cbEvs (fun _ _ _ _ => rfl)
    (fun c => (step_state P c).cbs) (fun c => by unfold Cfg.cbEvs; split <;> simp) (fun c => (SFrame.dlv c).cbs)
    (x := .cb s cb a k) (l1 := cbLog l1) (l2 := cbLog l2) (by simp [h, cbLog, List.filter_cons])
  unfold Cfg.cbEvs at hev
  split at hev
  · cases hev; exact ⟨c1, _, hr1, ‹_›, hlog⟩
  · cases hev

theorem started_initCfg (init : List Act) (handlers : List (Cls × HRef × Option Nat)) (quitCb : Option Nat)
    (stdin : List Str) : Started (initCfg init handlers quitCb stdin) := ⟨_, _, _, _, rfl⟩

end Simpleline
