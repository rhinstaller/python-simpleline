import Simpleline.Lemmas.DispatchCore
import Simpleline.Spec.ShapeSpec
import Simpleline.Lemmas.Reach

/-
  Every transition is an effect on the configuration (a soft change `Soft`, or a row `CoreStep` of the loop-core table)
  followed by the way the step ends (`Fin`): as it is, with an exception caught further down the code, or with the death of
  the run.  `trans_cases` joins `step_core` and `step_other`; the invariants of the loop are proved by cases on it.
  First uses: where new trace and log events come from (`trans_origin`, `trans_logOrigin`) and what no transition changes
  (`trans_static`, `Frame`).
-/

namespace Simpleline.Dispatch
open Simpleline Simpleline.Machine

theorem head_of_cons {c : Cfg} {ins : Instr} {rest : List Instr} (hc : c.code = ins :: rest) : c.code.head? = some ins := by
  rw [hc]; rfl

theorem Ext.toP {α} {p : α → Bool} {q : α → Prop} {old new : List α} (hpq : ∀ t, p t = true → q t) (h : Ext p old new) :
    ExtP q old new :=
  ExtP.mono hpq h

theorem ExtP.toNewTr {p : Tr → Prop} {c c' : Cfg} (h : ExtP p c.tr c'.tr) :
    c'.tr = newTr c c' ++ c.tr ∧ ∀ t ∈ newTr c c', p t := by
  obtain ⟨d, hd, hp⟩ := h
  rw [newTr_of_append hd]; exact ⟨hd, hp⟩

theorem ExtP.toNewLog {p : Ev → Prop} {c c' : Cfg} (h : ExtP p c.log c'.log) :
    c'.log = newLog c c' ++ c.log ∧ ∀ t ∈ newLog c c', p t := by
  obtain ⟨d, hd, hp⟩ := h
  rw [newLog_of_append hd]; exact ⟨hd, hp⟩

/-- the event a raised exception adds to the trace: the exit request, or the enqueueing of the `ExceptionSignal` -/
def exitOrSoft (t : Tr) : Prop := t = .exit ∨ softT t = true

/-- the configuration `c'` left by a step whose effect is `m` and which ends as `e` says -/
inductive Fin (m : Cfg) : End → Cfg → Prop
  | done : Fin m .ok m
  | halt {o} : Fin m (.halt o) m
  | caught {k c'} (h : m.raise k = .ok c') : Fin m (.raise k) c'
  | died {k o} (h : m.raise k = .error (o, { preRaise m k with code := [] })) :
      Fin m (.raise k) { preRaise m k with code := [] }

theorem Fin.of_ok {m c' : Cfg} {e : End} (h : e.run m = .ok c') : Fin m e c' := by
  cases e
  · cases h; exact .done
  · exact .caught h
  · cases h

theorem Fin.of_error {m c' : Cfg} {e : End} {o : Outcome} (h : e.run m = .error (o, c')) :
    Fin m e c' ∧ (e = .halt o ∨ ∃ k, e = .raise k ∧ o = failOutcome k) := by
  cases e
  · cases h
  · obtain ⟨rfl, rfl⟩ := raise_error h; exact ⟨.died h, .inr ⟨_, rfl, rfl⟩⟩
  · cases h; exact ⟨.halt, .inl rfl⟩

theorem Fin.ok {m c' : Cfg} (h : Fin m .ok c') : c' = m := by
  cases h; rfl

theorem suffix_tail_of_split {α} {l pre r : List α} {x : α} (h : l = pre ++ x :: r) : r <:+ l.tail := by
  subst h
  cases pre with
  | nil => exact List.suffix_refl _
  | cons a pre => exact List.suffix_append_of_suffix (List.suffix_cons _ _)

theorem Fin.nf {m c' : Cfg} {e : End} (h : Fin m e c') :
    c' = m ∨ ∃ code' Q T n,
      c' = { m with code := code', L := { m.L with queues := Q }, tr := T ++ m.tr, nextSid := n } ∧
      code' <:+ m.code.tail ∧ ∀ t ∈ T, exitOrSoft t := by
  cases h
  case done => exact .inl rfl
  case halt => exact .inl rfl
  case caught k h =>
    right
    rcases raise_ok h with ⟨-, pre, rest, h1, -, rfl⟩ | ⟨-, pre, ins, rest, src, h1, -, -, rfl⟩
    · exact ⟨rest, m.L.queues, [.exit], m.nextSid, rfl, suffix_tail_of_split h1, by simp [exitOrSoft]⟩
    · exact ⟨_, _, [enqT m.L (excSig m.nextSid src)], _, rfl, (afterCatch_suffix _ _).trans (suffix_tail_of_split h1),
        by simp [exitOrSoft]⟩
  case died k o _ =>
    right
    cases k
    · exact ⟨[], m.L.queues, [.exit], m.nextSid, rfl, List.nil_suffix, by simp [exitOrSoft]⟩
    · exact ⟨[], m.L.queues, [], m.nextSid, rfl, List.nil_suffix, by simp⟩
    · exact ⟨[], m.L.queues, [], m.nextSid, rfl, List.nil_suffix, by simp⟩

theorem Fin.suffix {m c' : Cfg} {e : End} (h : Fin m e c') : c'.code <:+ m.code := by
  obtain rfl | ⟨code', Q, T, n, rfl, hs, -⟩ := h.nf
  · exact List.suffix_refl _
  · exact hs.trans (List.tail_suffix _)

theorem Fin.tr {m c' : Cfg} {e : End} (h : Fin m e c') : ExtP exitOrSoft m.tr c'.tr := by
  obtain rfl | ⟨code', Q, T, n, rfl, -, hT⟩ := h.nf
  · exact .refl _ _
  · exact ⟨T, rfl, hT⟩

theorem Fin.log {m c' : Cfg} {e : End} (h : Fin m e c') : c'.log = m.log := by
  obtain rfl | ⟨code', Q, T, n, rfl, -, -⟩ := h.nf <;> rfl

/-- the part of the state a soft step (with or without a caught exception) leaves alone -/
structure Frame (c c' : Cfg) : Prop where
  levels : c'.L.levels = c.L.levels
  active : c'.L.active = c.L.active
  runLoop : c'.L.runLoop = c.L.runLoop
  forceQuit : c'.L.forceQuit = c.L.forceQuit
  tickets : c'.L.tickets = c.L.tickets
  tcounter : c'.L.tcounter = c.L.tcounter
  quitCb : c'.L.quitCb = c.L.quitCb
  handlers : HExt c.L.handlers c'.L.handlers
  log : Ext softE c.log c'.log

theorem Fin.frame {m c' : Cfg} {e : End} (h : Fin m e c') : Frame m c' := by
  obtain rfl | ⟨code', Q, T, n, rfl, -, -⟩ := h.nf <;>
    exact ⟨rfl, rfl, rfl, rfl, rfl, rfl, rfl, HExt.refl _, Ext.refl _ _⟩

theorem HExt.trans {a b c : List (Cls × HRef × Option Nat)} (h1 : HExt a b) (h2 : HExt b c) : HExt a c := by
  obtain ⟨m1, rfl, g1⟩ := h1
  obtain ⟨m2, rfl, g2⟩ := h2
  refine ⟨m1 ++ m2, by simp, fun x hx => ?_⟩
  rcases List.mem_append.mp hx with hx | hx
  · exact g1 x hx
  · exact g2 x hx

theorem Soft.frame {rest : List Instr} {c m c' : Cfg} {e : End} (hm : Soft rest c m) (hf : Fin m e c') : Frame c c' := by
  obtain ⟨a, b, c, d, e, f, g, h, i⟩ := hf.frame
  exact ⟨a.trans hm.levels, b.trans hm.active, c.trans hm.runLoop, d.trans hm.forceQuit, e.trans hm.tickets,
    f.trans hm.tcounter, g.trans hm.quitCb, hm.handlers.trans h, hm.log.trans i⟩

theorem Soft.refl (c : Cfg) : Soft c.code c c :=
  ⟨CodeExt.refl _ _, rfl, rfl, rfl, rfl, rfl, rfl, rfl, HExt.refl _, Ext.refl _ _, Ext.refl _ _⟩

theorem deliver_soft {c c' : Cfg} (h : c.deliver = some c') : Soft c.code c c' ∧ c'.code = c.code := by
  obtain ⟨r, rs, hr, rfl⟩ := deliver_eq h
  exact ⟨⟨CodeExt.refl _ _, rfl, rfl, rfl, rfl, rfl, rfl, rfl, HExt.refl _, Ext.cons (softT_enqT _ _) (Ext.refl _ _),
    Ext.cons rfl (Ext.refl _ _)⟩, rfl⟩

/-- What a transition is: a soft change with the code kept (a delivery; the halting "step" of a run that has returned), the
step of a non-core instruction, or the step of a loop-core instruction. -/
inductive Step (P : Prog) (c c' : Cfg) : Prop
  | idle (hcode : c'.code = c.code) (h : Soft c.code c c')
  | soft {ins rest m e} (hc : c.code = ins :: rest) (ho : otherI ins = true) (hm : Soft rest c m) (hf : Fin m e c')
      (hs : step P c = e.run m)
  | core {ins rest pushed new L' lg e m} (hc : c.code = ins :: rest) (ho : otherI ins = false)
      (h : CoreStep P c ins pushed new L' lg e) (hcode : m.code = pushed ++ rest) (hL : m.L = L')
      (htr : m.tr = new ++ c.tr) (hlog : m.log = lg ++ c.log) (hf : Fin m e c') (hs : step P c = e.run m)

theorem other_run {P : Prog} {c : Cfg} {ins : Instr} {rest : List Instr} (hc : c.code = ins :: rest)
    (ho : otherI ins = true) : ∃ m e, Soft rest c m ∧ step P c = End.run e m := by
  obtain ⟨m, hm, h | ⟨k, -, h⟩ | h⟩ := step_other (P := P) hc ho
  · exact ⟨m, .ok, hm, h⟩
  · exact ⟨m, .raise k, hm, h⟩
  · exact ⟨m, .halt .livelock, hm, h⟩

theorem step_cases {P : Prog} {c c' : Cfg} {ins : Instr} {rest : List Instr} (hc : c.code = ins :: rest)
    (h : step P c = .ok c' ∨ ∃ o, step P c = .error (o, c')) : Step P c c' := by
  have key : ∀ {e : End} {m : Cfg}, step P c = e.run m → Fin m e c' := by
    intro e m hs
    rcases h with h | ⟨o, h⟩
    · exact .of_ok (hs ▸ h)
    · exact (Fin.of_error (hs ▸ h)).1
  cases ho : otherI ins
  · obtain ⟨pushed, new, L', lg, e, m, hrow, hs, h1, h2, h3, h4⟩ := step_core (P := P) hc ho
    exact .core hc ho hrow h1 h2 h3 h4 (key hs) hs
  · obtain ⟨m, e, hm, hs⟩ := other_run (P := P) hc ho
    exact .soft hc ho hm (key hs) hs

theorem trans_cases {P : Prog} {c c' : Cfg} (ht : Trans P c c') : Step P c c' := by
  cases ht with
  | step hs =>
    cases hc : c.code with
    | nil => rw [step_nil hc] at hs; cases hs
    | cons ins rest => exact step_cases hc (.inl hs)
  | deliver hd => exact .idle (deliver_soft hd).2 (deliver_soft hd).1
  | halt hs =>
    cases hc : c.code with
    | nil => rw [step_nil hc] at hs; cases hs; exact .idle rfl (.refl c)
    | cons ins rest => exact step_cases hc (.inr ⟨_, hs⟩)

theorem origin_of_soft {c c' : Cfg} {t : Tr} (h : softT t = true) : TrOrigin c c' t := by
  cases t <;> first | trivial | cases h

theorem origin_of_exitOrSoft {c c' : Cfg} {t : Tr} (h : exitOrSoft t) : TrOrigin c c' t := by
  rcases h with rfl | h
  · trivial
  · exact origin_of_soft h

theorem logOrigin_of_soft {c : Cfg} {e : Ev} (h : softE e = true) : LogOrigin c e := by
  cases e <;> first | trivial | cases h

section table
variable {P : Prog} {c : Cfg} {ins : Instr} {pushed : List Instr} {new : List Tr} {L' : LoopSt} {lg : List Ev} {e : End}

theorem CoreStep.origin {c' : Cfg} {rest : List Instr} (h : CoreStep P c ins pushed new L' lg e) (hc : c.code = ins :: rest)
    (hcode : e = .ok → c'.code = pushed ++ rest) (hL : e = .ok → c'.L = L') : ∀ t ∈ new, TrOrigin c c' t := by
  have hh := head_of_cons hc
  have soft : ∀ {tr' : List Tr}, (∀ t ∈ tr', softT t = true) → ∀ t ∈ tr', TrOrigin c c' t :=
    fun h t ht => origin_of_soft (h t ht)
  cases h with
  | forceQuit => exact List.forall_mem_singleton.mpr hh
  | quitCbSome _ ht _ => exact soft ht
  | mainExit h => exact List.forall_mem_singleton.mpr ⟨hh, h⟩
  | getDispatch ht _ => exact List.forall_mem_cons.mpr ⟨⟨by rw [hcode rfl]; rfl, .inl hh⟩, soft ht⟩
  | getBlocked ht _ => exact soft ht
  | psNone h he => exact List.forall_mem_singleton.mpr (.inr ⟨hh, rfl, h, he⟩)
  | dispDone h => exact List.forall_mem_singleton.mpr (.inl ⟨hh, h⟩)
  | kill => exact List.forall_mem_singleton.mpr ⟨_, hh⟩
  | callUser ht _ => exact forall_mem_snoc (soft ht) hh
  | callSys _ ht _ => exact forall_mem_snoc (soft ht) hh
  | hret ht _ => exact soft ht
  | procWait => exact List.forall_mem_singleton.mpr ⟨hh, rfl⟩
  | waitTake hr ht _ =>
    exact List.forall_mem_cons.mpr ⟨⟨by rw [hcode rfl]; rfl, .inr (.inl ⟨_, _, hh, hr⟩)⟩, soft ht⟩
  | waitBlocked _ ht _ => exact soft ht
  | waitStop hr => exact List.forall_mem_singleton.mpr ⟨hh, hr⟩
  | waitDone h =>
    obtain ⟨k, hk, hk'⟩ := List.any_eq_true.mp h
    exact List.forall_mem_singleton.mpr ⟨hh, k, hk, by simpa using hk'⟩
  | iterEnd h =>
    refine List.forall_mem_singleton.mpr ⟨_, hh, by rw [hL rfl], ?_⟩
    rcases h with h | h
    · exact .inl h
    · exact .inr (.inl h)
  | iterTake h hr hp =>
    exact List.forall_mem_singleton.mpr ⟨by rw [hcode rfl]; rfl, .inr (.inr ⟨_, hh, hp, hr, _, _, h, rfl⟩)⟩
  | iterOther h hr hp =>
    refine List.forall_mem_cons.mpr ⟨⟨_, hh, by rw [hL rfl], .inr (.inr ⟨_, _, _, rfl, h, hp⟩)⟩, ?_⟩
    exact List.forall_mem_singleton.mpr ⟨_, _, _, hh, rfl, h, rfl, hp⟩
  | newLoop h ht =>
    exact List.forall_mem_cons.mpr ⟨origin_of_soft ht, List.forall_mem_singleton.mpr ⟨_, hh, h, rfl, rfl⟩⟩
  | closeLoop => exact List.forall_mem_cons.mpr ⟨trivial, List.forall_mem_singleton.mpr ⟨hh, rfl, rfl⟩⟩
  | popExit h _ => exact List.forall_mem_singleton.mpr ⟨hh, h⟩
  | pop h _ => exact List.forall_mem_singleton.mpr ⟨hh, h⟩
  | _ => exact fun _ h => nomatch h

theorem CoreStep.logOrigin {rest : List Instr} (h : CoreStep P c ins pushed new L' lg e) (hc : c.code = ins :: rest) :
    ∀ ev ∈ lg, LogOrigin c ev := by
  have hh := head_of_cons hc
  have soft : ∀ {lg' : List Ev}, (∀ e ∈ lg', softE e = true) → ∀ e ∈ lg', LogOrigin c e :=
    fun h e he => logOrigin_of_soft (h e he)
  cases h with
  | quitCbSome h _ hl => exact forall_mem_snoc (soft hl) ⟨hh, h⟩
  | callUser _ hl => exact forall_mem_snoc (soft hl) ⟨_, hh, rfl, rfl⟩
  | hret _ hl => exact forall_mem_snoc (soft hl) hh
  | getDispatch _ hl => exact soft hl
  | getBlocked _ hl => exact soft hl
  | callSys _ _ hl => exact soft hl
  | waitTake _ _ hl => exact soft hl
  | waitBlocked _ _ hl => exact soft hl
  | _ => exact fun _ h => nomatch h

theorem CoreStep.raises {k : Kind} (h : CoreStep P c ins pushed new L' lg (.raise k)) :
    pushed = [] ∧ (ins.isLC = false ∨ k = .sysexit) := by
  cases h
  · exact ⟨rfl, .inr rfl⟩
  · exact ⟨rfl, .inl rfl⟩
  · exact ⟨rfl, .inl rfl⟩

theorem CoreStep.static (h : CoreStep P c ins pushed new L' lg e) :
    L'.handlers = c.L.handlers ∧ L'.quitCb = c.L.quitCb ∧ c.L.tcounter ≤ L'.tcounter := by
  cases h
  case procWait => exact ⟨rfl, rfl, Nat.le_succ _⟩
  all_goals exact ⟨rfl, rfl, Nat.le_refl _⟩

end table

theorem trans_origin {P : Prog} {c c' : Cfg} (h : Trans P c c') : ExtP (TrOrigin c c') c.tr c'.tr := by
  cases trans_cases h with
  | idle _ h => exact h.tr.toP fun _ => origin_of_soft
  | soft hc ho hm hf _ => exact (hm.tr.toP fun _ => origin_of_soft).trans (hf.tr.mono fun _ => origin_of_exitOrSoft)
  | core hc ho h hcode hL htr hlog hf _ =>
    refine (ExtP.of_eq htr (h.origin hc ?_ ?_)).trans (hf.tr.mono fun _ => origin_of_exitOrSoft)
    · rintro rfl; rw [hf.ok]; exact hcode
    · rintro rfl; rw [hf.ok]; exact hL

theorem trans_logOrigin {P : Prog} {c c' : Cfg} (h : Trans P c c') : ExtP (LogOrigin c) c.log c'.log := by
  cases trans_cases h with
  | idle _ h => exact h.log.toP fun _ => logOrigin_of_soft
  | soft hc ho hm hf _ => rw [hf.log]; exact hm.log.toP fun _ => logOrigin_of_soft
  | core hc ho h hcode hL htr hlog hf _ => rw [hf.log]; exact .of_eq hlog (h.logOrigin hc)

theorem trans_static {P : Prog} {c c' : Cfg} (h : Trans P c c') :
    HExt c.L.handlers c'.L.handlers ∧ c'.L.quitCb = c.L.quitCb ∧ c.L.tcounter ≤ c'.L.tcounter := by
  have of_frame : ∀ {c c' : Cfg}, Frame c c' →
      HExt c.L.handlers c'.L.handlers ∧ c'.L.quitCb = c.L.quitCb ∧ c.L.tcounter ≤ c'.L.tcounter :=
    fun f => ⟨f.handlers, f.quitCb, Nat.le_of_eq f.tcounter.symm⟩
  cases trans_cases h with
  | idle _ h => exact of_frame (h.frame .done)
  | soft hc ho hm hf _ => exact of_frame (hm.frame hf)
  | core hc ho h hcode hL htr hlog hf _ =>
    obtain ⟨h1, h2, h3⟩ := h.static
    obtain ⟨g1, g2, g3⟩ := of_frame hf.frame
    rw [hL] at g1 g2 g3
    exact ⟨h1 ▸ g1, g2.trans h2, Nat.le_trans h3 g3⟩

end Simpleline.Dispatch
