/-
  The wrap loop (`wrapLoop`) and `textwrap.wrap` (`pyWrap`). The text of the chunks is the lines, in order,
  with blank stretches in between (`wrapLoop_withBlanks`, with `WithBlanks` of `Spec/GreedySpec.lean`), so the
  non-blank characters are conserved. The preprocessing in front of the loop keeps the characters
  (`splitAux_flatten`) and changes only whitespace (`filter_munge`), which carries this over to `pyWrap`.
  The lines of `pyWrap` hold only characters of the preprocessed text (`pyWrap_subset`).
  A text that fits the width as a whole, tabs expanded, wraps to at most one line (`wrapLoop_one`, `pyWrap_one`).
  Around `pyWrap`, `wrapWords` cuts the text into its lines (`splitOn`) and puts the wrapped lines together
  again (`joinWith`): splitting a joined text gives the lines back (`splitOn_joinWith`), and a blank as
  separator does not touch the non-blank characters (`nsp_splitOn`, `nsp_joinWith`).
-/
import Simpleline.Lemmas.TextWrap

namespace Simpleline

theorem wrapLoop_forall (cc : CharClass) (w : Nat) (P : List Char → Prop)
    (Q : List (List Char) → Prop)
    (hstep : ∀ haveLines chunks, chunks ≠ [] → Q chunks →
      Q (wrapStep cc w haveLines chunks).2 ∧
      ∀ l, (wrapStep cc w haveLines chunks).1 = some l → P l)
    (haveLines : Bool) (chunks : List (List Char)) (hq : Q chunks) :
    ∀ l ∈ wrapLoop cc w haveLines chunks, P l := by
  induction haveLines, chunks using wrapLoop.induct cc w with
  | case1 hl => simp [wrapLoop]
  | case2 hl chunks hne hlt l hl' ih =>
    rw [wrapLoop, if_neg hne, if_pos hlt, hl']
    have := hstep hl chunks hne hq
    intro x hx
    simp only [List.mem_cons] at hx
    rcases hx with rfl | hx
    · exact this.2 x hl'
    · exact ih this.1 x hx
  | case3 hl chunks hne hlt hl' ih =>
    rw [wrapLoop, if_neg hne, if_pos hlt, hl']
    exact ih (hstep hl chunks hne hq).1
  | case4 hl chunks hne hlt =>
    rw [wrapLoop, if_neg hne, if_neg hlt]
    simp

theorem blank_subset (cc : CharClass) {c d : List Char} (hs : d ⊆ c) (h : blank cc c = true) :
    blank cc d = true := by
  simp only [blank, List.all_eq_true] at h ⊢
  exact fun x hx => h x (hs hx)

theorem wrapStep_single_blank (cc : CharClass) (w : Nat) (haveLines : Bool) (c : List Char)
    (hb : blank cc c = true) :
    (wrapStep cc w haveLines [c]).1 = none ∧
    ((wrapStep cc w haveLines [c]).2 = [] ∨
      ∃ d, (wrapStep cc w haveLines [c]).2 = [d] ∧ blank cc d = true) := by
  cases haveLines
  · by_cases h : c.length ≤ w
    · simp [wrapStep, dropLead, takeFit, h, breakLong, dropTrail, hb]
    · have h' : w < c.length := by omega
      simp [wrapStep, dropLead, takeFit, h, breakLong, dropTrail, h', blank_subset cc (List.take_subset _ c) hb,
        blank_subset cc (List.drop_subset _ c) hb]
  · simp [wrapStep, dropLead, takeFit, breakLong, dropTrail, hb]

section loop

variable (cc : CharClass) (w : Nat) (haveLines : Bool) (chunks : List (List Char))

theorem wrapLoop_ne (hch : ∀ c ∈ chunks, c ≠ []) :
    ∀ l ∈ wrapLoop cc w haveLines chunks, l ≠ [] :=
  wrapLoop_forall cc w (fun l => l ≠ []) (fun chunks => ∀ c ∈ chunks, c ≠ [])
    (fun hl chunks _ hq => ⟨wrapStep_rest_ne cc w hl chunks hq, wrapStep_line_ne cc w hl chunks hq⟩)
    haveLines chunks hch

theorem wrapLoop_length : ∀ l ∈ wrapLoop cc w haveLines chunks, l.length ≤ w :=
  wrapLoop_forall cc w (fun l => l.length ≤ w) (fun _ => True)
    (fun hl chunks _ _ => ⟨trivial, wrapStep_line_length cc w hl chunks⟩)
    haveLines chunks trivial

theorem wrapLoop_subset (S : List Char) (hS : chunks.flatten ⊆ S) :
    ∀ l ∈ wrapLoop cc w haveLines chunks, l ⊆ S :=
  wrapLoop_forall cc w (fun l => l ⊆ S) (fun chunks => chunks.flatten ⊆ S)
    (fun hl chunks _ hq =>
      ⟨fun _ hx => hq (wrapStep_rest_subset cc w hl chunks hx),
       fun l h _ hx => hq (wrapStep_line_subset cc w hl chunks l h hx)⟩)
    haveLines chunks hS

theorem wrapLoop_single_blank (hc : chunks = [] ∨ ∃ c, chunks = [c] ∧ blank cc c = true) :
    wrapLoop cc w haveLines chunks = [] :=
  List.eq_nil_iff_forall_not_mem.2 <|
    wrapLoop_forall cc w (fun _ => False) (fun chunks => chunks = [] ∨ ∃ c, chunks = [c] ∧ blank cc c = true)
      (fun hl chunks hne hq => by
        rcases hq with rfl | ⟨c, rfl, hb⟩
        · exact absurd rfl hne
        · obtain ⟨h1, h2⟩ := wrapStep_single_blank cc w hl c hb
          exact ⟨h2, fun l h => by rw [h1] at h; cases h⟩)
      haveLines chunks hc

theorem wrapLoop_withBlanks (hw : 1 ≤ w) :
    WithBlanks cc chunks.flatten (wrapLoop cc w haveLines chunks) := by
  induction haveLines, chunks using wrapLoop.induct cc w with
  | case1 hl => rw [wrapLoop, if_pos rfl]; exact .nil
  | case2 hl chunks hne hlt l hl' ih =>
    rw [wrapLoop, if_neg hne, if_pos hlt, hl']
    obtain ⟨lead, trail, he, hbl, hbt⟩ := wrapStep_struct cc w hl chunks
    rw [hl'] at he
    rw [he]
    simp only [Option.getD_some, List.append_assoc]
    exact .blank hbl (.line (.blank hbt ih))
  | case3 hl chunks hne hlt hl' ih =>
    rw [wrapLoop, if_neg hne, if_pos hlt, hl']
    obtain ⟨lead, trail, he, hbl, hbt⟩ := wrapStep_struct cc w hl chunks
    rw [hl'] at he
    rw [he]
    simp only [Option.getD_none, List.append_nil, List.append_assoc]
    exact .blank hbl (.blank hbt ih)
  | case4 hl chunks hne hlt =>
    exact absurd (wrapStep_measure_lt cc w hl chunks hw hne) hlt

end loop

theorem wrapLoop_nil (cc : CharClass) (w : Nat) (hl : Bool) : wrapLoop cc w hl [] = [] := by
  rw [wrapLoop]; simp

theorem wrapLoop_one (cc : CharClass) (w : Nat) (chunks : List (List Char)) (h : totalLen chunks ≤ w) :
    (wrapLoop cc w false chunks).length ≤ 1 := by
  have hs : (wrapStep cc w false chunks).2 = [] := by
    rw [wrapStep_snd, dropLead_false, takeFit_all w 0 chunks (by omega)]
    rfl
  rw [wrapLoop]
  split
  · simp
  · rw [hs]
    split
    · split
      · rw [wrapLoop_nil]; simp
      · rw [wrapLoop_nil]; simp
    · simp

theorem WithBlanks.blank_nil_line (cc : CharClass) {src : List Char} {lines : List (List Char)}
    (h : WithBlanks cc src lines) : WithBlanks cc ([] ++ src) lines := by
  simpa using h

/-- the non-blank characters, in order (`nonSpace` of `Props/C11.lean`) -/
def nsp (cc : CharClass) (l : List Char) : List Char := l.filter fun c => !cc.isSpace c

@[simp] theorem nsp_nil (cc : CharClass) : nsp cc [] = [] := rfl

@[simp] theorem nsp_append (cc : CharClass) (a b : List Char) :
    nsp cc (a ++ b) = nsp cc a ++ nsp cc b := by
  simp [nsp]

theorem nsp_blank (cc : CharClass) (l : List Char) (h : blank cc l = true) : nsp cc l = [] := by
  simp only [blank, List.all_eq_true] at h
  simp only [nsp, List.filter_eq_nil_iff]
  intro c hc
  simp [h c hc]

theorem nsp_cons (cc : CharClass) (c : Char) (l : List Char) :
    nsp cc (c :: l) = nsp cc [c] ++ nsp cc l :=
  nsp_append cc [c] l

theorem nsp_cons_space (cc : CharClass) (c : Char) (l : List Char) (h : cc.isSpace c = true) :
    nsp cc (c :: l) = nsp cc l := by
  simp [nsp, h]

theorem WithBlanks.nsp_flatten {cc : CharClass} {src : List Char} {lines : List (List Char)}
    (h : WithBlanks cc src lines) : nsp cc lines.flatten = nsp cc src := by
  induction h with
  | nil => rfl
  | blank hb _ ih => rw [nsp_append, nsp_blank cc _ hb, ih, List.nil_append]
  | line _ ih => rw [List.flatten_cons, nsp_append, nsp_append, ih]

theorem greedyFrom_nil (cc : CharClass) (w : Nat) (first : Bool) : greedyFrom cc w first [] = [] := by
  rw [greedyFrom]
  simp

theorem greedyFrom_step (cc : CharClass) (w : Nat) (hw : 1 ≤ w) (haveLines : Bool)
    (chunks : List (List Char)) (hne : chunks ≠ []) :
    (greedyFrom cc w (!haveLines) chunks).map List.flatten =
      match (wrapStep cc w haveLines chunks).1 with
      | some l => l :: (greedyFrom cc w false (wrapStep cc w haveLines chunks).2).map List.flatten
      | none => (greedyFrom cc w (!haveLines) (wrapStep cc w haveLines chunks).2).map List.flatten := by
  have h : ¬ (chunks = [] ∨ w = 0) := by
    rintro (h | h)
    · exact hne h
    · omega
  rw [greedyFrom, dif_neg h, ← dropLead_eq_dropBlankHead, wrapStep_fst, wrapStep_snd_eq_greedyLine,
    stepCur_eq_greedyLine, dropTrail_eq_dropBlankLast]
  simp only [List.isEmpty_iff]
  split <;> rfl

theorem splitAux_flatten (cc : CharClass) (prev rest : List Char) :
    (splitAux cc prev rest).flatten = rest := by
  induction prev, rest using splitAux.induct cc with
  | case1 prev => simp [splitAux]
  | case2 prev c cs n ih =>
    rw [splitAux]
    simp only [List.flatten_cons, ih, List.cons_append, List.take_append_drop, n]

theorem splitAux_ne (cc : CharClass) (prev rest : List Char) :
    ∀ c ∈ splitAux cc prev rest, c ≠ [] := by
  induction prev, rest using splitAux.induct cc with
  | case1 prev => simp [splitAux]
  | case2 prev c cs n ih =>
    rw [splitAux]
    intro y hy
    simp only [List.mem_cons] at hy
    rcases hy with rfl | hy
    · simp
    · exact ih y hy

theorem takeWhile_all {α} (p : α → Bool) (l : List α) (h : ∀ x ∈ l, p x = true) :
    l.takeWhile p = l := by
  induction l with
  | nil => rfl
  | cons a as ih =>
    rw [List.takeWhile_cons, if_pos (h a (by simp)), ih (fun x hx => h x (by simp [hx]))]

theorem splitAux_ws (cc : CharClass) (prev : List Char) (c : Char) (rest : List Char)
    (hb : ∀ x ∈ c :: rest, isWs6 x = true) : splitAux cc prev (c :: rest) = [c :: rest] := by
  have hr : rest.takeWhile isWs6 = rest :=
    takeWhile_all _ _ fun x hx => hb x (List.mem_cons_of_mem c hx)
  rw [splitAux]
  simp only [chunkExtra, if_pos (hb c List.mem_cons_self), hr, List.take_length, List.drop_length]
  rw [splitAux]

theorem filter_munge (p : Char → Bool) (hp : ∀ c, isWs6 c = true → p c = false) (t : List Char) :
    (munge t).filter p = t.filter p := by
  have hsp := hp ' ' (by decide)
  have hexp : ∀ col, (expandTabsAux col t).filter p = t.filter p := by
    induction t with
    | nil => intro col; rfl
    | cons c cs ih =>
      intro col
      simp only [expandTabsAux]
      split
      · next h =>
        rw [List.filter_append, ih, List.filter_cons_of_neg (by simp [hp c (h ▸ by decide)]),
          List.filter_eq_nil_iff.2, List.nil_append]
        intro x hx
        simp [List.eq_of_mem_replicate hx, hsp]
      · split <;> simp only [List.filter_cons, ih]
  rw [munge, ← hexp 0]
  generalize expandTabsAux 0 t = u
  induction u with
  | nil => rfl
  | cons c cs ih =>
    rw [List.map_cons, List.filter_cons, List.filter_cons, ih]
    split
    · next h => simp [hsp, hp c h]
    · rfl

theorem expandTabsAux_no_tab : ∀ (col : Nat) (t : List Char), '\t' ∉ t → expandTabsAux col t = t
  | _, [], _ => rfl
  | col, c :: cs, h => by
    have hc : c ≠ '\t' := fun e => h (by simp [e])
    have hcs : '\t' ∉ cs := fun e => h (by simp [e])
    rw [expandTabsAux, if_neg hc]
    split
    · rw [expandTabsAux_no_tab 0 cs hcs]
    · rw [expandTabsAux_no_tab (col + 1) cs hcs]

theorem munge_length_no_tab (t : List Char) (h : '\t' ∉ t) : (munge t).length = t.length := by
  rw [munge, expandTabsAux_no_tab 0 t h, List.length_map]

theorem munge_no_nl (t : List Char) : '\n' ∉ munge t := by
  simp only [munge, List.mem_map, not_exists, not_and]
  intro c _
  split
  · decide
  · next h => intro h2; subst h2; exact h (by decide)

theorem munge_ws (t : List Char) (hb : ∀ c ∈ t, isWs6 c = true) : ∀ c ∈ munge t, isWs6 c = true := by
  have h := filter_munge (fun c => !isWs6 c) (fun c hc => by simp [hc]) t
  rw [show t.filter (fun c => !isWs6 c) = [] from List.filter_eq_nil_iff.2 fun c hc => by simp [hb c hc],
    List.filter_eq_nil_iff] at h
  simpa using h

theorem pyWrap_length (cc : CharClass) (l : List Char) (w : Nat) :
    ∀ x ∈ pyWrap cc l w, x.length ≤ w :=
  wrapLoop_length cc w false _

theorem pyWrap_one (cc : CharClass) (l : List Char) (w : Nat) (h : (munge l).length ≤ w) :
    (pyWrap cc l w).length ≤ 1 := by
  unfold pyWrap
  apply wrapLoop_one
  rw [totalLen_eq_flatten, splitChunks, splitAux_flatten]
  exact h

theorem pyWrap_subset (cc : CharClass) (l : List Char) (w : Nat) :
    ∀ x ∈ pyWrap cc l w, x ⊆ munge l :=
  wrapLoop_subset cc w false (splitChunks cc (munge l)) (munge l)
    (by rw [splitChunks, splitAux_flatten]; exact fun _ h => h)

theorem pyWrap_no_nl (cc : CharClass) (l : List Char) (w : Nat) :
    ∀ x ∈ pyWrap cc l w, '\n' ∉ x :=
  fun x hx hn => munge_no_nl l (pyWrap_subset cc l w x hx hn)

theorem pyWrap_withBlanks (cc : CharClass) (l : List Char) (w : Nat) (hw : 1 ≤ w) :
    WithBlanks cc (munge l) (pyWrap cc l w) := by
  have := wrapLoop_withBlanks cc w false (splitChunks cc (munge l)) hw
  rwa [splitChunks, splitAux_flatten] at this

theorem pyWrap_conserve (cc : CharClass) (hs : cc.Sane) (l : List Char) (w : Nat) (hw : 1 ≤ w) :
    nsp cc (pyWrap cc l w).flatten = nsp cc l := by
  rw [(pyWrap_withBlanks cc l w hw).nsp_flatten]
  exact filter_munge _ (fun c hc => by simp [hs.ws6_space c hc]) l

section split

variable (sep : Char)

theorem splitOn_ne_nil (t : List Char) : splitOn sep t ≠ [] := by
  cases t with
  | nil => simp [splitOn]
  | cons c cs =>
    simp only [splitOn]
    split
    · simp
    · split <;> simp

theorem splitOn_cons_sep (t : List Char) :
    splitOn sep (sep :: t) = [] :: splitOn sep t := by
  simp [splitOn]

theorem splitOn_cons_ne (c : Char) (t : List Char) (h : c ≠ sep) :
    ∃ l ls, splitOn sep t = l :: ls ∧ splitOn sep (c :: t) = (c :: l) :: ls := by
  cases hs : splitOn sep t with
  | nil => exact absurd hs (splitOn_ne_nil sep t)
  | cons l ls => exact ⟨l, ls, rfl, by simp [splitOn, h, hs]⟩

theorem splitOn_of_not_mem (l : List Char) (h : sep ∉ l) : splitOn sep l = [l] := by
  induction l with
  | nil => rfl
  | cons c cs ih =>
    simp only [List.mem_cons, not_or] at h
    obtain ⟨l, ls, h1, h2⟩ := splitOn_cons_ne sep c cs (fun e => h.1 e.symm)
    rw [h2]
    rw [ih h.2] at h1
    simp only [List.cons.injEq] at h1
    rw [← h1.1, ← h1.2]

theorem splitOn_append_cons (l r : List Char) :
    splitOn sep (l ++ sep :: r) = splitOn sep l ++ splitOn sep r := by
  induction l with
  | nil => exact splitOn_cons_sep sep r
  | cons c cs ih =>
    by_cases hc : c = sep
    · subst hc
      rw [List.cons_append, splitOn_cons_sep, splitOn_cons_sep, ih, List.cons_append]
    · obtain ⟨l, ls, h1, h2⟩ := splitOn_cons_ne sep c cs hc
      rw [h2, List.cons_append, splitOn, if_neg hc, ih, h1]
      rfl

theorem splitOn_append_sep (l r : List Char) (h : sep ∉ l) :
    splitOn sep (l ++ sep :: r) = l :: splitOn sep r := by
  rw [splitOn_append_cons, splitOn_of_not_mem sep l h, List.singleton_append]

theorem joinWith_cons_cons (l l' : List Char) (ls : List (List Char)) :
    joinWith sep (l :: l' :: ls) = l ++ sep :: joinWith sep (l' :: ls) := rfl

theorem splitOn_joinWith_flatMap (ts : List (List Char)) (hne : ts ≠ []) :
    splitOn sep (joinWith sep ts) = ts.flatMap (splitOn sep) := by
  induction ts with
  | nil => exact absurd rfl hne
  | cons t ts ih =>
    cases ts with
    | nil => simp [joinWith]
    | cons t' ts =>
      rw [joinWith_cons_cons, splitOn_append_cons, ih (by simp)]
      rfl

theorem flatMap_congr {α β} {l : List α} {f g : α → List β} (h : ∀ x ∈ l, f x = g x) :
    l.flatMap f = l.flatMap g := by
  rw [List.flatMap_def, List.map_congr_left h, ← List.flatMap_def]

/-- an empty list of lines joins to the empty text, which splits to one empty line -/
theorem splitOn_joinWith (ls : List (List Char)) (h : ∀ l ∈ ls, sep ∉ l) :
    splitOn sep (joinWith sep ls) = if ls = [] then [[]] else ls := by
  split
  · next hne => rw [hne]; rfl
  · next hne =>
    rw [splitOn_joinWith_flatMap sep ls hne,
      flatMap_congr fun l hl => splitOn_of_not_mem sep l (h l hl), List.flatMap_singleton']

end split

theorem splitOn_length_of_mem (sep : Char) : ∀ (t : List Char), sep ∈ t → 2 ≤ (splitOn sep t).length
  | [], h => by cases h
  | c :: cs, h => by
    by_cases hc : c = sep
    · subst hc
      rw [splitOn_cons_sep]
      have := splitOn_ne_nil c cs
      cases hs : splitOn c cs with
      | nil => exact absurd hs this
      | cons _ _ => simp
    · obtain ⟨l, ls, h1, h2⟩ := splitOn_cons_ne sep c cs hc
      have hmem : sep ∈ cs := by
        rcases List.mem_cons.mp h with e | e
        · exact absurd e.symm hc
        · exact e
      have := splitOn_length_of_mem sep cs hmem
      rw [h1] at this
      rw [h2]
      exact this

theorem joinWith_ne_nil_of_two (sep : Char) (L : List (List Char)) (h : 2 ≤ L.length) :
    joinWith sep L ≠ [] := by
  match L, h with
  | l :: l' :: ls, _ =>
    rw [joinWith_cons_cons]
    simp

theorem length_le_flatMap {α β} (f : α → List β) : ∀ (L : List α), (∀ x ∈ L, 1 ≤ (f x).length) →
    L.length ≤ (L.flatMap f).length
  | [], _ => Nat.zero_le _
  | x :: xs, h => by
    have h1 := h x (List.mem_cons_self ..)
    have h2 := length_le_flatMap f xs (fun y hy => h y (List.mem_cons_of_mem _ hy))
    simp only [List.flatMap_cons, List.length_append, List.length_cons]
    omega

theorem mem_of_mem_splitOn (sep : Char) : ∀ (t l : List Char), l ∈ splitOn sep t → ∀ ch ∈ l, ch ∈ t := by
  intro t
  induction t with
  | nil => intro l hl ch hch; simp [splitOn] at hl; subst hl; cases hch
  | cons c cs ih =>
    intro l hl ch hch
    by_cases hc : c = sep
    · subst hc
      rw [splitOn_cons_sep] at hl
      rcases List.mem_cons.mp hl with rfl | hl
      · cases hch
      · exact List.mem_cons_of_mem _ (ih l hl ch hch)
    · obtain ⟨l0, ls, h1, h2⟩ := splitOn_cons_ne sep c cs hc
      rw [h2] at hl
      rcases List.mem_cons.mp hl with rfl | hl
      · rcases List.mem_cons.mp hch with rfl | hch
        · exact List.mem_cons_self
        · exact List.mem_cons_of_mem _ (ih l0 (by rw [h1]; exact List.mem_cons_self) ch hch)
      · exact List.mem_cons_of_mem _ (ih l (by rw [h1]; exact List.mem_cons_of_mem _ hl) ch hch)

theorem splitOn_flatMap_sep (sep : Char) : ∀ (ls : List (List Char)), (∀ l ∈ ls, sep ∉ l) →
    splitOn sep (ls.flatMap fun l => l ++ [sep]) = ls ++ [[]] := by
  intro ls
  induction ls with
  | nil => intro _; rfl
  | cons l ls ih =>
    intro h
    rw [List.flatMap_cons, List.append_assoc, List.singleton_append,
      splitOn_append_sep sep l _ (h l (by simp)), ih (fun y hy => h y (List.mem_cons_of_mem _ hy))]
    rfl

theorem nsp_splitOn (cc : CharClass) (sep : Char) (hsep : cc.isSpace sep = true) (t : List Char) :
    nsp cc (splitOn sep t).flatten = nsp cc t := by
  induction t with
  | nil => rfl
  | cons c cs ih =>
    by_cases hc : c = sep
    · subst hc
      rw [splitOn_cons_sep, List.flatten_cons, List.nil_append, ih, nsp_cons_space _ _ _ hsep]
    · obtain ⟨l, ls, h1, h2⟩ := splitOn_cons_ne sep c cs hc
      rw [h2, List.flatten_cons, List.cons_append, ← List.flatten_cons, ← h1]
      rw [nsp_cons, ih, ← nsp_cons]

theorem nsp_joinWith (cc : CharClass) (sep : Char) (hsep : cc.isSpace sep = true)
    (L : List (List Char)) : nsp cc (joinWith sep L) = nsp cc L.flatten := by
  induction L with
  | nil => rfl
  | cons l L ih =>
    cases L with
    | nil => simp [joinWith]
    | cons l' L =>
      rw [joinWith_cons_cons, nsp_append, nsp_cons_space _ _ _ hsep, ih]
      simp

theorem nsp_flatten_map (cc : CharClass) (f : List Char → List Char) (L : List (List Char))
    (h : ∀ l ∈ L, nsp cc (f l) = nsp cc l) : nsp cc (L.map f).flatten = nsp cc L.flatten := by
  induction L with
  | nil => rfl
  | cons l L ih =>
    simp only [List.map_cons, List.flatten_cons, nsp_append]
    rw [h l (by simp), ih (fun x hx => h x (by simp [hx]))]

end Simpleline
