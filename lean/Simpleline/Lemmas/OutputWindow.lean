/-
  Helper lemmas for C17. `Lines A w g`: the grid `g` has lines within the width `w` over the alphabet `A`. A rendered
  text, the window of a screen (in closed form: `windowLines_eq`) and the source of every prompt give such grids, and
  every written chunk of a run that has not crashed is such a grid written in one of two ways (`Written`,
  `NormalChunk.grid`); the width clause (`chunkLinesOK`) and the alphabet (`allowed`) of a chunk are read off that.
  The crash dump (`killChunks`) is treated by itself.
-/
import Simpleline.Lemmas.OutputText
import Simpleline.Lemmas.WidgetsExcept
import Simpleline.Lemmas.Literals
import Simpleline.Spec.OutputSpec

namespace Simpleline.Output

/-! ### the window of a screen -/

theorem windowLines_eq (P : Prog) (scr : Nat) :
    windowLines P scr = (do
      let tl ← titleLines P.cc (P.spec scr).title P.width
      let body ← optLines P.cc (P.spec scr).text P.width
      pure (tl ++ body)) := by
  unfold windowLines
  rw [window_render_lines]
  cases titleLines P.cc (P.spec scr).title P.width with
  | error e => rfl
  | ok tl =>
    unfold optLines
    cases (P.spec scr).text with
    | none => rfl
    | some t =>
      cases t with
      | nil => rfl
      | cons c cs =>
        simp only [List.cons_ne_nil, if_false, List.mapM_cons, List.mapM_nil, Wd.render, truthy]
        cases renderTextSt P.cc {} (c :: cs) P.width with
        | error e => rfl
        | ok s => exact congrArg (fun b => Except.ok (tl ++ b)) (List.append_nil s.buf)

theorem spec_mem_of_ne (P : Prog) (scr : Nat) (h : (P.spec scr).title ≠ none ∨ (P.spec scr).text ≠ none ∨
    (P.spec scr).name ≠ []) : P.spec scr ∈ P.screens := by
  unfold Prog.spec at h ⊢
  rw [List.getD_eq_getElem?_getD] at h ⊢
  cases hg : P.screens[scr]? with
  | none => simp [hg] at h
  | some sp => simpa using List.mem_of_getElem? hg

def WinChar (P : Prog) (ch : Char) : Prop := ch = ' ' ∨ (textChar P ch ∧ isWs6 ch = false)

theorem WinChar.ne_nl {P : Prog} : ¬ WinChar P '\n' := by
  rintro (h | ⟨_, h⟩) <;> revert h <;> decide

theorem window_lines (P : Prog) (scr : Nat) (g : Grid) (h : windowLines P scr = .ok g) :
    Lines (WinChar P) P.width.toNat g := by
  rw [windowLines_eq] at h
  simp only [bind_ok_iff, pure_ok_iff] at h
  obtain ⟨tl, htl, body, hbody, rfl⟩ := h
  have sub (o : Option Str) (ho : ∀ ch ∈ o.getD [], textChar P ch) (ch : Char) (h : TextChar (o.getD []) ch) :
      WinChar P ch := h.imp id fun h => ⟨ho ch h.1, h.2⟩
  -- a screen with a character in its title or text is one of the program's
  have mem (ch : Char) (h : ch ∈ (P.spec scr).title.getD [] ∨ ch ∈ (P.spec scr).text.getD []) : textChar P ch := by
    refine ⟨P.spec scr, spec_mem_of_ne P scr ?_, h⟩
    rcases h with h | h
    · exact .inl fun h0 => by rw [h0] at h; cases h
    · exact .inr (.inl fun h0 => by rw [h0] at h; cases h)
  exact ((titleLines_lines htl).mono (sub _ fun ch h => mem ch (.inl h))).append
    ((optLines_lines hbody).mono (sub _ fun ch h => mem ch (.inr h)))

theorem windowLines_fit {P : Prog} {ls : List Str} (h : WindowLines P ls) :
    ∀ l ∈ ls, l.length ≤ P.width.toNat ∧ '\n' ∉ l := by
  obtain ⟨scr, g, hg, hls⟩ := h
  have := (window_lines P scr g hg).sub hls
  exact fun l hl => ⟨(this l hl).1, this.no_sep WinChar.ne_nl l hl⟩

/-! ### the two ways a grid is written -/

theorem stripTrail_length_le (l : Str) : (stripTrail l).length ≤ l.length := by
  unfold stripTrail
  rw [List.length_reverse]
  exact Nat.le_trans (List.dropWhile_sublist _).length_le (by simp)

theorem stripTrail_append_blank (l : Str) : stripTrail (l ++ [' ']) = stripTrail l := by
  simp [stripTrail]

theorem stripTrail_nil : stripTrail [] = [] := rfl

/-- `chunk` is the grid `g` written in one of the two ways of the framework: joined by line breaks and followed by one
blank (`textPrompt`), or line by line, each line ended by a line break (`printLines`, the separator) -/
def Written (g : Grid) (chunk : Str) : Prop :=
  chunk = joinWith '\n' g ++ [' '] ∨ chunk = g.flatMap fun l => l ++ ['\n']

namespace Written
variable {A : Char → Prop} {w : Nat} {g : Grid} {chunk : Str}

/-- the lines of the chunk are those of the grid, the last one continued by a blank, or followed by an empty one -/
theorem linesOK (h : Written g chunk) (hg : Lines A w g) (hA : ¬ A '\n') : chunkLinesOK w chunk := by
  intro x hx
  rcases h with rfl | rfl
  · rw [splitOn_joined g (hg.no_sep hA)] at hx
    rcases List.mem_append.mp hx with hx | hx
    · exact Nat.le_trans (stripTrail_length_le x) (hg x (List.dropLast_subset g hx)).1
    · rw [List.mem_singleton.mp hx, stripTrail_append_blank]
      rcases eq_nil_or_snoc g with rfl | ⟨g', l, rfl⟩
      · exact Nat.zero_le _
      · rw [List.getLastD_concat]
        exact Nat.le_trans (stripTrail_length_le l) (hg l (by simp)).1
  · rw [splitOn_flatMap_sep '\n' g (hg.no_sep hA)] at hx
    rcases List.mem_append.mp hx with hx | hx
    · exact Nat.le_trans (stripTrail_length_le x) (hg x hx).1
    · rw [List.mem_singleton.mp hx]; exact Nat.zero_le _

theorem chars (h : Written g chunk) (hg : Lines A w g) : ∀ ch ∈ chunk, ch = '\n' ∨ ch = ' ' ∨ A ch := by
  intro ch hch
  rcases h with rfl | rfl
  · rcases List.mem_append.mp hch with hch | hch
    · rw [joinWith_eq_joinStr] at hch
      rcases joinStr_chars _ _ ch hch with hc | ⟨l, hl, hc⟩
      · exact .inl (List.mem_singleton.mp hc)
      · exact .inr (.inr ((hg l hl).2 ch hc))
    · exact .inr (.inl (List.mem_singleton.mp hch))
  · obtain ⟨l, hl, hch⟩ := List.mem_flatMap.mp hch
    exact (List.mem_append.mp hch).elim (fun hc => .inr (.inr ((hg l hl).2 ch hc)))
      fun hc => .inl (List.mem_singleton.mp hc)

end Written

theorem spacer_lines (w : Int) :
    splitOn '\n' (spacer w) = [List.replicate w.toNat '=', List.replicate w.toNat '=', []] := by
  have hn : '\n' ∉ List.replicate w.toNat '=' := by
    intro h; have := List.eq_of_mem_replicate h; revert this; decide
  unfold spacer
  rw [List.append_assoc, List.append_assoc, List.singleton_append, splitOn_append_sep _ _ _ hn,
    splitOn_append_sep _ _ _ hn]
  rfl

theorem textPrompt_written (cc : CharClass) (p : Str) (w : Int) :
    ∃ g, Lines (TextChar p) w.toNat g ∧ Written g (match textPrompt cc p w with | .ok s => s | .error _ => []) := by
  cases h : textPrompt cc p w with
  | error e => exact ⟨[], .nil, .inr rfl⟩
  | ok r =>
    obtain ⟨st, hst, rfl⟩ := textPrompt_spec cc p w r h
    exact ⟨st.buf, render_lines cc {} p w st hst, .inl rfl⟩

theorem textPrompt_ok (cc : CharClass) (p : Str) (w : Int) :
    chunkLinesOK w.toNat (match textPrompt cc p w with | .ok s => s | .error _ => []) :=
  let ⟨_, hg, h⟩ := textPrompt_written cc p w
  h.linesOK hg fun h => h.ne_nl rfl

/-! ### the literals -/

/-- the characters of the `i`-th entry of the table of literals (`rfl` checks which entry that is) -/
theorem lit_chars {i : Nat} {s : Str} (h : frameworkLiterals[i]? = some s) {ch : Char} (hch : ch ∈ s) :
    ch ∈ frameworkLiterals.flatten :=
  List.mem_flatten.mpr ⟨s, List.mem_of_getElem? h, hch⟩

/-- the literals consist of printable characters: no carriage return, backspace or escape -/
theorem lit_printable : ∀ ch ∈ frameworkLiterals.flatten, 32 ≤ ch.toNat := by
  unfold frameworkLiterals
  lits
  decide +kernel

/-- the punctuation of `str(prompt)` is in the table: a prompt made of line breaks, blanks and literal
characters prints only such characters -/
theorem promptStr_lit (p : Prompt)
    (hm : ∀ ch ∈ p.message.getD [], ch = '\n' ∨ ch = ' ' ∨ ch ∈ frameworkLiterals.flatten)
    (ho : ∀ kd ∈ p.options, ∀ ch, ch ∈ kd.1 ∨ ch ∈ kd.2 → ch ∈ frameworkLiterals.flatten) :
    ∀ ch ∈ p.str, ch = '\n' ∨ ch = ' ' ∨ ch ∈ frameworkLiterals.flatten := by
  intro ch h
  rcases p.str_chars ch h with h | ⟨kd, hkd, h⟩ | h
  · exact hm ch h
  · exact .inr (.inr (ho kd hkd ch h))
  · simp only [List.mem_cons, List.not_mem_nil, or_false] at h
    rcases h with rfl | rfl | rfl | rfl | rfl | rfl
    · exact .inr (.inl rfl)
    · exact .inr (.inr (lit_chars (i := 7) rfl List.mem_cons_self))
    · exact .inr (.inr (lit_chars (i := 8) rfl List.mem_cons_self))
    · exact .inr (.inr (lit_chars (i := 9) rfl List.mem_cons_self))
    · exact .inr (.inr (lit_chars (i := 10) rfl List.mem_cons_self))
    · exact .inr (.inr (lit_chars (i := 11) rfl List.mem_cons_self))

theorem defaultPrompt_lit : ∀ ch ∈ defaultPrompt.str, ch = '\n' ∨ ch = ' ' ∨ ch ∈ frameworkLiterals.flatten := by
  refine promptStr_lit _ (fun ch h => .inr (.inr (lit_chars (i := 0) rfl h))) fun kd hkd ch h => ?_
  have hkd : kd ∈ [(['r'], "to refresh".toList), (['c'], "to continue".toList), (['q'], "to quit".toList)] := hkd
  simp only [List.mem_cons, List.not_mem_nil, or_false] at hkd
  rcases hkd with rfl | rfl | rfl
  · exact h.elim (lit_chars (i := 4) rfl) (lit_chars (i := 1) rfl)
  · exact h.elim (lit_chars (i := 5) rfl) (lit_chars (i := 2) rfl)
  · exact h.elim (lit_chars (i := 6) rfl) (lit_chars (i := 3) rfl)

theorem contPrompt_lit : ∀ ch ∈ contPrompt.str, ch = '\n' ∨ ch = ' ' ∨ ch ∈ frameworkLiterals.flatten := by
  refine promptStr_lit _ (fun ch h => ?_) (fun _ h => nomatch h)
  have h : ch ∈ ("\n" ++ "Press ENTER to continue").toList := h
  rw [String.toList_append] at h
  rcases List.mem_append.mp h with h | h
  · exact .inl (List.mem_singleton.mp h)
  · exact .inr (.inr (lit_chars (i := 12) rfl h))

theorem msgPrompt_lit : ∀ ch ∈ msgPrompt, ch = '\n' ∨ ch = ' ' ∨ ch ∈ frameworkLiterals.flatten :=
  fun _ h => .inr (.inr (lit_chars (i := 13) rfl h))

/-! ### the chunks of a run that has not crashed -/

/-- the alphabet of a run that has not crashed, without the line break -/
def Alive (P : Prog) (ch : Char) : Prop :=
  ch = ' ' ∨ ch = '=' ∨ ch ∈ frameworkLiterals.flatten ∨ (textChar P ch ∧ isWs6 ch = false)

theorem Alive.ne_nl {P : Prog} : ¬ Alive P '\n' := by
  rintro (h | h | h | ⟨_, h⟩)
  · revert h; decide
  · revert h; decide
  · exact absurd (lit_printable _ h) (by decide)
  · revert h; decide

theorem Alive.allowed {P : Prog} {ch : Char} (h : ch = '\n' ∨ Alive P ch) : allowed P ch :=
  h.imp id (.imp id (.imp id (.imp id .inr)))

theorem textPrompt_grid (P : Prog) (p : Str)
    (hp : ∀ ch ∈ p, ch = '\n' ∨ ch = ' ' ∨ ch ∈ frameworkLiterals.flatten) :
    ∃ g, Lines (Alive P) P.width.toNat g ∧
      Written g (match textPrompt P.cc p P.width with | .ok s => s | .error _ => []) := by
  obtain ⟨g, hg, h⟩ := textPrompt_written P.cc p P.width
  refine ⟨g, hg.mono fun ch hc => ?_, h⟩
  rcases hc with rfl | ⟨hc, hw⟩
  · exact .inl rfl
  · rcases hp ch hc with rfl | rfl | hl
    · exact absurd rfl (TextChar.ne_nl (t := p) (.inr ⟨hc, hw⟩))
    · exact .inl rfl
    · exact .inr (.inr (.inl hl))

theorem promptText_grid (P : Prog) (p : Prompt)
    (hp : ∀ ch ∈ p.str, ch = '\n' ∨ ch = ' ' ∨ ch ∈ frameworkLiterals.flatten) :
    ∃ g, Lines (Alive P) P.width.toNat g ∧ Written g (promptText P p) :=
  textPrompt_grid P p.str hp

theorem _root_.Simpleline.NormalChunk.grid {P : Prog} {chunk : Str} (h : NormalChunk P chunk) :
    ∃ g, Lines (Alive P) P.width.toNat g ∧ Written g chunk := by
  cases h with
  | separator =>
    refine ⟨[List.replicate P.width.toNat '=', List.replicate P.width.toNat '='], fun l hl => ?_, .inr ?_⟩
    · have : l = List.replicate P.width.toNat '=' := by simpa using hl
      subst this
      exact ⟨by simp, fun ch hch => .inr (.inl (List.eq_of_mem_replicate hch))⟩
    · simp [spacer]
  | lines ls h =>
    obtain ⟨scr, g, hg, hls⟩ := h
    exact ⟨ls, ((window_lines P scr g hg).sub hls).mono fun _ h => h.imp id fun h => .inr (.inr h), .inr rfl⟩
  | prompt => exact promptText_grid P defaultPrompt defaultPrompt_lit
  | «continue» => exact promptText_grid P contPrompt contPrompt_lit
  | msg => exact textPrompt_grid P msgPrompt msgPrompt_lit

theorem Written.alive {P : Prog} {w : Nat} {g : Grid} {chunk : Str} (h : Written g chunk) (hg : Lines (Alive P) w g) :
    ∀ ch ∈ chunk, ch = '\n' ∨ Alive P ch :=
  fun ch hch => (h.chars hg ch hch).imp id fun h => h.elim .inl id

theorem normalChunk_linesOK {P : Prog} {ch : Str} (h : NormalChunk P ch) : chunkLinesOK P.width.toNat ch := by
  obtain ⟨g, hg, h⟩ := h.grid
  exact h.linesOK hg Alive.ne_nl

/-- every character of a normal chunk is allowed; in particular a character of the application gets
there only from a title or a text and only if it is not one of `'\t' '\n' '\x0b' '\x0c' '\r' ' '` -/
theorem normalChunk_chars {P : Prog} {chunk : Str} (h : NormalChunk P chunk) :
    ∀ ch ∈ chunk, ch = '\n' ∨ ch = ' ' ∨ ch = '=' ∨ ch ∈ frameworkLiterals.flatten ∨
      (textChar P ch ∧ isWs6 ch = false) :=
  let ⟨_, hg, h⟩ := h.grid
  h.alive hg

theorem normalChunk_allowed {P : Prog} {chunk : Str} (h : NormalChunk P chunk) :
    ∀ ch ∈ chunk, allowed P ch :=
  fun ch hch => Alive.allowed (normalChunk_chars h ch hch)

theorem textPrompt_allowed (P : Prog) (p : Str)
    (hp : ∀ ch ∈ p, ch = '\n' ∨ ch = ' ' ∨ ch ∈ frameworkLiterals.flatten) :
    ∀ ch ∈ (match textPrompt P.cc p P.width with | .ok s => s | .error _ => []), allowed P ch :=
  let ⟨_, hg, h⟩ := textPrompt_grid P p hp
  fun ch hch => Alive.allowed (h.alive hg ch hch)

/-! ### the crash dump -/

theorem digitChar_lit : ∀ d, d < 10 → digitChar d ∈ "0123456789".toList := by decide

theorem natDigits_lit (n : Nat) : ∀ ch ∈ natDigits n, ch ∈ "0123456789".toList := by
  induction n using natDigits.induct with
  | case1 n h =>
    intro ch hch
    rw [natDigits, if_pos h] at hch
    rw [List.mem_singleton.mp hch]
    exact digitChar_lit n h
  | case2 n h ih =>
    intro ch hch
    rw [natDigits, if_neg h] at hch
    rcases List.mem_append.mp hch with hch | hch
    · exact ih ch hch
    · rw [List.mem_singleton.mp hch]
      exact digitChar_lit _ (Nat.mod_lt _ (by omega))

theorem dumpStack_chars (P : Prog) (stack : List Entry) :
    ∀ ch ∈ dumpStack P stack, ch = '\n' ∨ ch ∈ frameworkLiterals.flatten ∨ nameChar P ch := by
  intro ch hch
  have lit {i : Nat} {s : Str} (hs : frameworkLiterals[i]? = some s) (h : ch ∈ s) :
      ch = '\n' ∨ ch ∈ frameworkLiterals.flatten ∨ nameChar P ch :=
    .inr (.inl (lit_chars hs h))
  have line {i : Nat} {s : String} (hs : frameworkLiterals[i]? = some s.toList) (h : ch ∈ (s ++ "\n").toList) :
      ch = '\n' ∨ ch ∈ frameworkLiterals.flatten ∨ nameChar P ch := by
    rw [String.toList_append] at h
    exact (List.mem_append.mp h).elim (lit hs) fun h => .inl (List.mem_singleton.mp h)
  unfold dumpStack at hch
  rcases List.mem_append.mp hch with hch | hch
  · rcases List.mem_append.mp hch with hch | hch
    · have hch : ch ∈ ("======= Screen stack =======" ++ "\n" ++ ("----------- TOP ------------" ++ "\n")).toList :=
        hch
      rw [String.toList_append] at hch
      exact (List.mem_append.mp hch).elim (line (i := 14) rfl) (line (i := 15) rfl)
    · obtain ⟨e, _, hch⟩ := List.mem_flatMap.mp hch
      simp only [List.mem_append] at hch
      rcases hch with (((((hch | hch) | hch) | hch) | hch) | hch) | hch
      · exact lit (i := 17) rfl hch
      · refine .inr (.inr ⟨P.spec e.screen, spec_mem_of_ne P e.screen (.inr (.inr ?_)), hch⟩)
        intro h0; rw [h0] at hch; cases hch
      · exact lit (i := 10) rfl hch
      · split at hch
        · exact lit (i := 22) rfl (natDigits_lit _ ch hch)
        · exact lit (i := 19) rfl hch
      · exact lit (i := 10) rfl hch
      · split at hch
        · exact lit (i := 20) rfl hch
        · exact lit (i := 21) rfl hch
      · exact line (i := 18) (s := ")") rfl hch
  · exact line (i := 16) rfl hch

theorem killChunks_chars (P : Prog) (stack : List Entry) :
    ∀ chunk ∈ killChunks P stack, ∀ ch ∈ chunk, ch = '\n' ∨ ch ∈ frameworkLiterals.flatten ∨ nameChar P ch := by
  intro chunk hc ch hch
  rcases List.mem_cons.mp hc with rfl | hc
  · exact .inl (List.mem_singleton.mp hch)
  · rw [List.mem_singleton.mp hc] at hch
    exact (List.mem_append.mp hch).elim (dumpStack_chars P stack ch) fun h => .inl (List.mem_singleton.mp h)

end Simpleline.Output
