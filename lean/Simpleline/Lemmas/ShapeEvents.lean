/-
  Where the events of the shape view come from: one predicate `SOrigin` on the head instruction with the rows that
  `Dispatch.TrOrigin` leaves open, read off the table of `SStepE` (`sstepE_origin`) and carried to transitions
  (`shape_origin`).  Which transitions add which level events (`loopReturn`, `openLevel`, `exit`, `kill`), how the markers
  change in one transition, and that the history hypotheses (`WFOpen`, `WFClose`, `WFDrain`, `WFQuietDrain`,
  `NoForceQuit`, `NoErr`) are inherited by earlier configurations (`*.mono`).
-/
import Simpleline.Lemmas.ShapeClosed

namespace Simpleline

/-- What the head instruction `h` and the view must have been for a transition to add the shape event: the rows that
`Dispatch.TrOrigin` leaves open (scheduler events, `procBegin`) and the part of `TrOrigin`'s `closeReq` row that the view
shows. -/
def SOrigin (v : SV) (h : Instr) : Tr → Prop
  | .show x => h = .drawScreen x
  | .refresh x => h = .afterSetup2 x
  | .modalEnd e => h = .modalRet e
  | .modalBegin e => ∃ scr args, h = .pushModal scr args ∧ e = ⟨v.nextEid, scr, args, true⟩
  | .stackOp w _ =>
      (w = "schedule" ∧ ∃ scr args, h = .act (.schedule scr args)) ∨ (w = "push" ∧ ∃ scr args, h = .act (.push scr args)) ∨
      (w = "replace" ∧ ∃ scr args, h = .act (.replace scr args)) ∨ (w = "pushModal" ∧ ∃ scr args, h = .pushModal scr args) ∨
      (w = "close" ∧ ∃ frm, h = .closeScreen frm) ∨ (w = "discard" ∧ ∃ top, h = .afterSetup top)
  | .closeReq b _ => h = .closeLoop ∧ b = v.runLoop
  | .procBegin => h = .act (.proc none) ∨ h = .closeLoop
  | _ => True

namespace Shape

theorem not_mem_exitEv_of_ne_exit {k : Kind} {t : Tr} (h : t ≠ .exit) : t ∉ exitEv k := by
  cases k <;> simp [exitEv, h]

theorem batch_origin {P : Prog} {v : SV} {h : Instr} {B : List Instr} {evs : List Tr} (hb : Batch P v h B evs) :
    ∀ t ∈ evs, SOrigin v h t := by
  cases hb <;> intro t ht
  case actProcNone => cases List.mem_singleton.1 ht; exact .inl rfl
  case closeLoop n =>
    simp only [List.mem_cons, List.not_mem_nil, or_false] at ht
    rcases ht with rfl | rfl
    · exact .inr rfl
    · exact ⟨rfl, rfl⟩
  case modalRet e => cases List.mem_singleton.1 ht; exact rfl
  case afterSetup2 top => cases List.mem_singleton.1 ht; exact rfl
  case drawScreen top => cases List.mem_singleton.1 ht; exact rfl
  case getDispatch | waitTake | procTake | mainExit | procEnd => cases List.mem_singleton.1 ht; trivial
  all_goals cases ht

theorem sstepE_origin {P : Prog} {v v' : SV} {evs : List Tr} (hs : SStepE P v evs v') :
    ∀ t ∈ evs, ∃ h rest, v.code = h :: rest ∧ SOrigin v h t := by
  intro t ht
  cases hs with
  | batch hc hb => exact ⟨_, _, hc, batch_origin hb t ht⟩
  | stutter | halt _ _ | apprun _ | restore _ _ | identSkip _ _ _ | enqAct _ => cases ht
  | @raise h rest k hc hr =>
    cases k <;> simp [exitEv] at ht
    subst ht
    exact ⟨_, _, hc, trivial⟩
  | kill hc | forceQuit hc | «open» hc _ | pop hc _ _ => cases List.mem_singleton.1 ht; exact ⟨_, _, hc, trivial⟩
  | popExit hc _ _ =>
    simp only [List.mem_cons, List.not_mem_nil, or_false] at ht
    rcases ht with rfl | rfl <;> exact ⟨_, _, hc, trivial⟩
  | schedule hc => cases List.mem_singleton.1 ht; exact ⟨_, _, hc, .inl ⟨rfl, _, _, rfl⟩⟩
  | pushScr hc => cases List.mem_singleton.1 ht; exact ⟨_, _, hc, .inr (.inl ⟨rfl, _, _, rfl⟩)⟩
  | replace hc _ => cases List.mem_singleton.1 ht; exact ⟨_, _, hc, .inr (.inr (.inl ⟨rfl, _, _, rfl⟩))⟩
  | pushModal hc =>
    simp only [List.mem_cons, List.not_mem_nil, or_false] at ht
    rcases ht with rfl | rfl
    · exact ⟨_, _, hc, _, _, rfl, rfl⟩
    · exact ⟨_, _, hc, .inr (.inr (.inr (.inl ⟨rfl, _, _, rfl⟩)))⟩
  | closeScreen hc _ =>
    cases List.mem_singleton.1 ht; exact ⟨_, _, hc, .inr (.inr (.inr (.inr (.inl ⟨rfl, _, rfl⟩))))⟩
  | discard hc _ =>
    cases List.mem_singleton.1 ht; exact ⟨_, _, hc, .inr (.inr (.inr (.inr (.inr ⟨rfl, _, rfl⟩))))⟩

theorem loopReturn_step {P : Prog} {v v' : SV} {evs : List Tr} {q : Nat} (hs : SStepE P v evs v')
    (h : Tr.loopReturn q ∈ evs) :
    ∃ rest, v.code = .mainCheck q :: rest ∧ v.runLoop = false ∧ evs = [.loopReturn q] ∧
      v' = { v with code := .restoreRun :: rest, ev := .loopReturn q :: v.ev } := by
  cases hs with
  | batch hc hb =>
    rcases batch_markers hb with ⟨_, _, h3⟩ | ⟨q', rfl, rfl, rfl, hr⟩
    · cases h3 _ h
    · cases List.mem_singleton.1 h
      exact ⟨_, hc, hr, rfl, rfl⟩
  | raise _ _ => exact absurd h (not_mem_exitEv_of_ne_exit nofun)
  | stutter | halt _ _ | apprun _ | restore _ _ | identSkip _ _ _ | enqAct _ => cases h
  | kill _ | forceQuit _ | schedule _ | pushScr _ | replace _ _ | «open» _ _ | pop _ _ _ | popExit _ _ _
  | pushModal _ | closeScreen _ _ | discard _ _ => simp at h

theorem openLevel_step {P : Prog} {v v' : SV} {evs : List Tr} {q : Nat} {b : Bool} (hs : SStepE P v evs v')
    (h : Tr.openLevel q b ∈ evs) :
    ∃ s rest, v.code = .newLoop s :: rest ∧ v.forceQuit = false ∧ q = v.nq ∧ b = v.runLoop ∧
      evs = [.openLevel q b] ∧
      v' = SV.noteExc { v with code := .mainCheck v.nq :: rest, levels := v.levels ++ [v.nq], active := v.nq,
                               nq := v.nq + 1, ev := .openLevel v.nq v.runLoop :: v.ev } (s.cls == .exception) := by
  cases hs with
  | batch hc hb =>
    rcases batch_markers hb with ⟨_, _, h3⟩ | ⟨q', rfl, rfl, rfl, hr⟩
    · cases h3 _ h
    · cases List.mem_singleton.1 h
  | raise _ _ => exact absurd h (not_mem_exitEv_of_ne_exit nofun)
  | stutter | halt _ _ | apprun _ | restore _ _ | identSkip _ _ _ | enqAct _ => cases h
  | «open» hc hf =>
    cases List.mem_singleton.1 h
    exact ⟨_, _, hc, hf, rfl, rfl, rfl, rfl⟩
  | kill _ | forceQuit _ | schedule _ | pushScr _ | replace _ _ | pop _ _ _ | popExit _ _ _
  | pushModal _ | closeScreen _ _ | discard _ _ => simp at h

theorem end_step {P : Prog} {v v' : SV} {evs : List Tr} (hch : Chained v.code) (hs : SStepE P v evs v')
    (h : Tr.exit ∈ evs ∨ Tr.kill ∈ evs) : overCode v'.code = true := by
  cases sstepE_level hch hs with
  | over ho _ => exact ho
  | keep _ _ _ _ _ _ _ hl => rcases h with h | h <;> cases hl _ h
  | mainExit _ _ he _ | restoreFQ _ _ he _ | restore _ _ he _ | apprun _ he _ | «open» _ _ he _ | pop _ _ _ he _
  | forceQuit _ he _ => subst he; simp at h

theorem markers_step {P : Prog} {v v' : SV} {evs : List Tr} (hch : Chained v.code) (hs : SStepE P v evs v') :
    (evs = [.openLevel v.nq v.runLoop] ∧ markersA v'.code = v.nq :: markersA v.code) ∨
    (∃ q, evs = [.loopReturn q] ∧ markersA v.code = q :: markersA v'.code) ∨
    overCode v'.code = true ∨
    markersA v'.code = markersA v.code := by
  cases sstepE_level hch hs with
  | over ho _ => exact .inr (.inr (.inl ho))
  | keep hm _ _ _ _ _ _ _ => exact .inr (.inr (.inr hm))
  | mainExit hc _ he hv => subst hv; exact .inr (.inl ⟨_, he, by rw [hc]; rfl⟩)
  | «open» hc _ he hv => subst hv; exact .inl ⟨he, by rw [hc]; rfl⟩
  | restoreFQ hc _ _ hv | restore hc _ _ hv | apprun hc _ hv | pop hc _ _ _ hv | forceQuit hc _ hv =>
    subst hv; exact .inr (.inr (.inr (by rw [hc]; rfl)))

theorem lc_keeps {P : Prog} {v v' : SV} {evs : List Tr} {h : Instr} {rest : List Instr} (hs : SStepE P v evs v')
    (hc : v.code = h :: rest) (hh : h.isLC = true) (hk : ∀ s, h ≠ .kill s) : ∃ B, v'.code = B ++ rest := by
  cases hs with
  | stutter => exact ⟨[h], hc⟩
  | batch hc' _ => cases hc.symm.trans hc'; exact ⟨_, rfl⟩
  | halt hc' _ => cases hc.symm.trans hc'; exact ⟨[], rfl⟩
  | raise hc' hr => cases hc.symm.trans hc'; rw [canRaise_nonLC hr] at hh; cases hh
  | kill hc' => cases hc.symm.trans hc'; exact absurd rfl (hk _)
  | apprun hc' => cases hc.symm.trans hc'; exact ⟨_, rfl⟩
  | restore hc' _ => cases hc.symm.trans hc'; exact ⟨[], rfl⟩
  | forceQuit hc' | enqAct hc' | schedule hc' | pushScr hc' | replace hc' _ | «open» hc' _ | pop hc' _ _ | popExit hc' _ _
  | pushModal hc' | closeScreen hc' _ | discard hc' _ | identSkip hc' _ _ =>
    cases hc.symm.trans hc'; cases hh

theorem mem_newTr_iff {c c' : Cfg} {evs : List Tr} (h : shapeTr (newTr c c') = evs) {t : Tr} (ht : t.shape = true) :
    t ∈ newTr c c' ↔ t ∈ evs := by
  rw [← h, mem_shapeTr]; simp [ht]

theorem shape_origin {P : Prog} {c c' : Cfg} (ht : Trans P c c') {t : Tr} (hs : t.shape = true) (hm : t ∈ newTr c c') :
    ∃ h rest, c.code = h :: rest ∧ SOrigin c.sv h t := by
  obtain ⟨evs, hst, hev, _⟩ := trans_sstep ht
  exact sstepE_origin hst t ((mem_newTr_iff hev hs).1 hm)

theorem newTr_trans {a b c : Cfg} (g1 : Grow a b) (g2 : Grow b c) : newTr a c = newTr b c ++ newTr a b := by
  obtain ⟨n1, h1⟩ := g1
  obtain ⟨n2, h2⟩ := g2
  rw [newTr_of_grow h1, newTr_of_grow h2, newTr_of_grow (new := n2 ++ n1) (by rw [h2, h1, List.append_assoc])]

theorem newTr_self (a : Cfg) : newTr a a = [] := by simp [newTr]

theorem mem_tr_of_mem_newTr {a b : Cfg} (g : Grow a b) {t : Tr} (h : t ∈ newTr a b) : t ∈ b.tr := by
  obtain ⟨n, hn⟩ := g
  rw [newTr_of_grow hn] at h
  rw [hn]; exact List.mem_append_left _ h

theorem all_mono {f : Tr → Bool} {c c' : Cfg} (g : Grow c c') (h : c'.tr.all f = true) : c.tr.all f = true := by
  obtain ⟨n, hn⟩ := g
  rw [hn, List.all_append, Bool.and_eq_true] at h
  exact h.2

theorem WFClose.mono {c c' : Cfg} (g : Grow c c') (h : WFClose c') : WFClose c := all_mono g h

theorem WFOpen.mono {c c' : Cfg} (g : Grow c c') (h : WFOpen c') : WFOpen c := all_mono g h

theorem WFDrain.mono {c c' : Cfg} (g : Grow c c') (h : WFDrain c') : WFDrain c := by
  obtain ⟨n, hn⟩ := g
  unfold WFDrain at h ⊢
  rw [hn] at h
  exact noDoubleClose_append h

theorem NoForceQuit.mono {c c' : Cfg} (g : Grow c c') (h : NoForceQuit c') : NoForceQuit c := by
  obtain ⟨n, hn⟩ := g
  unfold NoForceQuit at h ⊢
  rw [hn] at h
  exact fun hm => h (List.mem_append_right _ hm)

theorem drainQuietScan_weaken (l : List Tr) (h : drainQuietScan true l = true) : drainQuietScan false l = true := by
  induction l with
  | nil => rfl
  | cons t l ih =>
    cases t <;> first | exact h | exact ih h | skip
    simp only [drainQuietScan, Bool.not_true, Bool.false_and] at h
    cases h

theorem drainQuietScan_append {a b : List Tr} (s : Bool) (h : drainQuietScan s (a ++ b) = true) :
    drainQuietScan false b = true := by
  induction a generalizing s with
  | nil => cases s; exact h; exact drainQuietScan_weaken _ h
  | cons t a ih =>
    cases t <;> first | exact ih _ h | skip
    simp only [List.cons_append, drainQuietScan, Bool.and_eq_true] at h
    exact ih _ h.2

theorem drainQuietScan_shapeTr (s : Bool) (l : List Tr) : drainQuietScan s (shapeTr l) = drainQuietScan s l := by
  induction l generalizing s with
  | nil => rfl
  | cons t l ih =>
    rw [shapeTr_cons]
    cases t <;> first | exact ih _ | skip
    all_goals simp only [Tr.shape, if_true, drainQuietScan, ih]

theorem NoErr.mono {c c' : Cfg} (g : Grow c c') (h : NoErr c') : NoErr c := all_mono g h

theorem WFQuietDrain.mono {c c' : Cfg} (g : Grow c c') (h : WFQuietDrain c') : WFQuietDrain c := by
  obtain ⟨n, hn⟩ := g
  unfold WFQuietDrain at h ⊢
  rw [hn] at h
  exact drainQuietScan_append _ h

end Shape

end Simpleline
