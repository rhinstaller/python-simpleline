/-
  C20d, GLib machine: the dispatch of one batch element of the machine is `gstep`; the run.
-/
import Simpleline.Lemmas.FlatGRun
import Simpleline.Lemmas.GLoopSim

namespace Simpleline.Flat
open Simpleline Simpleline.GLoop

variable {hs : List (Cls × HRef × Option Nat)} {c : G.Cfg} {st : List (Nat × Nat)} {srcs : List G.GSource} {ep : Nat}
  {lg : List Ev}

/-- the `for handler in handlers` loop of `_run_handlers` from index `i` on -/
theorem gsteps_gcall (P : Prog) (hP : Flat P) (hhs : FlatHandlers hs) (g : GSig)
    {busy : Option Nat} {run : Bool} (rest : List G.Instr) :
    ∀ (l : List (HRef × Option Nat)) (i : Nat) {c : G.Cfg} {st : List (Nat × Nat)} {srcs : List G.GSource} {lg : List Ev},
    GSim hs c st srcs busy run ep lg → c.code = .gCall (sigOf g) .live i :: rest → (hsOf hs (.user g.cls)).drop i = l →
    ∃ c' news, GSteps P c c' ∧ c'.code = rest ∧ news.map (fun x => gsigOf x.sig) = (runHs P l st).2 ∧
      GSim hs c' (runHs P l st).1 (srcs ++ news) busy run ep ((hLog l g.id).reverse ++ lg)
  | [], i, c, st, srcs, lg, h, hc, hl => by
    have hn : (hsOf hs (.user g.cls))[i]? = none := by
      rw [List.getElem?_eq_none_iff]; exact List.drop_eq_nil_iff.1 hl
    obtain ⟨c1, hs1, hc1, h1⟩ := gstep_gCall_none P h g i rest hc hn
    exact ⟨c1, [], .one hs1, hc1, rfl, by simpa [runHs, hLog] using h1⟩
  | (r, d) :: l, i, c, st, srcs, lg, h, hc, hl => by
    obtain ⟨hsome, hdrop⟩ := drop_cons_facts hl
    have hmem : (r, d) ∈ hsOf hs (.user g.cls) := List.mem_of_getElem? hsome
    obtain ⟨hid, hr⟩ := hsOf_flat hhs _ _ hmem
    simp only at hr
    subst hr
    obtain ⟨c1, hs1, hc1, h1⟩ := gstep_gCall_some P h g i rest _ d hc hsome
    obtain ⟨c2, hs2, hc2, h2⟩ := gstep_callH P h1 hid d g _ hc1
    rw [script_eq hP, List.map_map] at hc2
    obtain ⟨c3, n1, hs3, hc3, hn1, h3⟩ := gsteps_enqs P _ (script P hid (cntOf st hid)) h2 hc2
    obtain ⟨c4, hs4, hc4, h4⟩ := gstep_hret P h3 hid _ hc3
    obtain ⟨c5, n2, hs5, hc5, hn2, h5⟩ := gsteps_gcall P hP hhs g rest l (i + 1) h4 hc4 hdrop
    refine ⟨c5, n1 ++ n2, .head hs1 (.head hs2 (hs3.trans (.head hs4 hs5))), hc5, by simp [runHs, hn1, hn2], ?_⟩
    simpa [runHs, hLog_cons_user, List.append_assoc] using h5

theorem filter_mark (sid : Nat) : ∀ (l : List G.GSource),
    (l.map (markIn sid)).filter (fun g => g.id ≠ sid) = l.filter (fun g => g.id ≠ sid)
  | [] => rfl
  | a :: l => by
    have ih := filter_mark sid l
    rw [List.map_cons, List.filter_cons, List.filter_cons, ih]
    by_cases ha : a.id = sid
    · simp [ha]
    · have : markIn sid a = a := by simp [markIn, ha]
      simp [ha, this]

theorem filter_ne_of_nodup {l l1 l2 : List G.GSource} {b : G.GSource} (hl : l = l1 ++ b :: l2)
    (hn : l.Pairwise (fun a b => a.id ≠ b.id)) : l.filter (fun g => g.id ≠ b.id) = l1 ++ l2 := by
  subst hl
  rw [List.pairwise_append] at hn
  obtain ⟨_, h2, h3⟩ := hn
  rw [List.pairwise_cons] at h2
  have e1 : l1.filter (fun g => g.id ≠ b.id) = l1 := by
    rw [List.filter_eq_self]; intro x hx; simpa using h3 x hx b (by simp)
  have e2 : l2.filter (fun g => g.id ≠ b.id) = l2 := by
    rw [List.filter_eq_self]; intro x hx
    have := h2.1 x hx
    simpa using fun e : x.id = b.id => this e.symm
  rw [List.filter_append, List.filter_cons, e1, e2]
  simp

/-- the dispatch of one batch element: `gDisp`, `_run_handlers`, destroy -/
theorem gmacro_disp (P : Prog) (hP : Flat P) (hhs : FlatHandlers hs) (h : GSim hs c st srcs none true ep lg)
    (b : G.GSource) (hb : b ∈ srcs) (rest : List G.Instr)
    (hc : c.code = .gDisp 0 ep b :: rest) :
    ∃ c' news, GSteps P c c' ∧ c'.code = rest ∧
      news.map (fun x => gsigOf x.sig) = (absProg P hs st (gsigOf b.sig)).2 ∧
      GSim hs c' (absProg P hs st (gsigOf b.sig)).1 (srcs.filter (fun g => g.id ≠ b.id) ++ news) none true ep
        ((hLog (hsOf hs (.user (gsigOf b.sig).cls)) (gsigOf b.sig).id).reverse ++ lg) := by
  have hwf := h.wf b hb
  have hsig : b.sig = sigOf (gsigOf b.sig) := hwf.2.1.symm
  generalize hgb : gsigOf b.sig = gb at hsig ⊢
  obtain ⟨c1, hs1, hc1, h1⟩ := gstep_gDisp P h b rest hc hb
  obtain ⟨c2, hs2, hc2, h2⟩ := gstep_runH P h1 b _ hc1
  rw [absProg_eq]
  have hmid : ∃ c3 news, GSteps P c2 c3 ∧ c3.code = .catchRun :: .endRun 0 b :: .gAfter 0 b.id :: rest ∧
      news.map (fun x => gsigOf x.sig) = (runHs P (hsOf hs (.user gb.cls)) st).2 ∧
      GSim hs c3 (runHs P (hsOf hs (.user gb.cls)) st).1 (srcs.map (markIn b.id) ++ news) (some b.id) true ep
        ((hLog (hsOf hs (.user gb.cls)) gb.id).reverse ++ lg) := by
    have hhl : b.hs = if hsOf hs (.user gb.cls) ≠ [] then G.HList.live else .empty := by
      rw [hwf.2.2.1, hsig]
      simp [hl, hsOf_base]
    rw [hhl, hsig] at hc2
    by_cases hH : hsOf hs (.user gb.cls) = []
    · simp only [hH, ne_eq, not_true_eq_false, if_false] at hc2
      obtain ⟨c3, hs3, hc3, h3⟩ := gstep_gCall_empty P h2 _ 0 _ hc2
      refine ⟨c3, [], .one hs3, hc3, by simp [hH, runHs], ?_⟩
      simpa [hH, runHs, hLog] using h3
    · simp only [hH, ne_eq, not_false_eq_true, if_true] at hc2
      exact gsteps_gcall P hP hhs gb _ _ 0 h2 hc2 List.drop_zero
  obtain ⟨c3, news, hs3, hc3, hn, h3⟩ := hmid
  obtain ⟨c4, hs4, hc4, h4⟩ := gstep_catchRun P h3 _ hc3
  obtain ⟨c5, hs5, hc5, h5⟩ := gstep_endRun P h4 b rfl _ hc4
  have hnews : ∀ n ∈ news, n.id ≠ b.id := by
    have := h3.nodup
    rw [List.pairwise_append] at this
    intro n hn' e
    exact this.2.2 (markIn b.id b) (List.mem_map_of_mem hb) n hn' (by simp [e])
  have hfil : (srcs.map (markIn b.id) ++ news).filter (fun g => g.id ≠ b.id) = srcs.filter (fun g => g.id ≠ b.id) ++ news := by
    rw [List.filter_append, filter_mark]
    congr 1
    rw [List.filter_eq_self]; intro x hx; simpa using hnews x hx
  rw [hfil] at h5
  obtain ⟨c6, hs6, hc6, h6⟩ := gstep_gAfter P h5 b.id (by
    intro x hx
    rcases List.mem_append.1 hx with hx | hx
    · simpa using (List.mem_filter.1 hx).2
    · exact hnews x hx) _ hc5
  exact ⟨c6, news, .head hs1 (.head hs2 (hs3.trans (.head hs4 (.head hs5 (.one hs6))))), hc6, hn, h6⟩

/-- The GLib machine between two dispatches: the rest of the current batch (pending `gDisp`s of the current
iteration `ep`) and `run()`'s loop are pending; nothing is in dispatch; the batch is what is left of the sources of one
priority among those attached when the iteration started (`old`). -/
def GBound (hs : List (Cls × HRef × Option Nat)) (c : G.Cfg) (st : List (Nat × Nat)) (batch srcs : List G.GSource)
    (lg : List Ev) : Prop :=
  ∃ ep, GSim hs c st srcs none true ep lg ∧
    c.code = batch.map (fun g => G.Instr.gDisp 0 ep g) ++ [.gRun 0, .quitCb] ∧
    ∃ old new p, srcs = old ++ new ∧ batch = old.filter (fun g => g.sig.prio = p)

theorem minPrio_map : ∀ (l : List G.GSource), GLoop.minPrio (l.map fun g => gsigOf g.sig) = G.minPrio l
  | [] => rfl
  | a :: l => by
    simp only [List.map_cons, GLoop.minPrio, G.minPrio, minPrio_map l]
    cases G.minPrio l <;> rfl

theorem collect_map (l : List G.GSource) :
    collect (l.map fun g => gsigOf g.sig) = match G.minPrio l with
      | some p => (l.filter fun g => g.sig.prio = p).map (fun g => gsigOf g.sig)
      | none => [] := by
  unfold collect
  rw [minPrio_map]
  cases G.minPrio l with
  | none => rfl
  | some p => exact List.filter_map

/-- dispatching the head of the batch is `gstep` -/
theorem gb_disp (P : Prog) (hP : Flat P) (hhs : FlatHandlers hs) {b : G.GSource} {rest : List G.GSource}
    (h : GBound hs c st (b :: rest) srcs lg) :
    ∃ c' srcs', GSteps P c c' ∧
      GBound hs c' (absProg P hs st (gsigOf b.sig)).1 rest srcs'
        ((hLog (hsOf hs (.user (gsigOf b.sig).cls)) (gsigOf b.sig).id).reverse ++ lg) ∧
      srcs'.map (fun g => gsigOf g.sig) =
        (srcs.map fun g => gsigOf g.sig).erase (gsigOf b.sig) ++ (absProg P hs st (gsigOf b.sig)).2 := by
  obtain ⟨ep, hsim, hc, old, new, p, hsrcs, hbatch⟩ := h
  obtain ⟨pre, post, hold, hpre, hpb, hpost⟩ := List.filter_eq_cons_iff.1 hbatch.symm
  have hb : b ∈ srcs := by rw [hsrcs, hold]; simp
  obtain ⟨c', news, hst, hc', hn, h'⟩ := gmacro_disp P hP hhs hsim b hb _ hc
  have hdec : srcs = pre ++ b :: (post ++ new) := by rw [hsrcs, hold]; simp
  rw [filter_ne_of_nodup hdec hsim.nodup] at h'
  refine ⟨c', pre ++ (post ++ new) ++ news, hst, ⟨ep, h', hc', pre ++ post, new ++ news, p, by simp, ?_⟩, ?_⟩
  · rw [List.filter_append, hpost]
    have : pre.filter (fun g => g.sig.prio = p) = [] := by
      rw [List.filter_eq_nil_iff]; exact hpre
    rw [this]; rfl
  · have hnot : gsigOf b.sig ∉ pre.map (fun g => gsigOf g.sig) := by
      intro hm
      obtain ⟨x, hx, he⟩ := List.mem_map.1 hm
      have h1 : x.sig.prio = b.sig.prio := congrArg GSig.prio he
      have h2 : b.sig.prio = p := by simpa using hpb
      have h3 := hpre x hx
      simp [h1, h2] at h3
    rw [hdec]
    simp only [List.map_append, List.map_cons]
    rw [hn, List.erase_append_right _ hnot, List.erase_cons_head]

theorem gb_iter (P : Prog) (h : GBound hs c st [] srcs lg) (p : Int) (hp : G.minPrio srcs = some p) :
    ∃ c', GSteps P c c' ∧ GBound hs c' st (srcs.filter fun g => g.sig.prio = p) srcs lg := by
  obtain ⟨ep, hsim, hc, -⟩ := h
  obtain ⟨c1, hs1, hc1, h1⟩ := gstep_gRun P hsim _ hc
  obtain ⟨c2, hs2, hc2, h2⟩ := gstep_gIter P h1 p hp _ hc1
  exact ⟨c2, .head hs1 (.one hs2), ep + 1, h2, hc2, srcs, [], p, by simp, rfl⟩

/-- with nothing attached `run()` blocks in the iteration: two steps, the log stays -/
theorem gb_blocked (P : Prog) (h : GBound hs c st [] [] lg) :
    ∃ c', (∀ j, G.runFuel P (2 + j) c = (c', .blocked)) ∧ c'.log = lg := by
  obtain ⟨ep, hsim, hc, -⟩ := h
  obtain ⟨c1, hs1, hc1, h1⟩ := gstep_gRun P hsim _ hc
  obtain ⟨c2, hs2, hl2⟩ := gstep_gIter_blocked P h1 _ hc1
  refine ⟨c2, fun j => ?_, hl2⟩
  have : 2 + j = (j + 1) + 1 := by omega
  rw [this, G.runFuel, hs1]
  simp only [G.runFuel, hs2]

/-- the GLib machine at a dispatch boundary corresponds to the abstract GLib state `g` -/
def GRelI (hs : List (Cls × HRef × Option Nat)) (c : G.Cfg) (g : GState (List (Nat × Nat))) : Prop :=
  ∃ batch srcs, GBound hs c g.st batch srcs (runLog hs g.done).reverse ∧
    batch.map (fun x => gsigOf x.sig) = g.batch ∧ srcs.map (fun x => gsigOf x.sig) = g.attached

theorem grel_step_cons (P : Prog) (hP : Flat P) (hhs : FlatHandlers hs)
    {g g' : GState (List (Nat × Nat))} (h : GRelI hs c g) (hne : g.batch ≠ []) (hg : gstep (absProg P hs) g = some g') :
    ∃ c', GSteps P c c' ∧ GRelI hs c' g' := by
  obtain ⟨batch, srcs, hb, hbm, hsm⟩ := h
  cases batch with
  | nil => exact absurd hbm.symm hne
  | cons b rest =>
    rw [gstep_of_batch_cons _ hbm.symm] at hg
    cases hg
    obtain ⟨c', srcs', hst, hb', hm'⟩ := gb_disp P hP hhs hb
    refine ⟨c', hst, rest, srcs', ?_, rfl, ?_⟩
    · simpa [runLog_snoc] using hb'
    · rw [hm', hsm]

/-- the dispatch step of the GLib machine (a new iteration first, when the batch is exhausted) is `gstep` -/
theorem grel_step (P : Prog) (hP : Flat P) (hhs : FlatHandlers hs)
    {g g' : GState (List (Nat × Nat))} (h : GRelI hs c g) (hg : gstep (absProg P hs) g = some g') :
    ∃ c', GSteps P c c' ∧ GRelI hs c' g' := by
  by_cases hne : g.batch = []
  · obtain ⟨batch, srcs, hb, hbm, hsm⟩ := h
    obtain rfl : batch = [] := by simpa [hne] using hbm
    rw [gstep_of_batch_nil _ hne] at hg
    have hne1 : collect g.attached ≠ [] := by
      intro e
      rw [gstep_eq] at hg
      simp [e] at hg
    cases hp : G.minPrio srcs with
    | none => exact absurd (by rw [← hsm, collect_map, hp]) hne1
    | some p =>
      obtain ⟨c1, hs1, hb1⟩ := gb_iter P hb p hp
      obtain ⟨c2, hs2, h2⟩ := grel_step_cons P hP hhs (g := { g with batch := collect g.attached })
        ⟨_, srcs, hb1, by rw [← hsm, collect_map, hp], hsm⟩ hne1 hg
      exact ⟨c2, hs1.trans hs2, h2⟩
  · exact grel_step_cons P hP hhs h hne hg

theorem grel_blocked (P : Prog) {g : GState (List (Nat × Nat))} (h : GRelI hs c g) (hg : gstep (absProg P hs) g = none) :
    ∃ c', (∀ j, G.runFuel P (2 + j) c = (c', .blocked)) ∧ c'.log = c.log := by
  obtain ⟨batch, srcs, hb, hbm, hsm⟩ := h
  obtain ⟨h1, h2⟩ := gstep_eq_none.1 hg
  have hb0 : batch = [] := by simpa [h1] using hbm
  have hs0 : srcs = [] := by simpa [h2] using hsm
  subst hb0 hs0
  obtain ⟨c', hc', hl⟩ := gb_blocked P hb
  obtain ⟨ep, hsim, -⟩ := hb
  exact ⟨c', hc', hl.trans hsim.log.symm⟩

theorem grel_run (P : Prog) (hP : Flat P) (hhs : FlatHandlers hs) :
    ∀ (n : Nat) {c : G.Cfg} {g : GState (List (Nat × Nat))}, GRelI hs c g →
    ∃ c', GSteps P c c' ∧ GRelI hs c' (grun (absProg P hs) n g)
  | 0, c, g, h => ⟨c, .refl _, h⟩
  | n + 1, c, g, h => by
    unfold grun
    cases hg : gstep (absProg P hs) g with
    | none => exact ⟨c, .refl _, h⟩
    | some g' =>
      obtain ⟨c1, hs1, h1⟩ := grel_step P hP hhs h hg
      obtain ⟨c2, hs2, h2⟩ := grel_run P hP hhs n h1
      exact ⟨c2, hs1.trans hs2, h2⟩

theorem ginit_sim (hs : List (Cls × HRef × Option Nat)) (acts : List Act) (quitCb : Option Nat) (stdin : List Str) :
    GSim hs (G.initCfg acts hs quitCb stdin) [] [] none false 0 [] :=
  ⟨rfl, (fun _ hx => by simp at hx), List.Pairwise.nil, (fun _ hx => by cases hx), rfl, rfl, rfl, rfl, fun _ => rfl, rfl⟩

theorem grel_init (P : Prog) (hP : Flat P) (hs : List (Cls × HRef × Option Nat)) (init : List GSig) (quitCb : Option Nat)
    (stdin : List Str) :
    ∃ c', GSteps P (G.initCfg (initActs init) hs quitCb stdin) c' ∧ GRelI hs c' (ginit [] init) := by
  have h0 := ginit_sim hs (initActs init) quitCb stdin
  have hc0 : (G.initCfg (initActs init) hs quitCb stdin).code = init.map (fun g => G.Instr.act (actOf g)) ++ [.apprun] := by
    simp [G.initCfg, initActs, List.map_map]
  obtain ⟨c1, news, hs1, hc1, hn, h1⟩ := gsteps_enqs P _ init h0 hc0
  obtain ⟨c2, hs2, hc2, h2⟩ := gstep_apprun P hP h1 _ hc1
  refine ⟨c2, hs1.trans (.one hs2), [], [] ++ news, ⟨0, h2, hc2, [], [] ++ news, 0, rfl, rfl⟩, rfl, ?_⟩
  simpa [ginit] using hn

theorem gmachine_reaches (P : Prog) (hP : Flat P) (hhs : FlatHandlers hs)
    (init : List GSig) (quitCb : Option Nat) (stdin : List Str) (n : Nat) :
    ∃ c, GSteps P (G.initCfg (initActs init) hs quitCb stdin) c ∧ GRelI hs c (grun (absProg P hs) n (ginit [] init)) := by
  obtain ⟨c0, hs0, h0⟩ := grel_init P hP hs init quitCb stdin
  obtain ⟨c1, hs1, h1⟩ := grel_run P hP hhs n h0
  exact ⟨c1, hs0.trans hs1, h1⟩

theorem gbatchOf_map (ep : Nat) (rest : List G.Instr) (hr : gbatchOf rest = []) : ∀ (batch : List G.GSource),
    gbatchOf (batch.map (fun g => G.Instr.gDisp 0 ep g) ++ rest) = batch
  | [] => hr
  | b :: batch => by simp [gbatchOf, gbatchOf_map ep rest hr batch]

theorem gafterBatch_map (ep : Nat) (rest : List G.Instr) (hr : gafterBatch rest = rest) : ∀ (batch : List G.GSource),
    gafterBatch (batch.map (fun g => G.Instr.gDisp 0 ep g) ++ rest) = rest
  | [] => hr
  | b :: batch => by simp [gafterBatch, gafterBatch_map ep rest hr batch]

theorem GRelI.toRel {g : GState (List (Nat × Nat))} (h : GRelI hs c g) : GRel hs c g := by
  obtain ⟨batch, srcs, ⟨ep, hsim, hc, -⟩, hbm, hsm⟩ := h
  refine ⟨?_, ?_, ?_, hsim.cnt, by rw [hsim.log, List.reverse_reverse]⟩
  · rw [hc]; exact gafterBatch_map ep _ rfl batch
  · rw [hc, gbatchOf_map ep _ rfl batch]; exact hbm
  · simp only [gattached, G.Cfg.ctx, G.GSt.ctx, hsim.ctxs]
    exact hsm

end Simpleline.Flat
