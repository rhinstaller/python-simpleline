/-
  Which widgets respect the width they are rendered at (`RespectsWidth`), kind by kind (C13b).
-/
import Simpleline.Lemmas.LayoutOKRender
import Simpleline.Lemmas.OutputText

namespace Simpleline

variable (cc : CharClass)

theorem respects_text (st : WSt) (t : List Char) (w : Int) :
    RespectsWidth cc (.text st t) w := by
  intro r h row hrow
  simp only [Wd.render, bind_ok_iff, pure_ok_iff] at h
  obtain ⟨s, hs, rfl⟩ := h
  exact render_width_int cc st t w s hs row hrow

theorem respects_sep (st : WSt) (n : Nat) (w : Int) :
    RespectsWidth cc (.sep st n) w := by
  intro r h row hrow
  simp only [Wd.render, pure_ok_iff] at h
  subst h
  have : row = [] := List.eq_of_mem_replicate hrow
  subst this
  exact Nat.zero_le _

theorem respects_center (st : WSt) (child : Wd) (w : Int) :
    RespectsWidth cc (.center st child) w := by
  intro r h
  simp only [Wd.render, bind_ok_iff] at h
  obtain ⟨c', _, h⟩ := h
  split at h
  · simp only [throw_ok_iff] at h
  · rename_i hw
    simp only [pure_ok_iff] at h
    subst h
    apply (col_gridWidth_le_iff _ _).1
    show gridWidth (drawInto [] c'.lines 0 ((w - (gridWidth c'.lines : Int)) / 2).toNat) ≤ w.toNat
    rw [gridWidth_drawInto_le_iff]
    refine ⟨Nat.zero_le _, fun row hrow => ?_⟩
    have := col_mem_le_gridWidth _ row hrow
    omega

theorem truthy_ne_nil (o : Option (List Char)) (t : List Char) (h : truthy o = some t) : t ≠ [] := by
  cases o with
  | none => cases h
  | some l =>
    cases l with
    | nil => cases h
    | cons a l => cases h; exact List.cons_ne_nil a l

theorem cb_stage (x : List Char) (w : Int) (tw c : WSt) (hx : x ≠ [])
    (htw : renderTextSt cc {} x (w - 4) = .ok tw) (hcur : c.cur.2 = 4) :
    5 ≤ w ∧ (gridWidth c.buf ≤ w.toNat →
      gridWidth (c.draw tw.buf true).buf ≤ w.toNat ∧ (c.draw tw.buf true).cur.2 = 4) := by
  have hpos := renderText_pos cc {} x (w - 4) tw hx htw
  refine ⟨by omega, fun hc => ⟨?_, hcur⟩⟩
  refine (gridWidth_drawInto_le_iff ..).2 ⟨hc, fun row hrow => ?_⟩
  have := render_width_int cc {} x (w - 4) tw htw row hrow
  omega

theorem cb_final (W : Nat) (c : WSt) (hc : gridWidth c.buf ≤ W) :
    gridWidth ((({} : WSt).draw c.buf false).buf) ≤ W :=
  (gridWidth_drawInto_le_iff ..).2 ⟨Nat.zero_le _, fun row hrow =>
    (Nat.zero_add row.length).symm ▸ (col_gridWidth_le_iff _ _).1 hc row hrow⟩

/-- the first column of a checkbox: the box, at most 3 wide, and the cursor at column 4 -/
theorem cb_box (x : List Char) (a : WSt) (h : renderTextSt cc {} x 3 = .ok a) :
    gridWidth (({} : WSt).drawAt a.buf 0 0 true).buf ≤ 3 ∧
    max 3 (gridWidth (({} : WSt).drawAt a.buf 0 0 true).buf) + 1 = 4 := by
  have h1 : gridWidth (({} : WSt).drawAt a.buf 0 0 true).buf ≤ 3 := by
    show gridWidth (drawInto [] a.buf 0 0) ≤ 3
    rw [gridWidth_drawInto_le_iff]
    refine ⟨Nat.zero_le _, fun row hrow => ?_⟩
    have := render_width_int cc {} x 3 a h row hrow
    have e : (3 : Int).toNat = 3 := rfl
    omega
  exact ⟨h1, by omega⟩

theorem checkbox_rows (key : List Char) (title text : Option (List Char))
    (completed : Bool) (w : Int) (s : WSt)
    (hyp : 3 ≤ w ∨ (truthy title).isSome = true ∨ (truthy text).isSome = true)
    (h : renderCheckboxSt cc key title text completed w = .ok s) : gridWidth s.buf ≤ w.toNat := by
  simp only [renderCheckboxSt, bind_ok_iff] at h
  obtain ⟨a, ha, h⟩ := h
  have ⟨hb1, hb2⟩ := cb_box cc _ a ha
  rw [hb2] at h
  split at h
  · rename_i t ht
    simp only [bind_ok_iff, pure_ok_iff] at h
    obtain ⟨tw, htw, c2, rfl, h⟩ := h
    have ⟨hw5, hst⟩ := cb_stage cc t w tw
      { buf := (({} : WSt).drawAt a.buf 0 0 true).buf, cur := (0, 4) } (truthy_ne_nil _ _ ht) htw rfl
    have ⟨hr2, hc2⟩ := hst (Nat.le_trans hb1 (by omega))
    split at h
    · rename_i t' ht'
      simp only [bind_ok_iff, pure_ok_iff] at h
      obtain ⟨tw', htw', c3, rfl, rfl⟩ := h
      have ⟨_, hst'⟩ := cb_stage cc (['('] ++ t' ++ [')']) w tw' _ (by simp) htw' hc2
      exact cb_final _ _ (hst' hr2).1
    · simp only [bind_ok_iff, pure_ok_iff] at h
      obtain ⟨c3, rfl, rfl⟩ := h
      exact cb_final _ _ hr2
  · rename_i ht
    simp only [bind_ok_iff, pure_ok_iff] at h
    obtain ⟨c2, rfl, h⟩ := h
    split at h
    · rename_i t' ht'
      simp only [bind_ok_iff, pure_ok_iff] at h
      obtain ⟨tw', htw', c3, rfl, rfl⟩ := h
      have ⟨hw5, hst'⟩ := cb_stage cc (['('] ++ t' ++ [')']) w tw'
        { buf := (({} : WSt).drawAt a.buf 0 0 true).buf, cur := (0, 4) } (by simp) htw' rfl
      exact cb_final _ _ (hst' (Nat.le_trans hb1 (by omega))).1
    · rename_i ht'
      simp only [bind_ok_iff, pure_ok_iff] at h
      obtain ⟨c3, rfl, rfl⟩ := h
      -- neither title nor text: only the box is drawn, and `hyp` has to give the room for it
      have hw3 : 3 ≤ w := by
        rcases hyp with h3 | h3 | h3
        · exact h3
        · rw [ht] at h3; cases h3
        · rw [ht'] at h3; cases h3
      exact cb_final _ _ (Nat.le_trans hb1 (by omega))

theorem respects_checkbox (st : WSt) (key : List Char) (title text : Option (List Char))
    (completed : Bool) (w : Int)
    (hyp : 3 ≤ w ∨ (truthy title).isSome = true ∨ (truthy text).isSome = true) :
    RespectsWidth cc (.checkbox st key title text completed) w := by
  intro r h
  simp only [Wd.render, bind_ok_iff, pure_ok_iff] at h
  obtain ⟨s, hs, rfl⟩ := h
  exact (col_gridWidth_le_iff _ _).1 (checkbox_rows cc key title text completed w s hyp hs)

theorem titleLines_rows (title : Option (List Char)) (w : Int) (tl : Grid)
    (h : titleLines cc title w = .ok tl) : ∀ row ∈ tl, row.length ≤ w.toNat :=
  fun row hrow => (Output.titleLines_lines h row hrow).1

/-- the lines of a window are the title part and the lines of its items (`window_render_spec`) -/
theorem respects_window (st : WSt) (title : Option (List Char)) (items : List Wd) (w : Int)
    (hfit : ∀ it ∈ items, RespectsWidth cc it w) : RespectsWidth cc (.window st title items) w := by
  intro r h row hrow
  obtain ⟨tl, items', htl, hlen, hit, hl⟩ := window_render_spec cc st title items w r h
  rw [hl] at hrow
  rcases List.mem_append.1 hrow with hr | hr
  · exact titleLines_rows cc title w tl htl row hr
  · obtain ⟨it', hmem, hr⟩ := List.mem_flatMap.1 hr
    obtain ⟨i, hi, rfl⟩ := List.getElem_of_mem hmem
    exact hfit _ (List.getElem_mem (hlen ▸ hi)) _ (hit i (hlen ▸ hi) hi) row hr

theorem respects_list (st : WSt) (cm : Bool) (columns spacing : Nat)
    (kp : Option KeyPat) (u : Option Int) (nw : List NumW) (items : List Wd) (w : Int)
    (hfit : ∀ i, (hi : i < items.length) →
      RespectsWidth cc items[i] (usedWidth none columns spacing w - kpLabelLen kp i)) :
    RespectsWidth cc (.list st cm columns none spacing kp u nw items) w := by
  intro r h row hrow
  by_cases hne : items = []
  · subst hne
    rw [render_list_nil h] at hrow
    cases hrow
  · obtain ⟨hc, hu, _⟩ := list_ok_room hne h
    obtain ⟨items', labels, sh⟩ := shape_of_render h
    have wo := widthOK_of_render (fun e => absurd e hne) h sh hfit
    have hw := container_width wo spacing
      (rowHeight cm columns (listHeights (items'.map Wd.lines) labels)) cm columns
    rw [List.length_map, ← sh.lines] at hw
    have h1 := (col_gridWidth_le_iff _ _).1 hw row hrow
    have h2 := usedWidth_fits columns spacing hc w (columns - 1) (by omega) hu
    omega

end Simpleline
