/-
  `Wd.render` does not read the state of the objects in the tree and changes nothing but that state (C16).
-/
import Simpleline.Lemmas.ContainersRender

namespace Simpleline

theorem resetList_eq_map : ∀ items : List Wd, resetList items = items.map Wd.reset
  | [] => rfl
  | x :: xs => by rw [resetList, resetList_eq_map xs, List.map_cons]

@[simp] theorem resetList_eq_nil (items : List Wd) : resetList items = [] ↔ items = [] := by
  rw [resetList_eq_map, List.map_eq_nil_iff]

theorem resetList_append (xs ys : List Wd) : resetList (xs ++ ys) = resetList xs ++ resetList ys := by
  rw [resetList_eq_map, resetList_eq_map, resetList_eq_map, List.map_append]

theorem Wd.reset_add (t x : Wd) : (t.add x).reset = t.reset.add x.reset := by
  cases t <;> simp only [Wd.add, Wd.reset, resetList_append, resetList]

mutual
theorem render_reset (cc : CharClass) : ∀ (t : Wd) (w : Int), t.render cc w = t.reset.render cc w
  | .text st t, w => by simp only [Wd.render, Wd.reset, renderTextSt, WSt.clear]
  | .sep st n, w => by simp only [Wd.render, Wd.reset]
  | .center st c, w => by
    have ih := render_reset cc c w
    simp only [Wd.render, Wd.reset, WSt.clear, ih]
  | .checkbox st k t x c, w => by simp only [Wd.render, Wd.reset]
  | .window st title items, w => by
    have ih := renderWindowItems_reset cc items w
    simp only [Wd.render, Wd.reset, WSt.clear, ih]
  | .list st cm cols cw sp kp u nw items, w => by
    have ih := renderListItems_reset cc items
    simp only [Wd.render, Wd.reset, WSt.clear, ← ih, ne_eq, resetList_eq_nil]
theorem renderWindowItems_reset (cc : CharClass) : ∀ (items : List Wd) (w : Int) (st : WSt),
    renderWindowItems cc w st items = renderWindowItems cc w st (resetList items)
  | [], _, _ => by simp only [resetList]
  | it :: its, w, st => by
    have ih1 := render_reset cc it w
    have ih2 := renderWindowItems_reset cc its w
    simp only [renderWindowItems, resetList, ← ih1, ← ih2]
theorem renderListItems_reset (cc : CharClass) : ∀ (items : List Wd) (used : Int) (kp : Option KeyPat) (i : Nat),
    renderListItems cc used kp i items = renderListItems cc used kp i (resetList items)
  | [], _, _, _ => by simp only [resetList]
  | it :: its, used, kp, i => by
    have ih1 := render_reset cc it
    have ih2 := renderListItems_reset cc its used kp
    simp only [renderListItems, resetList, ← ih1, ← ih2]
end

theorem render_window_ok {cc : CharClass} {st : WSt} {title : Option (List Char)} {items : List Wd}
    {w : Int} {t' : Wd} (h : (Wd.window st title items).render cc w = .ok t') :
    ∃ st1 st2 items', renderWindowItems cc w st1 items = .ok (st2, items') ∧
      t' = .window st2 title items' := by
  simp only [Wd.render] at h
  split at h
  · simp only [bind_ok_iff, pure_ok_iff] at h
    obtain ⟨_, _, st1, _, ⟨st2, items'⟩, h, rfl⟩ := h
    exact ⟨st1, st2, items', h, rfl⟩
  · simp only [bind_ok_iff, pure_ok_iff] at h
    obtain ⟨st1, _, ⟨st2, items'⟩, h, rfl⟩ := h
    exact ⟨st1, st2, items', h, rfl⟩

mutual
theorem render_keeps (cc : CharClass) : ∀ (t t' : Wd) (w : Int), t.render cc w = .ok t' → t'.reset = t.reset
  | .text st t, t', w, h => by
    simp only [Wd.render, bind_ok_iff, pure_ok_iff] at h
    obtain ⟨_, _, rfl⟩ := h
    simp only [Wd.reset]
  | .sep st n, t', w, h => by
    simp only [Wd.render, pure_ok_iff] at h
    subst h
    simp only [Wd.reset]
  | .center st c, t', w, h => by
    simp only [Wd.render, bind_ok_iff] at h
    obtain ⟨c', hc, h⟩ := h
    have ih := render_keeps cc c c' w hc
    split at h
    · simp only [throw_ok_iff] at h
    · simp only [pure_ok_iff] at h
      subst h
      simp only [Wd.reset, ih]
  | .checkbox st k t x c, t', w, h => by
    simp only [Wd.render, bind_ok_iff, pure_ok_iff] at h
    obtain ⟨_, _, rfl⟩ := h
    simp only [Wd.reset]
  | .window st title items, t', w, h => by
    obtain ⟨st1, st2, items', h', rfl⟩ := render_window_ok h
    have ih := renderWindowItems_keeps cc items items' w st1 st2 h'
    simp only [Wd.reset, ih]
  | .list st cm cols cw sp kp u nw items, t', w, h => by
    obtain ⟨_, numw, items', _, h', _, _, rfl⟩ := render_list_ok h
    have ih := renderListItems_keeps cc items items' _ kp 0 numw h'
    simp only [Wd.reset, ih]
theorem renderWindowItems_keeps (cc : CharClass) : ∀ (items items' : List Wd) (w : Int) (st st' : WSt),
    renderWindowItems cc w st items = .ok (st', items') → resetList items' = resetList items
  | [], _, _, _, _, h => by
    simp only [renderWindowItems, pure_ok_iff, Prod.mk.injEq] at h
    rw [h.2]
  | it :: its, items', w, st, st', h => by
    simp only [renderWindowItems, bind_ok_iff, pure_ok_iff, Prod.mk.injEq] at h
    obtain ⟨it', h1, ⟨st'', its'⟩, h2, -, rfl⟩ := h
    have ih1 := render_keeps cc it it' w h1
    have ih2 := renderWindowItems_keeps cc its its' w _ _ h2
    simp only [resetList, ih1, ih2]
theorem renderListItems_keeps (cc : CharClass) : ∀ (items items' : List Wd) (used : Int) (kp : Option KeyPat) (i : Nat) (nws : List NumW),
    renderListItems cc used kp i items = .ok (nws, items') → resetList items' = resetList items
  | [], _, _, _, _, _, h => by
    simp only [renderListItems, pure_ok_iff, Prod.mk.injEq] at h
    rw [h.2]
  | it :: its, items', used, kp, i, nws, h => by
    obtain ⟨_, it', nws', its', h1, h2, rfl, _⟩ := renderListItems_cons_ok h
    have ih1 := render_keeps cc it it' _ h1
    have ih2 := renderListItems_keeps cc its its' used kp (i + 1) nws' h2
    simp only [resetList, ih1, ih2]
end

end Simpleline
