/-
  Instructions that run at once (`callScr`, `drawScreen`, `afterSetup2`) occur only at the head of the
  code (`Imm`, from `Chained` and `AtOnce` of the shape view); the table of who pushes them (`ImmPushedBy`,
  `head_imm_after`). Induction over executions (`Reach.induct`) and the configuration that emitted a given event of a
  history (`Reach.emitted`).
-/
import Simpleline.Lemmas.SchedEffect
import Simpleline.Lemmas.ShapeMarkers

namespace Simpleline

theorem external_not_immediate {i : Instr} (h : i.external = true) : i.immediate = false := by
  cases i <;> first | rfl | cases h

/-- what a callback invocation pushes: the widget print, the script's actions, the return -/
theorem mem_script {scr : Nat} {pre : List Instr} (hpre : pre = [] ∨ pre = [.printWidget scr]) {acts : List Act}
    {i j : Instr} (hi : i ∈ pre ++ acts.map Instr.act ++ [j]) : i = .printWidget scr ∨ (∃ a, i = .act a) ∨ i = j := by
  rw [List.append_assoc] at hi
  rcases List.mem_append.1 hi with hi | hi
  · rcases hpre with rfl | rfl
    · cases hi
    · exact .inl (List.mem_singleton.1 hi)
  · exact .inr (mem_acts hi)

/-- where the continuations of a scheduler frame and the return of a callback come from -/
theorem PushedBy.mem {P : Prog} {c : Cfg} {ins : Instr} {pushed : List Instr} (h : PushedBy P c ins pushed) :
    ∀ i ∈ pushed, match i with
    | .afterSetup top => pushed = [.callScr top.screen .setup top.args none, .afterSetup top]
    | .identCheck top =>
      ins = .afterSetup2 top ∧ pushed = [.callScr top.screen .refresh top.args none, .identCheck top, .catchPS]
    | .drawScreen top => ins = .identCheck top
    | .scrRet s cb _ k => ∃ a, ins = .callScr s cb a k
    | _ => True := by
  cases h
  case external h =>
    intro i hi
    have := h i hi
    split <;> first | trivial | cases this
  case callScr hpre =>
    intro i hi
    rcases mem_script hpre hi with rfl | ⟨a, rfl⟩ | rfl
    · trivial
    · trivial
    · exact ⟨_, rfl⟩
  all_goals simp only [List.forall_mem_cons, List.not_mem_nil, false_imp_iff, implies_true, and_self]

inductive ImmPushedBy (c : Cfg) : Instr → Instr → Prop
  | closed {frm e} (he : c.A.stack.getLast? = some e) (hacc : frm = none ∨ frm = some (.scr e.screen)) :
    ImmPushedBy c (.closeScreen frm) (.callScr e.screen .closed none none)
  | ready {top} (ht : c.A.stack.getLast? = some top) (hr : (c.A.scr top.screen).ready = true) :
    ImmPushedBy c .processScreen (.afterSetup2 top)
  | setup {top} (ht : c.A.stack.getLast? = some top) (hr : (c.A.scr top.screen).ready = false) :
    ImmPushedBy c .processScreen (.callScr top.screen .setup top.args none)
  | setupOk {top} (h : c.retSetup = true) : ImmPushedBy c (.afterSetup top) (.afterSetup2 top)
  | refresh {top} : ImmPushedBy c (.afterSetup2 top) (.callScr top.screen .refresh top.args none)
  | draw {top l} (hl : c.A.stack.getLast? = some l) (heid : l.eid = top.eid) : ImmPushedBy c (.identCheck top) (.drawScreen top)
  | show {top} : ImmPushedBy c (.drawScreen top) (.callScr top.screen .show none none)
  | prompt {scr args} : ImmPushedBy c (.getInput scr args) (.callScr scr .prompt args none)
  | input {scr key} : ImmPushedBy c (.processInput scr key) (.callScr scr .input (c.A.scr scr).inputArgs (some key))

theorem PushedBy.head_imm {P : Prog} {c : Cfg} {ins : Instr} {pushed : List Instr} (h : PushedBy P c ins pushed)
    {i : Instr} (hh : pushed.head? = some i) (hi : i.immediate = true) : ImmPushedBy c ins i := by
  cases h
  case external h => rw [external_not_immediate (h i (List.mem_of_head? hh))] at hi; cases hi
  case callScr hpre => rcases mem_script hpre (List.mem_of_head? hh) with rfl | ⟨a, rfl⟩ | rfl <;> cases hi
  case close he hacc => cases hh; exact .closed he hacc
  case ready ht hr => cases hh; exact .ready ht hr
  case setup ht hr => cases hh; exact .setup ht hr
  case setupOk h => cases hh; exact .setupOk h
  case refresh => cases hh; exact .refresh
  case draw hl heid => cases hh; exact .draw hl heid
  case «show» => cases hh; exact .show
  case prompt => cases hh; exact .prompt
  case processInput => cases hh; exact .input
  all_goals (cases hh; cases hi)

theorem Reach.induct {P : Prog} {c0 c : Cfg} {I : Cfg → Prop} (h0 : I c0)
    (hs : ∀ c, Reach P c0 c → I c → I (sOutCfg (Simpleline.step P c))) (hd : ∀ c, Reach P c0 c → I c → I c.dlv)
    (h : Reach P c0 c) : I c :=
  reach_step_induction h0 hs (fun c _ hr hi h => deliver_eq_dlv h ▸ hd c hr hi) h

theorem Reach.trans_reach {P : Prog} {c0 c c' : Cfg} (h : Reach P c0 c) (ht : Trans P c c') : Reach P c0 c' :=
  reach_trans h ht

/-- For an observed history `obs` (newest first) to which a step adds the events `evs`, at most one, and
which a delivery leaves alone: every event of the history was added by the step out of a reachable
configuration whose history was what lies behind the event. -/
theorem Reach.emitted {P : Prog} {c0 c : Cfg} (h0 : Started c0) {α : Type} (obs evs : Cfg → List α)
    (hinit : ∀ init handlers quitCb stdin, obs (initCfg init handlers quitCb stdin) = [])
    (hs : ∀ c, obs (sOutCfg (Simpleline.step P c)) = evs c ++ obs c) (hlen : ∀ c, (evs c).length ≤ 1)
    (hd : ∀ c, obs c.dlv = obs c) (hr : Reach P c0 c) {x : α} {l1 l2 : List α} (h : obs c = l1 ++ x :: l2) :
    ∃ c1, Reach P c0 c1 ∧ evs c1 = [x] ∧ obs c1 = l2 := by
  refine hr.induct (I := fun c => ∀ l1, obs c = l1 ++ x :: l2 → ∃ c1, Reach P c0 c1 ∧ evs c1 = [x] ∧ obs c1 = l2)
    (fun l1 h => ?_) (fun c hr ih l1 h => ?_) (fun c _ ih l1 h => ih l1 (hd c ▸ h)) l1 h
  · obtain ⟨init, handlers, quitCb, stdin, rfl⟩ := h0
    rw [hinit] at h; cases l1 <;> cases h
  · rw [hs] at h
    rcases hev : evs c with _ | ⟨y, _ | ⟨z, t⟩⟩
    · rw [hev] at h; exact ih l1 h
    · rw [hev] at h
      rcases List.cons_eq_append_iff.1 h with ⟨rfl, h'⟩ | ⟨l1', rfl, h'⟩
      · cases h'; exact ⟨c, hr, hev, rfl⟩
      · exact ih l1' h'
    · exact absurd (hev ▸ hlen c) (by simp)

def Imm (c : Cfg) : Prop := ∀ i ∈ c.code.tail, i.immediate = false

/-- `drawScreen` and `afterSetup2` are kept out of the tail by the bracket invariant `Chained`, callback invocations by
`AtOnce` (both of the shape view) -/
theorem Reach.imm {P : Prog} {c0 c : Cfg} (h0 : Started c0) (h : Reach P c0 c) : Imm c := by
  intro i hi
  have h1 := Shape.reach_atOnce h0 h i hi
  cases hc : c.code with
  | nil => rw [hc] at hi; cases hi
  | cons a l =>
    rw [hc] at hi
    have hch : Chained (a :: l) := hc ▸ Shape.reach_chained h0 h
    cases i <;> first | rfl | exact absurd hi (Shape.headOnly_not_tail hch rfl) | cases h1

theorem head_imm_after {P : Prog} {c : Cfg} {ins : Instr} {rest : List Instr} (h : Imm c) (hc : c.code = ins :: rest)
    {i : Instr} (hh : (sOutCfg (step P c)).code.head? = some i) (hi : i.immediate = true) : ImmPushedBy c ins i := by
  obtain ⟨pushed, ⟨suf, hcode, hsuf⟩, hp⟩ := (step_eff P c ins rest hc).code
  rw [hcode] at hh
  cases pushed with
  | nil =>
    have : i ∈ rest := hsuf.subset (List.mem_of_head? hh)
    have := h i (by simp [hc, this])
    simp [this] at hi
  | cons p ps => exact hp.head_imm (by simpa using hh) hi

theorem who_refreshes {P : Prog} {c0 c c' : Cfg} (h0 : Started c0) (hr : Reach P c0 c) (h : StepTo P c c')
    {top : Entry} (hh : c'.code.head? = some (.afterSetup2 top)) :
    (∃ rest, c.code = .processScreen :: rest ∧ c.A.stack.getLast? = some top ∧ (c.A.scr top.screen).ready = true) ∨
    (∃ rest, c.code = .afterSetup top :: rest ∧ c.retSetup = true) := by
  rcases hc : c.code with _ | ⟨ins, rest⟩
  · rw [h.eq, Machine.step_nil hc, sOutCfg_error, hc] at hh; cases hh
  · rw [h.eq] at hh
    cases head_imm_after (hr.imm h0) hc hh rfl with
    | ready ht hrd => exact .inl ⟨rest, rfl, ht, hrd⟩
    | setupOk hrs => exact .inr ⟨rest, rfl, hrs⟩

end Simpleline
