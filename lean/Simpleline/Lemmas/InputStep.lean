/-
  What one machine step does to the input pipeline's objects (C06, C18), as the transition relation `InpTrans`:
  every instruction but the four input operations (`getInput2`, `blockingInput`, `inputReceived`, `inputReady`)
  leaves them alone and at most lets the reader thread deliver one line (`step_frame`); those four exactly.
-/
import Simpleline.Lemmas.InputEff

namespace Simpleline.Input

def _root_.Simpleline.Ev.isRead : Ev → Bool
  | .read _ => true
  | _ => false

theorem readLines_cons_read (l : Str) (log : List Ev) : readLines (.read l :: log) = readLines log ++ [l] := by
  simp [readLines]

theorem readLines_cons (e : Ev) (log : List Ev) (h : e.isRead = false) : readLines (e :: log) = readLines log := by
  cases e <;> simp_all [readLines, Ev.isRead]

theorem Logs.isRead {ins : Instr} {e : Ev} (h : Logs ins e) : e.isRead = false := by
  cases h with
  | plain he => cases e <;> first | rfl | cases he
  | cb => rfl

def Same (c c' : Cfg) : Prop := c'.pipe = c.pipe ∧ readLines c'.log = readLines c.log

theorem Same_refl (c : Cfg) : Same c c := ⟨rfl, rfl⟩

theorem Calm.same {c X : Cfg} (h : Calm c X) : Same c X := ⟨h.pipe, by rw [h.log]⟩

def Delivered (c c' : Cfg) : Prop :=
  c.A.readers ≠ [] ∧ c'.A.readers = c.A.readers.tail ∧ c'.A.stdin = c.A.stdin.tail ∧
    readLines c'.log = readLines c.log ++ [c.A.stdin.headD []]

structure InpFrame (c c' : Cfg) : Prop where
  ihs : c'.A.ihs = c.A.ihs
  reqs : c'.A.reqs = c.A.reqs
  inputStack : c'.A.inputStack = c.A.inputStack
  processing : c'.A.processing = c.A.processing
  handlers : c'.L.handlers = c.L.handlers
  inputArgs : ∀ j, (c'.A.screens.getD j {}).inputArgs = (c.A.screens.getD j {}).inputArgs
  reader : (c'.A.readers = c.A.readers ∧ c'.A.stdin = c.A.stdin ∧ readLines c'.log = readLines c.log) ∨
    Delivered c c'

theorem InpFrame_of_same {c c' : Cfg} (h : Same c c') : InpFrame c c' :=
  ⟨congrArg Pipe.ihs h.1, congrArg Pipe.reqs h.1, congrArg Pipe.inputStack h.1, congrArg Pipe.processing h.1,
    congrArg Pipe.handlers h.1, congrFun (congrArg Pipe.inputArgs h.1),
    Or.inl ⟨congrArg Pipe.readers h.1, congrArg Pipe.stdin h.1, h.2⟩⟩

theorem InpFrame_congr {c c1 c2 : Cfg} (hA : c2.A = c1.A) (hH : c2.L.handlers = c1.L.handlers) (hl : c2.log = c1.log)
    (h : InpFrame c c1) : InpFrame c c2 := by
  obtain ⟨h1, h2, h3, h4, h5, h6, h7⟩ := h
  refine ⟨?_, ?_, ?_, ?_, ?_, ?_, ?_⟩ <;> simp only [hA, hH, hl, Delivered] <;> assumption

theorem InpFrame_push {c c1 : Cfg} (is : List Instr) (h : InpFrame c c1) : InpFrame c (push c1 is) :=
  InpFrame_congr (c1 := c1) rfl rfl rfl h

theorem InpFrame_deliver {c c1 c' : Cfg} (hs : Same c c1) (h : c1.deliver = some c') : InpFrame c c' := by
  obtain ⟨h1, h2, h3, h4, h5, h6, h7 | h7⟩ := InpFrame_of_same hs
  · obtain ⟨h7, h8, h9⟩ := h7
    obtain ⟨r, rs, hr, rfl⟩ := deliver_eq h
    refine ⟨by simpa, by simpa, by simpa, by simpa, by simpa, by simpa, Or.inr ?_⟩
    refine ⟨by rw [← h7, hr]; simp, by simp [← h7, hr], by simp [h8], ?_⟩
    simp [readLines_cons_read, h9, h8]
  · exact absurd h7.2.2.2 (by rw [hs.2]; simp)

theorem InpFrame_delivers {c X Y : Cfg} (hs : Same c X) (h : Delivers X Y) : InpFrame c Y := by
  rcases h with rfl | h
  · exact InpFrame_of_same hs
  · exact InpFrame_deliver hs h

theorem InpFrame_emit {c c1 : Cfg} (P : Prog) (e : Ev) (hs : Same c c1) (he : e.isRead = false) :
    InpFrame c (c1.emit P e) :=
  InpFrame_delivers (X := emit0 c1 e) ⟨hs.1, by rw [emit0_log, readLines_cons _ _ he, hs.2]⟩ (delivers_emit P c1 e)

theorem step_frame (P : Prog) (c : Cfg) (hb : ∀ ins rest, c.code = ins :: rest → ins.isInputOp = false) :
    InpFrame c (final (step P c)) := by
  obtain ⟨_, hf⟩ | ⟨ins, rest, c', hc, hf, h⟩ := step_cases P c <;> rw [hf]
  · exact InpFrame_of_same (Same_refl c)
  have hb := hb ins rest hc
  cases h with
  | calm _ _ h => exact InpFrame_of_same h.toCalm.same
  | pass _ _ h _ hp => exact InpFrame_of_same (hp.calm h).same
  | enq s _ h _ hs =>
    exact InpFrame_push _
      (InpFrame_congr (enqueue_A _ s) (enqueue_handlers _ s) (enqueue_log _ s) (InpFrame_of_same (hs.calm h).same))
  | emit e _ h _ hl => exact InpFrame_push _ (InpFrame_emit P e h.toCalm.same hl.isRead)
  | idle h _ hd => exact InpFrame_deliver h.toCalm.same hd
  | @pop _ Y _ _ _ _ h _ hd =>
    exact InpFrame_push _ (InpFrame_congr (c1 := Y) rfl rfl rfl (InpFrame_delivers h.toCalm.same hd))
  | closeLevel q a => exact InpFrame_of_same (calm_closed c rest q a).same
  | request _ _ _ _ hi => rw [hi] at hb; cases hb
  | handoff _ _ _ hi | ready _ _ _ hi => subst hi; cases hb

theorem step_getInput2_none (P : Prog) (c : Cfg) (scr : Nat) (args : Option Nat) (rest : List Instr)
    (hc : c.code = .getInput2 scr args :: rest) (hp : c.retPromptNone = true) :
    step P c = .ok { c with code := rest, A := c.A.setScr scr fun s => { s with err := 0 } } := by
  unfold step; simp only [hc, hp, if_true]

theorem step_getInput2_some (P : Prog) (c : Cfg) (scr : Nat) (args : Option Nat) (rest : List Instr)
    (hc : c.code = .getInput2 scr args :: rest) (hp : c.retPromptNone = false) :
    step P c =
      startRequest (push (newIH { c with code := rest, A := c.A.setScr scr fun s => { s with inputArgs := args } }
          (.scr scr) (P.spec scr).skipCheck (some scr)).2 [])
        (newIH { c with code := rest, A := c.A.setScr scr fun s => { s with inputArgs := args } }
          (.scr scr) (P.spec scr).skipCheck (some scr)).1 (.scr scr) (promptText P defaultPrompt) := by
  unfold step; simp only [hc, hp, Bool.false_eq_true, if_false]; rfl

theorem step_blockingInput (P : Prog) (c : Cfg) (scr : Nat) (cont : Bool) (rest : List Instr)
    (hc : c.code = .blockingInput scr cont :: rest) :
    step P c =
      startRequest (push (newIH { c with code := rest } (.im scr) (P.spec scr).skipCheck none).2
          [.waitInput (newIH { c with code := rest } (.im scr) (P.spec scr).skipCheck none).1])
        (newIH { c with code := rest } (.im scr) (P.spec scr).skipCheck none).1 (.im scr) (blockingText P cont) := by
  unfold step; simp only [hc]; rfl

theorem screen_request (P : Prog) (c : Cfg) (scr : Nat) (args : Option Nat) (rest : List Instr)
    (hc : c.code = .getInput2 scr args :: rest) (hp : c.retPromptNone = false) :
    Requested c (final (step P c)) (freshIH (.scr scr) (P.spec scr).skipCheck (some scr))
      (promptText P defaultPrompt) := by
  rw [step_getInput2_some P c scr args rest hc hp]
  exact requested_of_newIH c rest _ _ _ _ _ _

theorem getInput2_args (P : Prog) (c : Cfg) (scr : Nat) (args : Option Nat) (rest : List Instr)
    (hc : c.code = .getInput2 scr args :: rest) (hp : c.retPromptNone = false) (j : Nat) :
    ((final (step P c)).A.scr j).inputArgs = if scr = j then args else (c.A.scr j).inputArgs := by
  rw [step_getInput2_some P c scr args rest hc hp]
  unfold AppSt.scr
  rw [startRequest_screens]
  show (((c.A.setScr scr fun s => { s with inputArgs := args }).screens.getD j {})).inputArgs = _
  rw [setScr_getD]
  split <;> rfl

theorem blocking_request (P : Prog) (c : Cfg) (scr : Nat) (cont : Bool) (rest : List Instr)
    (hc : c.code = .blockingInput scr cont :: rest) :
    Requested c (final (step P c)) (freshIH (.im scr) (P.spec scr).skipCheck none) (blockingText P cont) := by
  rw [step_blockingInput P c scr cont rest hc]
  exact requested_of_newIH c rest c.A.screens _ _ _ _ _

inductive InpTrans (c c' : Cfg) : Prop
  | frame : InpFrame c c' → InpTrans c c'
  | screenReq (scr : Nat) (args : Option Nat) (sk : Bool) (text : Str) :
      Requested c c' (freshIH (.scr scr) sk (some scr)) text →
      (∀ j, (c'.A.scr j).inputArgs = if scr = j then args else (c.A.scr j).inputArgs) →
      (∃ rest, c.code = .getInput2 scr args :: rest) → c.retPromptNone = false →
      InpTrans c c'
  | blockingReq (scr : Nat) (sk : Bool) (text : Str) :
      Requested c c' (freshIH (.im scr) sk none) text → c'.A.screens = c.A.screens → InpTrans c c'
  | handoff (s : Sig) (rest : List Instr) :
      c.code = .inputReceived s :: rest → c.A.inputStack ≠ [] →
      c'.A = { c.A with inputStack := [], processing := false } → c'.L.handlers = c.L.handlers → c'.log = c.log →
      InpTrans c c'
  | ready (n : Nat) (s : Sig) (rest : List Instr) (f : IHandler → IHandler) :
      c.code = .inputReady n s :: rest → s.ih = n →
      ((s.ok = false ∧ f = IHandler.failed) ∨ (s.ok = true ∧ f = (·.answered s.line))) →
      c'.A = { c.A with ihs := listSet c.A.ihs n f } → c'.L.handlers = c.L.handlers → c'.log = c.log →
      InpTrans c c'

theorem step_inpTrans (P : Prog) (c : Cfg) : InpTrans c (final (step P c)) := by
  cases hc : c.code with
  | nil => exact .frame (step_frame P c (by simp [hc]))
  | cons ins rest =>
    by_cases hi : ins.isInputOp = false
    · refine .frame (step_frame P c ?_)
      intro ins' rest' h'
      rw [hc] at h'
      cases h'; exact hi
    cases ins <;> simp [Instr.isInputOp] at hi
    · rename_i scr args
      cases hp : c.retPromptNone
      · exact .screenReq scr args _ _ (screen_request P c scr args rest hc hp) (getInput2_args P c scr args rest hc hp)
          ⟨rest, hc⟩ hp
      · rw [step_getInput2_none P c scr args rest hc hp]
        exact .frame (InpFrame_of_same (Quiet.scr (c := c)).toCalm.same)
    · rename_i scr cont
      refine .blockingReq scr _ _ (blocking_request P c scr cont rest hc) ?_
      rw [step_blockingInput P c scr cont rest hc]
      exact startRequest_screens _ _ _ _
    · rename_i s
      cases hst : c.A.inputStack.getLast? with
      | none =>
        rw [step_inputReceived_empty P c s rest hc (List.getLast?_eq_none_iff.mp hst)]
        exact .frame (InpFrame_of_same ((Quiet.of_view (c := c)).raise _).toCalm.same)
      | some r =>
        have hne : c.A.inputStack ≠ [] := by intro h; simp [h] at hst
        obtain ⟨rs, hst'⟩ := List.getLast?_eq_some_iff.mp hst
        rw [step_inputReceived P c s rest rs r hc hst']
        exact .handoff s rest hc hne rfl (enqueueAll_handlers _ _) (enqueueAll_log _ _)
    · rename_i n s
      rw [step_inputReady P c n s rest hc]
      by_cases h1 : s.ih = n
      · simp only [h1, ne_eq, not_true_eq_false, if_false, final_ok]
        cases hok : s.ok
        · exact .ready n s rest _ hc h1 (Or.inl ⟨hok, rfl⟩) rfl rfl rfl
        · exact .ready n s rest _ hc h1 (Or.inr ⟨hok, rfl⟩) rfl rfl rfl
      · simp only [ne_eq, h1, not_false_eq_true, if_true, final_ok]
        exact .frame (InpFrame_of_same (Calm.refl c).view.same)

end Simpleline.Input
