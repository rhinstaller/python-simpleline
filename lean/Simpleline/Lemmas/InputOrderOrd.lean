/-
  C06b: the order invariant `OrdInv`. The lines already handed to `input` callbacks, then those the pending code is
  about to hand over, then those of the successful `InputReadySignal`s in the active queue (in queue order), then the
  line still on its way to the hand-off: in this order a subsequence of the lines read. Preserved by every step (by
  cases on `Input.StepEff`), given `NoReadyCovered` and `NoReadyReentry` for the configuration the step ends in.
-/
import Simpleline.Lemmas.InputOrderInv
import Simpleline.Lemmas.LoopWF

namespace Simpleline.InputOrder
open Input

/-- the line between the console and the hand-off (if the subsystem is busy and no reader thread is waiting, the
line read last may still be on its way) -/
def flyL (processing : Bool) (readers : List Nat) (log : List Ev) : List Str :=
  if processing = true ∧ readers = [] then (lastL log).toList else []

/-- the invariant with the lines `K` in the place of those the code carries -/
def OrdK (K : List Str) (c : Cfg) : Prop :=
  (inputLines c.log ++ (K ++ (readyQ c.L.queues c.L.active ++ flyL c.A.processing c.A.readers c.log))).Sublist
    (readLines c.log)

def OrdInv (k : Nat) (c : Cfg) : Prop := OrdK (Qc k c.code) c

theorem flyL_cons (p : Bool) (rs : List Nat) (e : Ev) (log : List Ev) (h : e.isRead = false) :
    flyL p rs (e :: log) = flyL p rs log := by
  unfold flyL; rw [lastL_cons _ _ h]

theorem flyL_sub_read (p : Bool) (rs : List Nat) (l : Str) (log : List Ev) :
    (flyL p rs (.read l :: log)).Sublist [l] := by
  unfold flyL; rw [lastL_cons_read]; split <;> simp

theorem inputLines_cons_read (l : Str) (log : List Ev) : inputLines (.read l :: log) = inputLines log := by
  rw [inputLines_cons]; simp [Ev.inputLine?]

theorem inputLines_cons' (e : Ev) (log : List Ev) : inputLines (e :: log) = inputLines log ++ inputLines [e] := by
  rw [inputLines_cons, inputLines_cons e []]; rfl

theorem OrdK.mono {K K' : List Str} {c : Cfg} (h : OrdK K c) (hk : K'.Sublist K) : OrdK K' c :=
  List.Sublist.trans ((List.Sublist.refl _).append (hk.append (List.Sublist.refl _))) h

theorem OrdK.quiet {K : List Str} {c X : Cfg} (h : OrdK K c) (hX : Quiet c X) : OrdK K X := by
  unfold OrdK; rw [hX.log, hX.active, hX.ready, hX.processing, hX.readers]; exact h

theorem OrdK.still {K : List Str} {c X : Cfg} (h : OrdK K c) (hX : Still c X) : OrdK K X := by
  unfold OrdK; rw [hX.log, hX.queues, hX.active, hX.processing, hX.readers]; exact h

/-- the reader thread delivers: the line read now is the one on its way -/
theorem OrdK.deliver {K : List Str} {c c' : Cfg} (h : OrdK K c) (hd : c.deliver = some c') : OrdK K c' := by
  obtain ⟨r, rs, hr, rfl⟩ := deliver_eq hd
  unfold OrdK at h ⊢
  simp only [enqueue_log, enqueue_A, enqueue_active, inputLines_cons_read, readLines_cons_read]
  rw [readyQ_enqueue _ _ _ rfl]
  have h' : (inputLines c.log ++ (K ++ readyQ c.L.queues c.L.active)).Sublist (readLines c.log) :=
    List.Sublist.trans ((List.Sublist.refl _).append ((List.Sublist.refl K).append (List.sublist_append_left _ _))) h
  have := h'.append (flyL_sub_read c.A.processing rs (c.A.stdin.headD []) c.log)
  simpa [List.append_assoc] using this

/-- logging an event: the `input` callback it reports, if any, moves from "about to happen" to "happened" -/
theorem OrdK.emit {K : List Str} {X : Cfg} {e : Ev} (h : OrdK (inputLines [e] ++ K) X) (P : Prog)
    (he : e.isRead = false) : OrdK K (X.emit P e) := by
  have h0 : OrdK K (emit0 X e) := by
    unfold OrdK at h ⊢
    simp only [emit0_log, emit0_L, emit0_A, readLines_cons _ _ he, flyL_cons _ _ _ _ he]
    rw [inputLines_cons', List.append_assoc]
    rwa [List.append_assoc] at h
  rcases emit_cases P X e with h1 | h1
  · rw [h1]; exact h0
  · exact h0.deliver h1

theorem OrdInv_deliver {k : Nat} {c c' : Cfg} (h : OrdInv k c) (hd : c.deliver = some c') : OrdInv k c' := by
  unfold OrdInv at *
  rw [Input.deliver_code hd]
  exact h.deliver hd

/-- the active level holds no successful signal: a freshly opened level, or a level uncovered by `close_loop` -/
theorem OrdK.of_ready_nil {K : List Str} {c c' : Cfg} (h : OrdK K c) (hlog : c'.log = c.log)
    (hq : readyQ c'.L.queues c'.L.active = []) (hp : c'.A.processing = c.A.processing)
    (hr : c'.A.readers = c.A.readers) : OrdK K c' := by
  unfold OrdK at h ⊢
  rw [hlog, hq, hp, hr]
  exact List.Sublist.trans
    ((List.Sublist.refl _).append ((List.Sublist.refl K).append (List.sublist_append_right _ _))) h

def OrdLe (k : Nat) (c' c : Cfg) : Prop :=
  c'.log = c.log ∧ (Qc k c'.code).Sublist (Qc k c.code) ∧
    readyQ c'.L.queues c'.L.active = readyQ c.L.queues c.L.active ∧
    c'.A.processing = c.A.processing ∧ c'.A.readers = c.A.readers

theorem OrdInv_of_Le {k : Nat} {c c' : Cfg} (h : OrdLe k c' c) (hf : OrdInv k c) : OrdInv k c' := by
  obtain ⟨h1, h2, h3, h4, h5⟩ := h
  unfold OrdInv OrdK at *
  rw [h1, h3, h4, h5]
  exact OrdK.mono (c := c) hf h2

theorem OrdLe_trans {k : Nat} {a b c : Cfg} (h1 : OrdLe k a b) (h2 : OrdLe k b c) : OrdLe k a c :=
  ⟨h1.1.trans h2.1, h1.2.1.trans h2.2.1, h1.2.2.1.trans h2.2.2.1, h1.2.2.2.1.trans h2.2.2.2.1,
    h1.2.2.2.2.trans h2.2.2.2.2⟩

theorem OrdLe_of_silent (k : Nat) {c c' : Cfg} (h : Silent c c') : OrdLe k c' c :=
  ⟨h.log, Qc_carriers h.code, by rw [h.active, h.ready], h.processing, h.readers⟩

/-- a successful `InputReadySignal` is taken only when the code carries no other line: under `NoReadyReentry` none
is on its way to its handler, and lines past the handler are at the head of the code only -/
theorem OrdInv_pop {k : Nat} (c1 : Cfg) (e : QEntry) (es : List QEntry) (new : List Instr)
    (he : c1.L.activeQ.entries = e :: es) (hnew : new.all Instr.inert = true)
    (hN : NoReadyReentry (.take c1.L.active e.2.2 :: c1.tr) ∨ nPre k c1.code = 0)
    (hD : DepthOK k c1) (hP : postFree c1.code) (h : OrdInv k c1) :
    OrdInv k (push (c1.pop e es) (.processSignal e.2.2 :: new)) := by
  unfold OrdInv OrdK at h ⊢
  simp only [push_log, pop_log, push_code, pop_code, List.cons_append, Qc_cons, Qc_append, Qc_of_inert hnew, push_L,
    push_A, pop_A, List.nil_append]
  have hq : readyQ (c1.pop e es).L.queues (c1.pop e es).L.active = readyL es := readyQ_pop he
  rw [hq]
  rw [readyQ_of_activeQ he] at h
  by_cases hs : e.2.2.okReady = true
  · have : Qc k c1.code = [] := by
      rcases hN with hN | hN
      · have h0 := readyDepth_zero_of_take hN hs
        unfold DepthOK at hD
        exact Qc_eq_nil (by omega) hP
      · exact Qc_eq_nil hN hP
    simp only [hs, if_true, this, List.nil_append] at h
    simpa [Instr.lines, Instr.pre, Instr.post, hs, this, List.append_assoc] using h
  · simp only [hs] at h
    simpa [Instr.lines, Instr.pre, Instr.post, hs] using h

theorem enqueueAll_readyQ (sigs : List Sig) (c : Cfg) (a : Nat) (hs : ∀ s ∈ sigs, s.okReady = false) :
    readyQ (enqueueAll c sigs).L.queues a = readyQ c.L.queues a := by
  induction sigs generalizing c with
  | nil => rfl
  | cons s ss ih =>
    rw [enqueueAll_cons, ih _ (fun x hx => hs x (List.mem_cons_of_mem _ hx)),
      readyQ_enqueue _ _ _ (hs s List.mem_cons_self)]

theorem failSigs_not_ok (reqs : List Request) (ts : List Nat) (sid : Nat) :
    ∀ x ∈ failSigs reqs ts sid, x.okReady = false := by
  intro x hx
  have := failSigs_all reqs ts sid x hx
  simp [Sig.okReady, this.2.2.1]

theorem getLast_of_mem_not_dropLast {l : List Nat} {x : Nat} (h : x ∈ l) (h' : x ∉ l.dropLast) :
    l.getLast? = some x := by
  cases hl : l.getLast? with
  | none => rw [List.getLast?_eq_none_iff] at hl; subst hl; cases h
  | some y =>
    obtain ⟨ys, rfl⟩ := List.getLast?_eq_some_iff.mp hl
    simp only [List.dropLast_concat] at h'
    simp only [List.mem_append, List.mem_singleton] at h
    rcases h with h | h
    · exact absurd h h'
    · rw [h]

theorem route_active_of_covered {c : Cfg} {s : Sig} (hW : WF c.view) (hlev : levelsOf c.tr = c.L.levels)
    (hs : s.okReady = true) (hN : coveredFree (.enq (c.L.route s.src) s :: c.tr)) : c.L.route s.src = c.L.active := by
  rcases route_mem c.view s.src with hm | hm
  · have hm' : c.L.route s.src ∈ c.L.levels := hm
    have hnd : c.L.route s.src ∉ c.L.levels.dropLast := by
      intro hd
      have := hN (c.L.route s.src) (by simpa [levelsOf, hlev] using hd)
      simp [readyPending, hs] at this
    have hl := getLast_of_mem_not_dropLast hm' hnd
    rcases hW.top with ht | ht
    · have ht' : c.L.levels.getLast? = some c.L.active := ht
      rw [hl] at ht'; exact Option.some.inj ht'
    · have ht' : c.L.levels = [] := ht
      rw [ht'] at hm'; cases hm'
  · exact hm

theorem getD_mem_of_lt {l : List EQueue} {i : Nat} (h : i < l.length) : l.getD i {} ∈ l := by
  rw [List.getD_eq_getElem?_getD, List.getElem?_eq_getElem h]
  exact List.getElem_mem _

/-- The line on its way (the one read last, since only one is in flight) becomes the last successful signal of the
active queue: under `NoReadyCovered` the signal is routed there, and it is put behind the others. -/
theorem OrdK.handoff {K : List Str} {c c' : Cfg} {s : Sig} {rs : List Nat} {r : Nat} (h : OrdK K c)
    (hrd : c.A.readers = []) (hpr : c.A.processing = true) (hlast : lastL c.log = some s.line)
    (hL : queuesL (lastL c.log) c.L.queues) (hW : WF c.view) (hlev : levelsOf c.tr = c.L.levels)
    (hlog : c'.log = c.log) (hA : c'.A = { c.A with inputStack := [], processing := false })
    (hLq : c'.L = (enqueueAll c (handoffSigs c.A.reqs rs r s.line (c.nextSid + 1))).L)
    (hT : c'.tr = (enqueueAll c (handoffSigs c.A.reqs rs r s.line (c.nextSid + 1))).tr)
    (hN : NoReadyCovered c'.tr) : OrdK K c' := by
  have hfly : flyL c.A.processing c.A.readers c.log = [s.line] := by simp [flyL, hpr, hrd, hlast]
  have hokr : (okSig c.A.reqs r s.line (c.nextSid + 1)).okReady = true := rfl
  have hq : readyQ c'.L.queues c'.L.active =
      readyQ (c.enqueue (okSig c.A.reqs r s.line (c.nextSid + 1))).L.queues c.L.active := by
    rw [hLq]
    simp only [handoffSigs, enqueueAll_cons, enqueueAll_active, enqueue_active]
    exact enqueueAll_readyQ _ _ _ (failSigs_not_ok _ _ _)
  unfold OrdK at h ⊢
  rw [hlog, hq, hA]
  have e2 : flyL false c.A.readers c.log = [] := by simp [flyL]
  simp only [e2, List.append_nil]
  rw [hfly] at h
  by_cases hf : c.L.forceQuit = true
  · rw [enqueue_queues, if_pos hf]
    refine List.Sublist.trans ?_ h
    exact (List.Sublist.refl _).append ((List.Sublist.refl _).append (List.sublist_append_left _ _))
  · have hf' : c.L.forceQuit = false := by simpa using hf
    have hcov : coveredFree (.enq (c.L.route (okSig c.A.reqs r s.line (c.nextSid + 1)).src)
        (okSig c.A.reqs r s.line (c.nextSid + 1)) :: c.tr) := by
      rw [hT] at hN
      simp only [handoffSigs, enqueueAll_tr, List.map_cons, List.reverse_cons, List.append_assoc,
        List.singleton_append] at hN
      have := noReadyCovered_suffix hN
      have h0 := this.1
      simpa [enqEvent, hf'] using h0
    have hroute := route_active_of_covered hW hlev hokr hcov
    rw [enqueue_queues, if_neg hf, hroute, readyQ_listSet, if_pos ⟨rfl, hW.active_lt⟩]
    have hS : (c.L.queues.getD c.L.active {}).Sorted := hW.sorted c.L.active
    have hprio : ∀ e ∈ (c.L.queues.getD c.L.active {}).entries, e.2.2.okReady = true → e.2.2.prio = 0 := by
      intro e he ho
      have hm : c.L.queues.getD c.L.active {} ∈ c.L.queues := getD_mem_of_lt hW.active_lt
      exact (hL _ hm e he).2 (okReady_cls ho)
    rw [readyL_put hS hokr rfl hprio]
    exact h

macro "ord_close" hf:ident : tactic => `(tactic|
  (simp [OrdInv, ordL, Instr.lines, Instr.pre, Instr.post, readyQ_enqueue, Sig.okReady, Cfg.newSig, Qc_acts,
      Cfg.write, Cfg.trace] at $hf:ident ⊢ <;> exact $hf))

theorem ord_step {c0 : Cfg} (P : Prog) (c : Cfg) (hNF : P.NoForge) (hc : cleanCode c.code) (hH : HandlersOK c) (hR : ReadyHandlers c0 c)
    (hD : DepthOK (k0 c0) c) (hPT : PostTop c)
    (hcov : ∀ q ∈ c.L.levels.dropLast, ∀ s ∈ (c.queue q).sigs, s.okReady = false)
    (hI : InputInv c0 c) (hL : LastInv c) (hW : WF c.view) (hlev : levelsOf c.tr = c.L.levels)
    (hN1 : NoReadyCovered (final (step P c)).tr)
    (hN2 : NoReadyReentry (final (step P c)).tr ∨ TakeQuiet (k0 c0) c)
    (hf : OrdInv (k0 c0) c) : OrdInv (k0 c0) (final (step P c)) := by
  revert hN1 hN2
  obtain ⟨_, hfin⟩ | ⟨ins, rest, c', hcode, hfin, hm⟩ := Input.step_cases P c <;> rw [hfin] <;> intro hN1 hN2
  · exact hf
  have hcl : ins.clean = true := hc ins (by rw [hcode]; exact List.mem_cons_self)
  have hf' : OrdK (ins.lines (k0 c0) ++ Qc (k0 c0) rest) { c with code := rest } := by
    unfold OrdInv at hf; rwa [hcode, Qc_cons] at hf
  have hb : OrdInv (k0 c0) { c with code := rest } := hf'.mono (List.sublist_append_right _ _)
  have hDb : DepthOK (k0 c0) { c with code := rest } := by
    unfold DepthOK at hD ⊢; rw [hcode, nPre_cons] at hD; exact Nat.le_trans (Nat.le_add_left _ _) hD
  have hP : postFree rest := by unfold PostTop at hPT; rwa [hcode] at hPT
  have silent {c' : Cfg} (hs : Silent { c with code := rest } c') : OrdInv (k0 c0) c' :=
    OrdInv_of_Le (OrdLe_of_silent _ hs) hb
  have quiet {X : Cfg} (hX : Quiet c X) (hc' : X.code = rest) : OrdInv (k0 c0) X ∧ DepthOK (k0 c0) X :=
    have hs := hX.silent (hc' ▸ carriers_sublist _)
    ⟨silent hs, hDb.silent hs⟩
  have hbK : OrdK (Qc (k0 c0) rest) c := hb
  cases hm with
  | calm new rest' hX hc' hsub hn => exact silent (hX.silent (hc' ▸ carriers_pushed hn hsub))
  | @pass X new t hX hc' hp =>
    show OrdK (Qc (k0 c0) (new ++ X.code)) X
    rw [hc', Qc_append, hp.lines hH hR]
    exact OrdK.quiet (c := c) hf' hX
  | @enq X Y s new hX hc' hs hn =>
    have hne := hs.not_input hcl
    cases hs with
    | act =>
      refine silent (((hX.enqueue hne).view).silent ?_)
      rw [push_code, enqueue_code, hc']; exact carriers_pushed hn (.refl _)
    | newLoop s =>
      have hok : s.okReady = false := okReady_of_cls fun h => by rw [h] at hne; cases hne
      have hcode' : (push (X.opened.enqueue s) new).code = new ++ rest := by
        rw [push_code, enqueue_code]; exact congrArg (new ++ ·) hc'
      unfold OrdInv
      rw [hcode', Qc_append, Qc_of_inert hn, List.nil_append]
      refine OrdK.of_ready_nil (c := X) (hbK.quiet hX) (by simp [Cfg.opened]) ?_ (by simp [Cfg.opened])
        (by simp [Cfg.opened])
      simp only [push_L, enqueue_active, readyQ_enqueue _ _ _ hok]
      exact readyQ_append_empty_new _
  | @emit X e new hX hc' hl hn =>
    have : OrdK (Qc (k0 c0) rest) (X.emit P e) :=
      OrdK.emit (OrdK.quiet (c := c) (hf'.mono ((hl.lines _).append (.refl _))) hX) P hl.isRead
    unfold OrdInv
    rw [push_code, Qc_append, Qc_of_inert (hn hNF), List.nil_append, emit_code, hc']
    exact this
  | idle hX hc' hd => exact OrdInv_deliver (quiet hX hc').1 hd
  | @pop X Y e es more hi hX hc' hd he hm =>
    have hcY : Y.code = rest := hd.code.trans hc'
    have hY : OrdInv (k0 c0) Y ∧ DepthOK (k0 c0) Y := by
      rcases hd with rfl | hd
      · exact quiet hX hc'
      · exact ⟨OrdInv_deliver (quiet hX hc').1 hd, (quiet hX hc').2.deliver hd⟩
    exact OrdInv_pop Y e es more he hm (hN2.imp id fun h => by rw [hcY]; exact h _ _ hcode hi) hY.2 (hcY ▸ hP) hY.1
  | closeLevel q a _ ha =>
    refine hb.of_ready_nil rfl ?_ rfl rfl
    apply readyL_eq_nil
    intro e he
    exact hcov a (List.mem_of_getLast? ha) e.2.2 (List.mem_map.mpr ⟨e, he, rfl⟩)
  | @request X ih src text new _ hX hc' hn =>
    rcases request_cases ih src text (hX.silent (hc' ▸ carriers_pushed hn (.refl _))) with hs | ⟨c1, hs, hr⟩
    · exact silent hs
    · have h1 := silent hs
      generalize final (startRequest X ih src text) = c2 at hr ⊢
      unfold OrdInv OrdK at h1 ⊢
      rw [hr.code, hr.log, hr.L]
      have e1 : flyL c1.A.processing c1.A.readers c1.log = [] := by simp [flyL, hr.idle]
      have e2 : flyL c2.A.processing c2.A.readers c1.log = [] := by simp [flyL, hr.readers]
      rw [e2]; rw [e1] at h1; exact h1
  | handoff s rs r hi _ hA hc' hlog hLq hT =>
    subst hi
    have hfl := hI.one_flight
    unfold inFlight at hfl
    rw [hcode] at hfl
    simp only [irCode_cons, Instr.irPending] at hfl
    have hpr : c.A.processing = true := by
      apply hI.flight_processing
      unfold inFlight
      rw [hcode]
      simp only [irCode_cons, Instr.irPending]
      omega
    have hlast : lastL c.log = some s.line := by
      have := hL.code
      rw [hcode, codeL_cons] at this
      exact this.1 s rfl
    have hrd : c.A.readers = [] := List.length_eq_zero_iff.mp (by omega)
    unfold OrdInv
    rw [hc']
    exact hbK.handoff hrd hpr hlast hL.q hW hlev hlog hA hLq hT hN1
  | ready n s new hi hih hX hc' hnew =>
    subst hi
    unfold OrdInv
    rw [hc']
    refine OrdK.still (c := c) (hf'.mono ?_) hX
    rcases hnew with rfl | ⟨hok, scr, rfl⟩
    · exact List.sublist_append_right _ _
    · have hcls : s.cls = .inputReady := by simpa [Instr.clean] using hcl
      simp [Instr.lines, Instr.pre, Instr.post, Sig.okReady, hok, hih, hcls]

end Simpleline.InputOrder
