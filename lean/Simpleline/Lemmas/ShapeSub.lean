/-
  The "blocks" invariant: the open levels are, innermost first, a subsequence of the activations on
  the call stack, and while `_run_loop` is false the innermost activation, unless it has just left its
  loop (`headIsRestore`), serves no open level.
  Needs only: `execute_new_loop` is never called while `_run_loop` is false (`WFOpen`).
-/
import Simpleline.Lemmas.ShapeLevels

namespace Simpleline

def SubInv' (v : SV) : Prop :=
  v.levels.reverse.Sublist (markersA v.code) ∧
  (v.runLoop = false → headIsRestore v.code = false → ∀ q, (markersA v.code).head? = some q → q ∉ v.levels)

def SubInv (v : SV) : Prop := overCode v.code = true ∨ SubInv' v

namespace Shape

theorem sublist_of_cons_not_mem {α} {l m : List α} {a : α} (h : l.Sublist (a :: m)) (ha : a ∉ l) : l.Sublist m := by
  cases h with
  | cons _ h => exact h
  | cons_cons _ h => exact absurd (List.mem_cons_self ..) ha

theorem sorted_head_max {M : List Nat} (hs : M.Pairwise (· > ·)) {q t : Nat} (hq : M.head? = some q) (ht : t ∈ M) :
    t ≤ q := by
  cases M with
  | nil => cases ht
  | cons a M =>
    cases hq
    rcases List.mem_cons.1 ht with rfl | ht
    · exact Nat.le_refl _
    · exact Nat.le_of_lt ((List.pairwise_cons.1 hs).1 t ht)

theorem sub_step {P : Prog} {v v' : SV} {evs : List Tr} (hb : Basic v) (hi : SubInv v) (hs : SStepE P v evs v')
    (hev : evs.all wfOpenEv = true) : SubInv v' := by
  rcases hi with ho | hi
  · exact .inl (over_step ho hs)
  have hsub : ∀ {h : Instr} {rest : List Instr}, v.code = h :: rest → v.levels.reverse.Sublist (markersA (h :: rest)) :=
    fun hc => hc ▸ hi.1
  cases sstepE_level hb.chained hs with
  | over ho _ => exact .inl ho
  | keep hm hh hl hr _ _ _ _ =>
    right
    unfold SubInv'
    rw [hm, hh, hl, hr]
    exact hi
  | @mainExit q rest hc hr _ hv =>
    subst hv
    have hq : q ∉ v.levels := hi.2 hr (by rw [hc]; rfl) q (by rw [hc]; rfl)
    exact .inr ⟨sublist_of_cons_not_mem (hsub hc) (mt List.mem_reverse.1 hq), fun _ h => nomatch h⟩
  | restoreFQ _ hf _ hv =>
    subst hv
    have hl : v.levels = [] := (hb.fq hf).1
    exact .inr ⟨by show v.levels.reverse.Sublist _; rw [hl]; exact List.nil_sublist _,
      fun _ _ q _ => by show q ∉ v.levels; rw [hl]; exact List.not_mem_nil⟩
  | restore hc _ _ hv => subst hv; exact .inr ⟨hsub hc, fun h => nomatch h⟩
  | apprun hc _ hv => subst hv; have := hsub hc; exact .inr ⟨this, fun h => nomatch h⟩
  | «open» hc _ he hv =>
    subst hv he
    have hrl : v.runLoop = true := by
      cases hr : v.runLoop with
      | true => rfl
      | false => rw [hr] at hev; cases hev
    refine .inr ⟨?_, fun h => absurd (hrl ▸ h) nofun⟩
    show (v.levels ++ [v.nq]).reverse.Sublist (v.nq :: markersA _)
    rw [List.reverse_append]
    exact (hsub hc).cons_cons _
  | @pop q a rest hc hq _ _ hv =>
    subst hv
    have hm : markersA rest = markersA v.code := by rw [hc]; rfl
    refine .inr ⟨hm ▸ (List.dropLast_sublist _).reverse.trans hi.1, fun _ _ x hx hmem => ?_⟩
    rw [show markersA _ = markersA v.code from hm] at hx
    cases hrl : v.runLoop with
    | false => exact hi.2 hrl (by rw [hc]; rfl) x hx (List.dropLast_subset _ hmem)
    | true =>
      -- `x`, the innermost activation, is above the level `q` that is popped, and open beneath it
      have h1 : q ≤ x :=
        sorted_head_max hb.msorted hx (hi.1.subset (List.mem_reverse.2 (List.mem_of_getLast? hq)))
      have h2 : x < q := getLast?_dropLast_lt hb.lsorted hq x hmem
      omega
  | forceQuit _ _ hv => subst hv; exact .inr ⟨List.nil_sublist _, fun _ _ q _ => List.not_mem_nil⟩

theorem sub_init {c0 : Cfg} (h0 : Started c0) : SubInv c0.sv := by
  obtain ⟨init, handlers, quitCb, stdin, rfl⟩ := h0
  refine .inr ⟨?_, fun h => nomatch h⟩
  show [0].reverse.Sublist (markersA (init.map Instr.act ++ [.apprun]))
  rw [markersA_init]; exact List.Sublist.refl _

theorem all_shapeTr (f : Tr → Bool) (hf : ∀ t, f t = false → t.shape = true) (l : List Tr) :
    (shapeTr l).all f = l.all f := by
  induction l with
  | nil => rfl
  | cons t l ih =>
    rw [shapeTr_cons]
    split
    · simp only [List.all_cons, ih]
    · rename_i hs
      have : f t = true := by
        cases hft : f t with
        | true => rfl
        | false => exact absurd (hf t hft) hs
      simp only [List.all_cons, this, ih, Bool.true_and]

theorem wfOpenEv_shape (t : Tr) (h : wfOpenEv t = false) : t.shape = true := by
  cases t <;> first | rfl | contradiction

theorem wfCloseEv_shape (t : Tr) (h : wfCloseEv t = false) : t.shape = true := by
  cases t <;> first | rfl | contradiction

theorem wfOpen_of_wfClose {t : Tr} (h : wfCloseEv t = true) : wfOpenEv t = true := by
  cases t <;> first | rfl | skip
  all_goals (rename_i q b; cases b <;> first | rfl | (cases h; done))

theorem WFOpen.of_WFClose {c : Cfg} (h : WFClose c) : WFOpen c := by
  unfold WFClose at h; unfold WFOpen
  rw [List.all_eq_true] at h ⊢
  exact fun t ht => wfOpen_of_wfClose (h t ht)

theorem ev_all_step {P : Prog} {v v' : SV} {evs : List Tr} {f : Tr → Bool} (hs : SStepE P v evs v')
    (h : v'.ev.all f = true) : evs.all f = true ∧ v.ev.all f = true := by
  rwa [SStepE.ev_eq hs, List.all_append, Bool.and_eq_true] at h

theorem reach_sub {P : Prog} {c0 c : Cfg} (h0 : Started c0) (h : Reach P c0 c) (hw : WFOpen c) : SubInv c.sv :=
  reach_sv_inv (H := fun v => v.ev.all wfOpenEv = true) h0 h (fun hs hv => (ev_all_step hs hv).2) (sub_init h0)
    (fun hb hi hs hv => sub_step hb hi hs (ev_all_step hs hv).1)
    ((all_shapeTr _ wfOpenEv_shape c.tr).trans hw)

end Shape

end Simpleline
