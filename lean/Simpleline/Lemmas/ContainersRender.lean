/-
  What `render` of a list container computes (C13): a successful `_render_all_items` left room for every
  item and rendered every item and label at its width; a successful `render` is `drawColumns` of those
  (`ListShape`).
-/
import Simpleline.Lemmas.WidgetsExcept
import Simpleline.Lemmas.Grid
import Simpleline.Spec.LayoutOKSpec

namespace Simpleline

def kpLabelLen (kp : Option KeyPat) (j : Nat) : Nat :=
  match kp with
  | some k => (k.label j).length
  | none => 0

theorem renderListItems_cons_ok {cc : CharClass} {used : Int} {kp : Option KeyPat} {i : Nat}
    {it : Wd} {its : List Wd} {nws : List NumW} {items' : List Wd}
    (h : renderListItems cc used kp i (it :: its) = .ok (nws, items')) :
    0 < used - kpLabelLen kp i ∧
    ∃ it' nws' its', it.render cc (used - kpLabelLen kp i) = .ok it' ∧
      renderListItems cc used kp (i + 1) its = .ok (nws', its') ∧ items' = it' :: its' ∧
      ∀ k, kp = some k → ∃ st, renderTextSt cc {} (k.label i) (k.label i).length = .ok st ∧
        nws = ⟨st, k.label i⟩ :: nws' := by
  rw [renderListItems] at h
  by_cases hu : used ≤ 0
  · rw [if_pos hu] at h; cases h
  rw [if_neg hu] at h
  cases kp with
  | none =>
    obtain ⟨_, hp, h⟩ := (bind_ok_iff _ _ _).1 h
    cases hp
    obtain ⟨it', h1, h⟩ := (bind_ok_iff _ _ _).1 h
    obtain ⟨⟨nws', its'⟩, h2, h3⟩ := (bind_ok_iff _ _ _).1 h
    cases h3
    rw [show used - ((kpLabelLen none i : Nat) : Int) = used from Int.sub_zero used]
    exact ⟨Int.lt_of_not_ge hu, it', nws', its', h1, h2, rfl, fun k hk => by cases hk⟩
  | some k =>
    obtain ⟨st, hst, h⟩ := (bind_ok_iff _ _ _).1 h
    by_cases hr : used - ((k.label i).length : Int) ≤ 0
    · rw [if_pos hr] at h; cases h
    rw [if_neg hr] at h
    obtain ⟨_, hp, h⟩ := (bind_ok_iff _ _ _).1 h
    cases hp
    obtain ⟨it', h1, h⟩ := (bind_ok_iff _ _ _).1 h
    obtain ⟨⟨nws', its'⟩, h2, h3⟩ := (bind_ok_iff _ _ _).1 h
    cases h3
    exact ⟨Int.lt_of_not_ge hr, it', nws', its', h1, h2, rfl, fun k' hk => by cases hk; exact ⟨st, hst, rfl⟩⟩

theorem renderListItems_ok (cc : CharClass) (used : Int) (kp : Option KeyPat) :
    ∀ (items : List Wd) (i : Nat) (numw : List NumW) (items' : List Wd),
      renderListItems cc used kp i items = .ok (numw, items') →
      items'.length = items.length ∧
      (∀ j, (hj : j < items.length) → (hj' : j < items'.length) →
        0 < used - kpLabelLen kp (i + j) ∧
        items[j].render cc (used - kpLabelLen kp (i + j)) = .ok items'[j]) ∧
      ∀ k, kp = some k → numw.length = items.length ∧
        ∀ j, (hj : j < numw.length) → ∃ s,
          renderTextSt cc {} (k.label (i + j)) (k.label (i + j)).length = .ok s ∧
          numw[j] = ⟨s, k.label (i + j)⟩ := by
  intro items
  induction items with
  | nil =>
    intro i numw items' h
    simp only [renderListItems, pure_ok_iff, Prod.mk.injEq] at h
    obtain ⟨rfl, rfl⟩ := h
    exact ⟨rfl, fun j hj => absurd hj (Nat.not_lt_zero _),
      fun k _ => ⟨rfl, fun j hj => absurd hj (Nat.not_lt_zero _)⟩⟩
  | cons it its ih =>
    intro i numw items' h
    obtain ⟨hroom, it', nws', its', h1, h2, rfl, hk⟩ := renderListItems_cons_ok h
    obtain ⟨l1, l2, l3⟩ := ih (i + 1) nws' its' h2
    refine ⟨congrArg (· + 1) l1, fun j hj hj' => ?_, fun k hkp => ?_⟩
    · cases j with
      | zero => exact ⟨hroom, h1⟩
      | succ j =>
        have := l2 j (Nat.lt_of_succ_lt_succ hj) (Nat.lt_of_succ_lt_succ hj')
        rwa [Nat.add_right_comm] at this
    · obtain ⟨st, hst, rfl⟩ := hk k hkp
      obtain ⟨m1, m2⟩ := l3 k hkp
      refine ⟨congrArg (· + 1) m1, fun j hj => ?_⟩
      cases j with
      | zero => exact ⟨st, hst, rfl⟩
      | succ j =>
        have := m2 j (Nat.lt_of_succ_lt_succ hj)
        rwa [Nat.add_right_comm] at this

theorem drawColumns_all_nil (used : Int) (spacing : Nat) (labels : List (Option NumW)) (grids : List Grid)
    (rowH : Nat → Nat) :
    ∀ (cols : List (List Nat)) (s : WSt) (colPos : Nat), (∀ ids ∈ cols, ids = []) →
      drawColumns used spacing labels grids rowH cols s colPos = s := by
  intro cols
  induction cols with
  | nil => intro s colPos _; rfl
  | cons ids cols ih =>
    intro s colPos h
    have h0 : ids = [] := h ids (List.mem_cons_self ..)
    subst h0
    simp only [drawColumns, drawColumn]
    exact ih _ _ (fun ids hi => h ids (List.mem_cons_of_mem _ hi))

theorem orderedMap_zero_all_nil (cm : Bool) (columns : Nat) : ∀ ids ∈ orderedMap cm columns 0, ids = [] := by
  intro ids h
  simp only [orderedMap, List.range_zero, List.filter_nil, List.mem_map] at h
  obtain ⟨_, _, h⟩ := h
  exact h.symm

theorem listHeights_map_lines (items' : List Wd) (labels : List (Option NumW)) :
    listHeights (items'.map Wd.lines) labels =
      ((items'.zip labels).map fun (it, l) =>
        max it.lines.length (match l with | some nw => nw.st.buf.length | none => 0)) := by
  rw [listHeights, List.zip_map_left, List.map_map]
  rfl

section shape

variable {cc : CharClass} {st : WSt} {cm : Bool} {columns : Nat} {cw : Option Int} {spacing : Nat}
  {kp : Option KeyPat} {u : Option Int} {nw : List NumW} {items : List Wd} {w : Int} {r : Wd}
  {items' : List Wd} {labels : List (Option NumW)}

/-- `_render_all_items` went through at the columns width in use, and the object is left with the drawing of
what it rendered -/
theorem render_list_ok (h : (Wd.list st cm columns cw spacing kp u nw items).render cc w = .ok r) :
    (items ≠ [] → 1 ≤ columns) ∧
    ∃ numw items' labels,
      renderListItems cc (usedWidth cw columns spacing w) kp 0 items = .ok (numw, items') ∧
      (∀ k, kp = some k → labels = numw.map some) ∧ (kp = none → labels = items'.map fun _ => none) ∧
      r = .list (drawColumns (usedWidth cw columns spacing w) spacing labels (items'.map Wd.lines)
            (rowHeight cm columns (listHeights (items'.map Wd.lines) labels))
            (orderedMap cm columns items'.length) {} 0)
          cm columns cw spacing kp (some (usedWidth cw columns spacing w)) numw items' := by
  simp only [Wd.render] at h
  split at h
  · simp only [bind_ok_iff, throw_ok_iff, false_and, exists_false] at h
  · rename_i hz
    simp only [bind_ok_iff, pure_ok_iff] at h
    obtain ⟨⟨numw, items'⟩, h, rfl⟩ := h
    refine ⟨fun hne => Nat.pos_of_ne_zero fun h0 => hz ⟨h0, .inr (.inr hne)⟩, numw, items',
      (match (generalizing := false) kp with | some _ => numw.map some | none => items'.map fun _ => none),
      h, fun k hk => by subst hk; rfl, fun hk => by subst hk; rfl, ?_⟩
    rw [listHeights_map_lines]
    rfl

theorem render_list_nil (h : (Wd.list st cm columns cw spacing kp u nw []).render cc w = .ok r) :
    r.lines = [] := by
  obtain ⟨_, numw, items', labels, hr, _, _, rfl⟩ := render_list_ok h
  simp only [renderListItems, pure_ok_iff, Prod.mk.injEq] at hr
  obtain ⟨rfl, rfl⟩ := hr
  exact congrArg WSt.buf (drawColumns_all_nil _ _ _ _ _ _ {} 0 (orderedMap_zero_all_nil cm columns))

theorem list_ok_room (hne : items ≠ [])
    (h : (Wd.list st cm columns cw spacing kp u nw items).render cc w = .ok r) :
    1 ≤ columns ∧ 0 < usedWidth cw columns spacing w ∧
    ∀ k, kp = some k → ∀ i, i < items.length →
      0 < usedWidth cw columns spacing w - (k.label i).length := by
  obtain ⟨hc, numw, items', _, hr, _⟩ := render_list_ok h
  obtain ⟨l1, l2, _⟩ := renderListItems_ok _ _ _ _ _ _ _ hr
  have room : ∀ i, i < items.length → 0 < usedWidth cw columns spacing w - kpLabelLen kp i :=
    fun i hi => Nat.zero_add i ▸ (l2 i hi (l1 ▸ hi)).1
  refine ⟨hc hne, ?_, fun k hk i hi => by subst hk; exact room i hi⟩
  have := room 0 (List.length_pos_iff.2 hne)
  omega

theorem shape_of_render (h : (Wd.list st cm columns cw spacing kp u nw items).render cc w = .ok r) :
    ∃ (items' : List Wd) (labels : List (Option NumW)),
      ListShape cc cm columns cw spacing kp items w r items' labels := by
  obtain ⟨_, numw, items', labels, hr, hsome, hnone, rfl⟩ := render_list_ok h
  obtain ⟨l1, l2, l3⟩ := renderListItems_ok _ _ _ _ _ _ _ hr
  refine ⟨items', labels, ?_⟩
  cases kp with
  | none =>
    obtain rfl := hnone rfl
    have hnone : ∀ i, (items'.map fun _ => (none : Option NumW)).getD i none = none := fun i => by
      rw [List.getD_eq_getElem?_getD, List.getElem?_map]; cases items'[i]? <;> rfl
    refine ⟨l1, by rw [List.length_map, l1], fun i hi hi' => ?_, fun i _ => hnone i, rfl⟩
    have := (l2 i hi hi').2
    rwa [Nat.zero_add, show kpLabelLen none i = labelLen _ i by rw [labelLen, hnone]; rfl] at this
  | some k =>
    obtain rfl := hsome k rfl
    obtain ⟨m1, m2⟩ := l3 k rfl
    have hsome : ∀ i, i < items.length → ∃ s,
        renderTextSt cc {} (k.label i) (k.label i).length = .ok s ∧
        (numw.map some).getD i none = some ⟨s, k.label i⟩ := fun i hi => by
      obtain ⟨s, hs, hn⟩ := m2 i (m1 ▸ hi)
      rw [Nat.zero_add] at hs hn
      refine ⟨s, hs, ?_⟩
      rw [getD_eq_getElem _ _ (by rw [List.length_map, m1]; exact hi), List.getElem_map, hn]
    refine ⟨l1, by rw [List.length_map, m1], fun i hi hi' => ?_, hsome, rfl⟩
    obtain ⟨s, _, hs⟩ := hsome i hi
    have := (l2 i hi hi').2
    rwa [Nat.zero_add, show kpLabelLen (some k) i = labelLen _ i by rw [labelLen, hs]; rfl] at this

theorem shape_grids_length (sh : ListShape cc cm columns cw spacing kp items w r items' labels) :
    (items'.map Wd.lines).length = items.length := by
  rw [List.length_map, sh.len_items]

theorem shape_labelLen (sh : ListShape cc cm columns cw spacing kp items w r items' labels)
    (i : Nat) (hi : i < items.length) : labelLen labels i = kpLabelLen kp i := by
  have h := sh.label_render i hi
  unfold labelLen kpLabelLen
  cases kp with
  | none => rw [show labels.getD i none = none from h]
  | some k =>
    obtain ⟨s, _, hs⟩ := show ∃ s, _ ∧ labels.getD i none = some ⟨s, k.label i⟩ from h
    rw [hs]

theorem shape_labelBuf_none (sh : ListShape cc cm columns cw spacing none items w r items' labels)
    (i : Nat) (hi : i < items.length) : labelBuf labels i = [] := by
  rw [labelBuf, show labels.getD i none = none from sh.label_render i hi]

theorem shape_labelBuf_some {k : KeyPat}
    (sh : ListShape cc cm columns cw spacing (some k) items w r items' labels)
    (i : Nat) (hi : i < items.length) :
    ∃ s, renderTextSt cc {} (k.label i) (k.label i).length = .ok s ∧ labelBuf labels i = s.buf ∧
      labelLen labels i = (k.label i).length := by
  obtain ⟨s, h1, hs⟩ := show ∃ s, _ ∧ labels.getD i none = some ⟨s, k.label i⟩ from sh.label_render i hi
  exact ⟨s, h1, by rw [labelBuf, hs], by rw [labelLen, hs]⟩

end shape

end Simpleline
