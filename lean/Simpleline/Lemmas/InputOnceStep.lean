/-
  `OnceOK` is preserved by every transition (C06; needs `NoForge` and `UserHandlers`).
-/
import Simpleline.Lemmas.InputOnce

namespace Simpleline.Input

/-- from `c` to `c'` the potential for `l` grew by no more than the number of times `l` was read -/
def Ole (l : Str) (k : Nat) (c' c : Cfg) : Prop :=
  once l k c' + readCount l c.log ≤ once l k c + readCount l c'.log

theorem Ole_trans {l : Str} {k : Nat} {a b c : Cfg} (h1 : Ole l k a b) (h2 : Ole l k b c) : Ole l k a c := by
  unfold Ole at *; omega

theorem OnceOK_of_Ole {l : Str} {k : Nat} {c c' : Cfg} (h : Ole l k c' c) (hf : OnceOK l k c) : OnceOK l k c' := by
  unfold OnceOK Ole at *; omega

theorem Ole_calm {l : Str} {k : Nat} {c X : Cfg} (h : Calm c X) (hc : potCode l k X.code ≤ potCode l k c.code) :
    Ole l k X c := by
  have := h.countP (p := lineIs l) fun _ => lineIs_of_not_input
  unfold Ole once; rw [h.log]; omega

/-- a delivered line is read once and becomes one pending signal -/
theorem Ole_delivers {l : Str} {k : Nat} {X Y : Cfg} (h : Delivers X Y) : Ole l k Y X := by
  rcases h with rfl | h
  · exact Nat.le_refl _
  · obtain ⟨r, s, _, _, hline, hle⟩ := countP_deliver_le (lineIs l) h
    have : (if lineIs l s then 1 else 0) ≤ (if X.A.stdin.headD [] = l then 1 else 0) := by
      rw [← hline]; unfold lineIs; split <;> simp_all
    unfold Ole once
    rw [deliver_log h, deliver_code h, readCount_cons_read, inputCount_cons_read]
    omega

theorem Ole_push {l : Str} {k : Nat} (X : Cfg) {is : List Instr} (h : potCode l k is = 0) : Ole l k (push X is) X := by
  unfold Ole once; rw [push_code, potCode_append, h, Nat.zero_add]; exact Nat.le_refl _

theorem pot_callScr (l : Str) (k : Nat) (scr : Nat) (cb : Cb) (arg : Option Nat) (key : Option Str) :
    (Instr.callScr scr cb arg key).pot l k = if (Ev.cb scr cb arg key).inputLine? = some l then 1 else 0 := by
  cases cb <;> cases key <;> simp [Instr.pot, Ev.inputLine?]
  split <;> simp_all

/-- the `input` callback an instruction logs moves from "can still happen" to "happened" -/
theorem Ole_logged {l : Str} {k : Nat} {c X : Cfg} {ins : Instr} {rest : List Instr} {e : Ev} (hX : Calm c X)
    (hc : c.code = ins :: rest) (hc' : X.code = rest) (hl : Logs ins e) : Ole l k (emit0 X e) c := by
  have hp : (if e.inputLine? = some l then 1 else 0) ≤ ins.pot l k := by
    cases hl with
    | plain he => cases e <;> first | exact Nat.zero_le _ | cases he
    | cb scr cb arg key => rw [pot_callScr]; exact Nat.le_refl _
  unfold Ole once
  rw [emit0_log, emit0_code, hc', hc, potCode_cons, inputCount_cons, readCount_cons _ _ _ hl.isRead, hX.log]
  have := hX.countP (p := lineIs l) fun _ => lineIs_of_not_input
  show _ + _ + (X.pending.countP (lineIs l)) + _ ≤ _
  omega

/-- the signal taken from the queue is the one `processSignal` is pushed for -/
theorem Ole_pop {l : Str} {k : Nat} {Y : Cfg} {e : Int × Nat × Sig} {es : List (Int × Nat × Sig)} {more : List Instr}
    (he : Y.L.activeQ.entries = e :: es) (hm : more.all Instr.inert = true) :
    Ole l k (push (Y.pop e es) (.processSignal e.2.2 :: more)) Y := by
  have := countP_pop (lineIs l) he
  unfold Ole once
  rw [push_code, potCode_append, potCode_cons, potCode_inert l k hm, pop_code, push_log, pop_log]
  show _ + _ + ((Y.pop e es).pending.countP (lineIs l)) + _ ≤ _
  simp only [Instr.pot]
  cases hl : lineIs l e.2.2 <;> simp [hl] at this ⊢ <;> omega

theorem OnceOK_startRequest {l : Str} {k : Nat} (c : Cfg) (ih : Nat) (requester : Src) (text : Str)
    (h : OnceOK l k c) : OnceOK l k (final (startRequest c ih requester text)) := by
  rw [startRequest_eq]
  split
  · exact OnceOK_of_Ole (Ole_calm (c := { c with A := reqRecorded c.A ih requester text }) ((Quiet.refl _).raise _).toCalm
      (potCode_sublist (raise_code _ _))) h
  · split <;> exact h

theorem failSigs_countP (l : Str) (reqs : List Request) (ts : List Nat) (sid : Nat) :
    (failSigs reqs ts sid).countP (lineIs l) = 0 := by
  induction ts generalizing sid with
  | nil => rfl
  | cons t ts ih => simp [failSigs, ih, lineIs, Sig.carriesLine, failSig]

theorem OnceOK_step {l : Str} {c0 : Cfg} (P : Prog) (c : Cfg) (hP : P.NoForge) (hc : cleanCode c.code) (hH : HandlersOK c)
    (hR : ReadyHandlers c0 c) (hf : OnceOK l (k0 c0) c) : OnceOK l (k0 c0) (final (step P c)) := by
  obtain ⟨_, hfin⟩ | ⟨ins, rest, c', hcode, hfin, hs⟩ := step_cases P c <;> rw [hfin]
  · exact hf
  have hcl : ins.clean = true := hc ins (hcode ▸ List.mem_cons_self)
  have hi : potCode l (k0 c0) c.code = ins.pot l (k0 c0) + potCode l (k0 c0) rest := by rw [hcode, potCode_cons]
  have calm {c' : Cfg} {new rest' : List Instr} (hX : Calm c c') (hc' : c'.code = new ++ rest') (hsub : rest'.Sublist rest)
      (hn : new.all Instr.inert = true) : OnceOK l (k0 c0) c' := by
    refine OnceOK_of_Ole (Ole_calm hX ?_) hf
    have := potCode_sublist (l := l) (k := k0 c0) hsub
    rw [hc', hi, potCode_append, potCode_inert _ _ hn]; omega
  cases hs with
  | calm new rest' hX hc' hsub hn => exact calm hX.toCalm hc' hsub hn
  | pass new t hX hc' hp =>
    refine OnceOK_of_Ole (Ole_calm (hp.calm hX) ?_) hf
    rw [push_code, hc', hi, potCode_append, hp.pot hH hR hcl]; omega
  | enq s new hX hc' hs hn =>
    refine OnceOK_of_Ole (Ole_trans (Ole_push _ (potCode_inert _ _ hn))
      (Ole_calm ((hs.calm hX).enqueue (hs.not_input hcl)) ?_)) hf
    rw [enqueue_code, hs.code, hc', hi]; omega
  | emit e new hX hc' hl hn =>
    exact OnceOK_of_Ole (Ole_trans (Ole_push _ (potCode_inert _ _ (hn hP))) (Ole_trans (Ole_delivers (delivers_emit P _ e))
      (Ole_logged hX.toCalm hcode hc' hl))) hf
  | idle hX hc' hd =>
    refine OnceOK_of_Ole (Ole_trans (Ole_delivers (.inr hd)) (Ole_calm hX.toCalm ?_)) hf
    rw [hc', hi]; omega
  | pop e es more _ hX hc' hd he hm =>
    refine OnceOK_of_Ole (Ole_trans (Ole_pop he hm) (Ole_trans (Ole_delivers hd) (Ole_calm hX.toCalm ?_))) hf
    rw [hc', hi]; omega
  | closeLevel q a => exact calm (new := []) (calm_closed c rest q a) rfl (.refl _) rfl
  | request ih src text new _ hX hc' hn =>
    apply OnceOK_startRequest
    unfold OnceOK once Cfg.pending at hf ⊢
    rw [hX.log, hX.queues, hc', potCode_append, potCode_inert _ _ hn]
    omega
  | handoff s rs r hi' _ _ hc' hlog hL =>
    subst hi'
    have hq := countP_enqueueAll_le (lineIs l) c (handoffSigs c.A.reqs rs r s.line (c.nextSid + 1))
    have h0 : (handoffSigs c.A.reqs rs r s.line (c.nextSid + 1)).countP (lineIs l) = (decide (s.line = l)).toNat := by
      have : lineIs l (okSig c.A.reqs r s.line (c.nextSid + 1)) = decide (s.line = l) := by
        simp [lineIs, Sig.carriesLine, okSig]
      simp only [handoffSigs, List.countP_cons, failSigs_countP, Nat.zero_add, this]
      cases decide (s.line = l) <;> rfl
    unfold OnceOK once at hf ⊢
    rw [hi] at hf
    rw [hlog, hc', Cfg.pending, hL]
    simp only [Instr.pot] at hf
    rw [h0] at hq
    show _ + _ + (enqueueAll c _).pending.countP (lineIs l) ≤ _
    omega
  | ready n s new hi' hs hX hc' hnew =>
    subst hi'
    unfold OnceOK once Cfg.pending at hf ⊢
    rw [hX.log, hX.queues, hc', potCode_append]
    rw [show c.code = _ from hcode, potCode_cons] at hf
    have : potCode l (k0 c0) new ≤ (Instr.inputReady n s).pot l (k0 c0) := by
      rcases hnew with rfl | ⟨hok, scr, rfl⟩
      · exact Nat.zero_le _
      · simp [Instr.pot, hs, hok]
    omega

theorem once_reach {P : Prog} {c0 c : Cfg} (h0 : Started c0) (hU : UserHandlers c0) (hF : NoForge P c0)
    (h : Reach P c0 c) (l : Str) : OnceOK l (k0 c0) c := by
  refine reach_step_induction (I := OnceOK l (k0 c0)) ?_ ?_ ?_ h
  · unfold OnceOK once
    rw [potCode_inert l (k0 c0) (inert_init h0 hF.2)]
    simp [h0.log, h0.queues, Cfg.pending, EQueue.sigs, inputCount, inputLines, readCount]
  · intro c hr hi
    exact OnceOK_step P c hF.1 (cleanCode_reach h0 hU hF hr) (handlersOK_reach h0 hU hr) (readyHandlers_reach h0 hU hr) hi
  · intro c c' _ hi hd
    exact OnceOK_of_Ole (Ole_delivers (.inr hd)) hi

end Simpleline.Input
