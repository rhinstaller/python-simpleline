/-
  `_siftup(heap, 0)` (the leaf-bound variant of CPython) restores the heap property and only permutes.
-/
import Simpleline.Lemmas.HeapSiftdown

namespace Simpleline.Heapq

variable {α : Type}

theorem child_cases {s k : Nat} (hs : 0 < s) (h : (s - 1) / 2 = k) : s = 2 * k + 1 ∨ s = 2 * k + 2 := by omega

theorem smallerChild_spec {lt : α → α → Bool} (so : StrictOrd lt) (a : Array α) (k : Nat) (h : 2 * k + 1 < a.size) :
    (smallerChild lt a (2 * k + 1) h = 2 * k + 1 ∨ smallerChild lt a (2 * k + 1) h = 2 * k + 2) ∧
    ∀ s (hs : s < a.size), (s - 1) / 2 = k → 0 < s →
      lt a[s] (a[smallerChild lt a (2 * k + 1) h]'(smallerChild_lt ..)) = false := by
  unfold smallerChild
  split
  · next h' =>
    split
    · next hlt =>
      refine ⟨.inr rfl, fun s hs hsk hs0 => ?_⟩
      rcases child_cases hs0 hsk with rfl | rfl
      · simpa using hlt
      · exact so.irrefl _
    · next hlt =>
      refine ⟨.inl rfl, fun s hs hsk hs0 => ?_⟩
      rcases child_cases hs0 hsk with rfl | rfl
      · exact so.irrefl _
      · exact so.asymm _ _ (by simpa using hlt)
  · next h' =>
    refine ⟨.inl rfl, fun s hs hsk hs0 => ?_⟩
    rcases child_cases hs0 hsk with rfl | rfl
    · exact so.irrefl _
    · exact absurd hs h'

theorem parent_of_child {c k : Nat} (h : c = 2 * k + 1 ∨ c = 2 * k + 2) : (c - 1) / 2 = k := by omega

theorem HoleHeap.child_up {lt : α → α → Bool} {a : Array α} {k c : Nat} (hc : c < a.size)
    (hck : c = 2 * k + 1 ∨ c = 2 * k + 2)
    (hmin : ∀ s (hs : s < a.size), (s - 1) / 2 = k → 0 < s → lt a[s] a[c] = false)
    (H : HoleHeap lt a k) : IsHeap lt (a.setIfInBounds k a[c]) := by
  intro i hi hi0
  have hi' : i < a.size := by simpa using hi
  simp only [get_set]
  by_cases hik : k = i
  · subst hik
    rw [if_pos rfl, if_neg (Nat.ne_of_gt (parent_lt_self hi0))]
    exact H.2 c hc (by omega) (parent_of_child hck) hi0
  · rw [if_neg hik]
    by_cases hjk : k = (i - 1) / 2
    · rw [if_pos hjk]
      exact hmin i hi' hjk.symm hi0
    · rw [if_neg hjk]
      exact H.1 i hi' hi0 (Ne.symm hik) (Ne.symm hjk)

theorem siftupLoop_spec {lt : α → α → Bool} (so : StrictOrd lt) (a : Array α) (k : Nat) :
    k < a.size → HoleHeap lt a k →
      (siftupLoop lt a k).2 < (siftupLoop lt a k).1.size ∧
      ∀ x, HeapExcept lt ((siftupLoop lt a k).1.setIfInBounds (siftupLoop lt a k).2 x) (siftupLoop lt a k).2 := by
  fun_induction siftupLoop lt a k with
  | case1 a k h c ih =>
    intro hk H
    have sp := smallerChild_spec so a k h
    have hc := smallerChild_lt lt a (2 * k + 1) h
    exact ih (by simpa using hc) ((H.child_up hc sp.1 sp.2).heapExcept so c).holeHeap
  | case2 a k h =>
    intro hk H
    refine ⟨hk, fun x => H.fill x fun c hc hc0 hck => ?_⟩
    rcases child_cases hc0 hck with rfl | rfl <;> omega

theorem siftupLoop_perm (lt : α → α → Bool) (a : Array α) (k : Nat) (hk : k < a.size) (x : α) :
    ((siftupLoop lt a k).1.setIfInBounds (siftupLoop lt a k).2 x).Perm (a.setIfInBounds k x) := by
  fun_induction siftupLoop lt a k with
  | case1 a k h c ih =>
    have hc := smallerChild_lt lt a (2 * k + 1) h
    have hle := le_smallerChild lt a (2 * k + 1) h
    refine (ih (by simpa using hc)).trans ?_
    exact hole_move_perm a k c x hk hc (by omega)
  | case2 a k h => exact .rfl

theorem IsHeap.holeHeap_root {lt : α → α → Bool} {a : Array α} (x : α) (H : IsHeap lt a) :
    HoleHeap lt (a.setIfInBounds 0 x) 0 := by
  refine ⟨fun i hi hi0 _ hp => ?_, fun c hc hc0 _ h0 => absurd h0 (Nat.lt_irrefl 0)⟩
  have hi' : i < a.size := by simpa using hi
  simp only [get_set]
  rw [if_neg (Nat.ne_of_lt hi0), if_neg (Ne.symm hp)]
  exact H i hi' hi0

theorem siftup_isHeap {lt : α → α → Bool} (so : StrictOrd lt) (a : Array α) (H : HoleHeap lt a 0) :
    IsHeap lt (siftup lt a 0) := by
  unfold siftup
  split
  · next h0 =>
    have sp := siftupLoop_spec so a 0 h0 H
    exact siftdown_isHeap so _ _ (by simpa using sp.1) (sp.2 _)
  · next h0 => exact fun i hi => absurd (Nat.zero_lt_of_lt hi) h0

theorem siftup_perm (lt : α → α → Bool) (a : Array α) (k : Nat) : (siftup lt a k).Perm a := by
  unfold siftup
  split
  · next hk =>
    refine (siftdown_perm ..).trans ((siftupLoop_perm lt a k hk _).trans ?_)
    rw [set_get_self]
  · exact .rfl

theorem siftup_size (lt : α → α → Bool) (a : Array α) (k : Nat) (hk : k < a.size) (H : HoleHeap lt a k)
    (so : StrictOrd lt) : (siftup lt a k).size = a.size :=
  (siftup_perm lt a k).size_eq

end Simpleline.Heapq
