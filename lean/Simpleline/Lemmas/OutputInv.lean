/-
  C17: consequences of `step_eff` for single transitions (append-only, the separator) and the
  invariant of reachable configurations (`OutInv`: the console has the shape `OutShape` of the specification,
  every chunk on it being of a known kind, and the pending `printLines` instructions carry window lines).
-/
import Simpleline.Lemmas.OutputStep
import Simpleline.Lemmas.OutputWindow
import Simpleline.Lemmas.ShapeEvents

namespace Simpleline.Output

theorem stepEff_append {P : Prog} {c c' : Cfg} (h : StepEff P c c') : ∃ new, c'.A.out = c.A.out ++ new := by
  unfold StepEff at h
  split at h
  · exact ⟨[], by simp [h]⟩
  · exact ⟨_, h.1⟩
  · exact ⟨_, h.1⟩
  · rcases h.1 with h1 | h1
    · exact ⟨[], by simp [h1]⟩
    · exact ⟨_, h1⟩
  · rcases h.1 with h1 | h1
    · exact ⟨[], by simp [h1]⟩
    · exact ⟨_, h1⟩
  · exact ⟨_, h.1⟩
  · exact ⟨[], by simp [h.1]⟩
  · exact ⟨[], by simp [h.out]⟩

theorem trans_append {P : Prog} {c c' : Cfg} (h : Trans P c c') : ∃ new, c'.A.out = c.A.out ++ new := by
  rcases trans_cases h with rfl | rfl
  · exact stepEff_append (step_eff P c)
  · exact ⟨[], by simp [(dlv_quiet c).out]⟩

theorem trans_show {P : Prog} {c c' : Cfg} (h : Trans P c c') (e : Entry) (he : Tr.show e ∈ newTr c c') :
    (∃ rest, c.code = .drawScreen e :: rest) ∧
    c'.A.out = c.A.out ++ (if (P.spec e.screen).noSeparator then [] else [spacer P.width]) := by
  obtain ⟨_, rest, hc, rfl⟩ := Shape.shape_origin h rfl he
  refine ⟨⟨rest, hc⟩, ?_⟩
  rcases trans_cases h with rfl | rfl
  · have hs := step_eff P c
    unfold StepEff at hs
    rw [hc] at hs
    exact hs.1
  · have := (dlv_quiet c).tr.newTr _ he
    simp at this

theorem stepEff_draw {P : Prog} {c c' : Cfg} (h : StepEff P c c') (e : Entry) (rest : List Instr)
    (hc : c.code = .drawScreen e :: rest) : newTr c c' = [.show e] := by
  unfold StepEff at h
  rw [hc] at h
  exact newTr_of_append (new := [.show e]) h.2.1

structure OutInv (P : Prog) (c : Cfg) : Prop where
  shape : OutShape P c
  code : ∀ ls ∈ prints c.code, WindowLines P ls

theorem outInv_init {P : Prog} {c0 : Cfg} (h0 : Started c0) : OutInv P c0 := by
  obtain ⟨init, hs, q, sin, rfl⟩ := h0
  refine ⟨.inl ⟨by simp [initCfg], by simp [initCfg]⟩, ?_⟩
  intro ls hls
  rw [show (initCfg init hs q sin).code = init.map .act ++ [.apprun] from rfl, prints_acts] at hls
  cases hls

theorem mem_concat_normal {P : Prog} {out : List Str} {x : Str} (h : ∀ ch ∈ out, NormalChunk P ch)
    (hx : NormalChunk P x) : ∀ ch ∈ out ++ [x], NormalChunk P ch := by
  intro ch hch
  rcases List.mem_append.mp hch with hch | hch
  · exact h ch hch
  · rw [List.mem_singleton.mp hch]; exact hx

theorem outInv_stepEff {P : Prog} {c c' : Cfg} (hi : OutInv P c) (h : StepEff P c c') : OutInv P c' := by
  obtain ⟨hshape, hcode⟩ := hi
  rcases hshape with ⟨hk, hout⟩ | ⟨hk, hnil, hrest⟩
  · -- not killed so far
    have hsub : ∀ {rest : List Instr} {i : Instr}, c.code = i :: rest → prints c'.code ⊆ prints rest →
        ∀ ls ∈ prints c'.code, WindowLines P ls := by
      intro rest i hc hs ls hls
      apply hcode ls
      rw [hc, prints_cons]
      exact List.mem_append_right _ (hs hls)
    have hkill : ∀ {c' : Cfg}, QT c.tr c'.tr → Tr.kill ∉ c'.tr := fun hq hm => hk ((hq.mark_mem _ rfl).mp hm)
    unfold StepEff at h
    split at h
    · subst h; exact ⟨.inl ⟨hk, hout⟩, hcode⟩
    · next e rest hc =>
      refine ⟨.inl ⟨?_, ?_⟩, hsub hc h.2.2⟩
      · rw [h.2.1]; simpa using hk
      · rw [h.1]
        split
        · simpa using hout
        · exact mem_concat_normal hout .separator
    · next ls rest hc =>
      refine ⟨.inl ⟨hkill h.2.1, ?_⟩, hsub hc h.2.2⟩
      rw [h.1]
      exact mem_concat_normal hout (.lines ls (hcode ls (by rw [hc, prints_cons]; exact List.mem_cons_self)))
    · next scr args rest hc =>
      refine ⟨.inl ⟨hkill h.2.1, ?_⟩, hsub hc h.2.2⟩
      rcases h.1 with h1 | h1
      · rw [h1]; exact hout
      · rw [h1]; exact mem_concat_normal hout .prompt
    · next scr cont rest hc =>
      refine ⟨.inl ⟨hkill h.2.1, ?_⟩, hsub hc h.2.2⟩
      rcases h.1 with h1 | h1
      · rw [h1]; exact hout
      · rw [h1]
        cases cont
        · exact mem_concat_normal hout .msg
        · exact mem_concat_normal hout .continue
    · refine ⟨.inr ⟨by rw [h.2.1]; simp, h.2.2, c.A.out, c.A.stack, h.1, hout⟩, ?_⟩
      rw [h.2.2]; simp
    · next scr rest hc =>
      refine ⟨.inl ⟨hkill h.2.1, by rw [h.1]; exact hout⟩, ?_⟩
      intro ls hls
      rcases h.2.2 ls hls with h1 | h1
      · apply hcode ls
        rw [hc, prints_cons]
        exact List.mem_append_right _ h1
      · exact h1
    · exact ⟨.inl ⟨hkill h.tr, by rw [h.out]; exact hout⟩, hsub (by assumption) h.code⟩
  · -- killed: nothing is executed any more
    unfold StepEff at h
    rw [hnil] at h
    simp only [] at h
    subst h
    exact ⟨.inr ⟨hk, hnil, hrest⟩, hcode⟩

theorem outInv_dlv {P : Prog} {c : Cfg} (hi : OutInv P c) : OutInv P (dlv c) := by
  obtain ⟨hshape, hcode⟩ := hi
  obtain ⟨h1, h2, h3⟩ := dlv_quiet c
  refine ⟨?_, fun ls hls => hcode ls (h3 hls)⟩
  rcases hshape with ⟨hk, hout⟩ | ⟨hk, hnil, hrest⟩
  · exact .inl ⟨fun hm => hk ((h2.mark_mem _ rfl).mp hm), by rw [h1]; exact hout⟩
  · exact .inr ⟨(h2.mark_mem _ rfl).mpr hk, by rw [dlv_code]; exact hnil, by rw [h1]; exact hrest⟩

theorem outInv_reach {P : Prog} {c0 c : Cfg} (h0 : Started c0) (h : Reach P c0 c) : OutInv P c := by
  refine reach_induction (outInv_init h0) (fun _ _ _ hi ht => ?_) h
  rcases trans_cases ht with rfl | rfl
  · exact outInv_stepEff hi (step_eff P _)
  · exact outInv_dlv hi

theorem mem_prints {code : List Instr} {ls : List Str} : ls ∈ prints code ↔ Instr.printLines ls ∈ code := by
  unfold prints
  rw [List.mem_filterMap]
  constructor
  · rintro ⟨i, hi, hm⟩
    cases i <;> simp at hm
    subst hm; exact hi
  · intro h; exact ⟨_, h, rfl⟩

theorem outShape_allowed {P : Prog} {c : Cfg} (h : OutShape P c) : ∀ ch ∈ c.A.out.flatten, allowed P ch := by
  intro ch hch
  obtain ⟨chunk, hchunk, hch⟩ := List.mem_flatten.mp hch
  rcases h with ⟨_, hout⟩ | ⟨_, _, pre, stack, hpre, hout⟩
  · exact normalChunk_allowed (hout chunk hchunk) ch hch
  · rw [hpre] at hchunk
    rcases List.mem_append.mp hchunk with hchunk | hchunk
    · exact normalChunk_allowed (hout chunk hchunk) ch hch
    · exact (killChunks_chars P stack chunk hchunk ch hch).imp id fun h => .inr (.inr (h.imp id .inl))

/-- as long as the run has not been killed no screen name reaches the console -/
theorem outShape_chars_alive {P : Prog} {c : Cfg} (h : OutShape P c) (hk : Tr.kill ∉ c.tr) :
    ∀ ch ∈ c.A.out.flatten, ch = '\n' ∨ ch = ' ' ∨ ch = '=' ∨ ch ∈ frameworkLiterals.flatten ∨
      (textChar P ch ∧ isWs6 ch = false) := by
  intro ch hch
  obtain ⟨chunk, hchunk, hch⟩ := List.mem_flatten.mp hch
  rcases h with ⟨_, hout⟩ | ⟨hk', _⟩
  · exact normalChunk_chars (hout chunk hchunk) ch hch
  · exact absurd hk' hk

theorem outShape_width {P : Prog} {c : Cfg} (h : OutShape P c) :
    (Tr.kill ∉ c.tr ∧ ∀ ch ∈ c.A.out, chunkLinesOK P.width.toNat ch) ∨
    (Tr.kill ∈ c.tr ∧ c.code = [] ∧
      ∃ pre stack, c.A.out = pre ++ killChunks P stack ∧ ∀ ch ∈ pre, chunkLinesOK P.width.toNat ch) := by
  rcases h with ⟨hk, hout⟩ | ⟨hk, hnil, pre, stack, hpre, hout⟩
  · exact .inl ⟨hk, fun ch hch => normalChunk_linesOK (hout ch hch)⟩
  · exact .inr ⟨hk, hnil, pre, stack, hpre, fun ch hch => normalChunk_linesOK (hout ch hch)⟩

theorem reach_append {P : Prog} {c c' : Cfg} (h : Reach P c c') : ∃ new, c'.A.out = c.A.out ++ new := by
  refine reach_induction (motive := fun c' => ∃ new, c'.A.out = c.A.out ++ new) ⟨[], (List.append_nil _).symm⟩ (fun _ _ _ => ?_) h
  intro ⟨n1, h1⟩ ht
  obtain ⟨n2, h2⟩ := trans_append ht
  exact ⟨n1 ++ n2, by rw [h2, h1, List.append_assoc]⟩

/-- an allowed carriage return, backspace or escape character was supplied by the application -/
theorem allowed_control {P : Prog} {ctl : Char} (hctl : ctl = '\r' ∨ ctl = '\x08' ∨ ctl = '\x1b')
    (ha : allowed P ctl) : nameChar P ctl ∨ (ctl ≠ '\r' ∧ textChar P ctl) := by
  have hc : ctl.toNat < 32 ∧ ctl ≠ '\n' ∧ (ctl = '\r' → isWs6 ctl = true) := by
    rcases hctl with rfl | rfl | rfl <;> decide
  rcases ha with h1 | h1 | h1 | h1 | h1 | ⟨h1, h2⟩
  · exact absurd h1 hc.2.1
  · subst h1; exact absurd hc.1 (by decide)
  · subst h1; exact absurd hc.1 (by decide)
  · exact absurd (lit_printable ctl h1) (by omega)
  · exact .inl h1
  · exact .inr ⟨fun h => Bool.noConfusion ((hc.2.2 h).symm.trans h2), h1⟩

theorem print_step (P : Prog) (c c' : Cfg) (ls : List Str) (rest : List Instr)
    (hc : c.code = .printLines ls :: rest) (hs : step P c = .ok c') :
    c'.A.out = c.A.out ++ [ls.flatMap fun l => l ++ ['\n']] := by
  have he := step_eff P c
  rw [hs] at he
  unfold StepEff at he
  rw [hc] at he
  exact he.1

end Simpleline.Output
