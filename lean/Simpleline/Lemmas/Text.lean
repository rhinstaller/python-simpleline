/-
  What `TextWidget.render` leaves in the buffer (C11): the wrapped text (`Lemmas/TextWrapLoop.lean`)
  laid out by the typewriter as its lines (`Lemmas/TextType.lean`). Its height (C13b): one row for a text
  without line break that fits the width, at least two rows for a text with a line break
  (`render_one_row`, `render_newline_rows`).
-/
import Simpleline.Lemmas.TextType

namespace Simpleline

theorem wrapStep_decreases (cc : CharClass) (w : Nat) (hw : 1 ≤ w) (haveLines : Bool)
    (chunks : List (List Char)) (hne : chunks ≠ []) (hch : ∀ c ∈ chunks, c ≠ []) :
    wrapMeasure (wrapStep cc w haveLines chunks).2 < wrapMeasure chunks ∧
    (∀ c ∈ (wrapStep cc w haveLines chunks).2, c ≠ []) :=
  ⟨wrapStep_measure_lt cc w haveLines chunks hw hne, wrapStep_rest_ne cc w haveLines chunks hch⟩

theorem wrapWords_nil (cc : CharClass) (w : Nat) : wrapWords cc [] w = [] := by
  have h1 : splitChunks cc (munge []) = [] := by
    simp only [munge, expandTabsAux, List.map_nil, splitChunks]
    rw [splitAux]
  have h2 : pyWrap cc [] w = [] := by
    rw [pyWrap, h1, wrapLoop]
    simp
  simp [wrapWords, splitOn, joinWith, h2]

theorem splitOn_wrapWords (cc : CharClass) (t : List Char) (w : Nat) :
    splitOn '\n' (wrapWords cc t w) =
      (splitOn '\n' t).flatMap fun l => if pyWrap cc l w = [] then [[]] else pyWrap cc l w := by
  rw [wrapWords, splitOn_joinWith_flatMap _ _ (by simpa using splitOn_ne_nil '\n' t), List.flatMap_map]
  exact flatMap_congr fun l _ => splitOn_joinWith '\n' _ (pyWrap_no_nl cc l w)

section render

variable (cc : CharClass) (st : WSt) (t : List Char) (w : Nat) (hw : 1 ≤ w) (s : WSt)
  (h : renderTextSt cc st t w = .ok s)
include hw h

theorem render_buf :
    s.buf = if wrapWords cc t w = [] then [] else splitOn '\n' (wrapWords cc t w) := by
  simp only [renderTextSt, WSt.writeWrapped, WSt.clear] at h
  split at h
  · next ht =>
    subst ht
    simp only [Except.ok.injEq] at h
    subst h
    rw [if_pos (wrapWords_nil cc w)]
  · have hw' : ¬ ((w : Int) ≤ 0) := by omega
    rw [if_neg hw'] at h
    simp only [Except.ok.injEq, Int.toNat_natCast] at h
    subst h
    simp only [WSt.writeAt]
    split
    · rfl
    · next hne => exact typewrite_empty_buf _ hne

theorem render_breaks :
    s.buf = if wrapWords cc t w = [] then []
            else (splitOn '\n' t).flatMap fun l => if pyWrap cc l w = [] then [[]] else pyWrap cc l w := by
  rw [render_buf cc st t w hw s h, splitOn_wrapWords]

theorem render_width : ∀ l ∈ s.buf, l.length ≤ w := by
  rw [render_breaks cc st t w hw s h]
  split
  · simp
  · intro l hl
    simp only [List.mem_flatMap] at hl
    obtain ⟨src, _, hl⟩ := hl
    split at hl
    · simp only [List.mem_singleton] at hl
      subst hl
      exact Nat.zero_le _
    · exact pyWrap_length cc src w l hl

end render

theorem render_one_row (cc : CharClass) (st : WSt) (t : List Char) (w : Nat) (hw : 1 ≤ w)
    (hnl : '\n' ∉ t) (hlen : (munge t).length ≤ w) (s : WSt)
    (h : renderTextSt cc st t w = .ok s) : s.buf.length ≤ 1 := by
  rw [render_breaks cc st t w hw s h]
  split
  · simp
  · rw [splitOn_of_not_mem '\n' t hnl]
    simp only [List.flatMap_cons, List.flatMap_nil, List.append_nil]
    split
    · simp
    · exact pyWrap_one cc t w hlen

theorem render_newline_rows (cc : CharClass) (st : WSt) (t : List Char) (w : Nat) (hw : 1 ≤ w)
    (hnl : '\n' ∈ t) (s : WSt) (h : renderTextSt cc st t w = .ok s) : 2 ≤ s.buf.length := by
  have h2 := splitOn_length_of_mem '\n' t hnl
  rw [render_breaks cc st t w hw s h]
  have hne : wrapWords cc t w ≠ [] := by
    unfold wrapWords
    apply joinWith_ne_nil_of_two
    rw [List.length_map]
    exact h2
  rw [if_neg hne]
  refine Nat.le_trans h2 (length_le_flatMap _ _ ?_)
  intro l _
  split
  · simp
  · rename_i hp
    cases hq : pyWrap cc l w with
    | nil => exact absurd hq hp
    | cons _ _ => simp

theorem renderText_pos (cc : CharClass) (st : WSt) (t : List Char) (w : Int) (s : WSt)
    (ht : t ≠ []) (h : renderTextSt cc st t w = .ok s) : 0 < w := by
  by_cases hw : w ≤ 0
  · simp only [renderTextSt, WSt.writeWrapped, if_neg ht, if_pos hw] at h
    cases h
  · omega

theorem render_int_cases (cc : CharClass) (st : WSt) (t : List Char) (w : Int) (s : WSt)
    (h : renderTextSt cc st t w = .ok s) :
    s.buf = [] ∨ (1 ≤ w.toNat ∧ renderTextSt cc st t (w.toNat : Int) = .ok s) := by
  by_cases ht : t = []
  · left
    simp only [renderTextSt, WSt.writeWrapped, WSt.clear, ht, if_true, Except.ok.injEq] at h
    subst h; rfl
  · by_cases hw : w ≤ 0
    · simp [renderTextSt, WSt.writeWrapped, ht, hw] at h
    · right
      have : ((w.toNat : Nat) : Int) = w := Int.toNat_of_nonneg (by omega)
      rw [this]
      exact ⟨by omega, h⟩

theorem render_width_int (cc : CharClass) (st : WSt) (t : List Char) (w : Int) (s : WSt)
    (h : renderTextSt cc st t w = .ok s) : ∀ l ∈ s.buf, l.length ≤ w.toNat := by
  rcases render_int_cases cc st t w s h with h0 | ⟨hw, h1⟩
  · rw [h0]; simp
  · exact render_width cc st t w.toNat hw s h1

end Simpleline
