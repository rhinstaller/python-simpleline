/-
  At most one typed line is in flight between the console and the hand-off (C18): counting
  `InputReceivedSignal`s in the queues and in the code (`irCode` is the length of `Rv`, the list of those the code
  carries: `irCode_eq`).
-/
import Simpleline.Lemmas.InputCode

namespace Simpleline.Input
open InputOrder

def isIR (s : Sig) : Bool := s.cls = .inputReceived

def irq (q : EQueue) : Nat := q.sigs.countP isIR

def irQ (qs : List EQueue) : Nat := (qs.map irq).sum

theorem irQ_pending (c : Cfg) : irQ c.L.queues = c.pending.countP isIR := by
  unfold irQ Cfg.pending
  induction c.L.queues with
  | nil => rfl
  | cons q qs ih => rw [List.map_cons, List.sum_cons, List.flatMap_cons, List.countP_append, ih]; rfl

theorem irQueued_eq (c : Cfg) : irQueued c = irQ c.L.queues := (irQ_pending c).symm

theorem isIR_of_not_input {s : Sig} (h : s.cls.isInput = false) : isIR s = false := by
  unfold isIR; cases hs : s.cls <;> simp_all [Cls.isInput]

theorem Calm.irQ {c X : Cfg} (h : Calm c X) : irQ X.L.queues = irQ c.L.queues := by
  rw [irQ_pending, irQ_pending, h.countP fun _ => isIR_of_not_input]

theorem irQ_pop (c : Cfg) (e : Int × Nat × Sig) (es : List (Int × Nat × Sig)) (h : c.L.activeQ.entries = e :: es) :
    irQ (c.pop e es).L.queues + (if isIR e.2.2 then 1 else 0) = irQ c.L.queues := by
  rw [irQ_pending, irQ_pending, countP_pop _ h]

theorem irQ_deliver {c c' : Cfg} (h : c.deliver = some c') :
    c'.A.readers.length + irQ c'.L.queues ≤ c.A.readers.length + irQ c.L.queues := by
  obtain ⟨r, s, hr, _, _, hle⟩ := countP_deliver_le isIR h
  rw [irQ_pending, irQ_pending, hr, List.length_cons]
  split at hle <;> omega

@[simp] theorem irCode_nil : irCode [] = 0 := rfl
@[simp] theorem irCode_cons (i : Instr) (is : List Instr) : irCode (i :: is) = i.irPending + irCode is := by
  simp [irCode]
@[simp] theorem irCode_append (is js : List Instr) : irCode (is ++ js) = irCode is + irCode js := by
  simp [irCode]

theorem irPending_eq (i : Instr) : i.irPending = i.recvSig?.toList.length := by
  cases i <;> simp only [Instr.irPending, Instr.recvSig?] <;> first | rfl | (split <;> rfl) | skip
  case callH h d s => cases h <;> rfl

theorem irCode_eq (code : List Instr) : irCode code = (Rv code).length := by
  induction code with
  | nil => rfl
  | cons i is ih => rw [irCode_cons, ih, irPending_eq, Rv_cons, List.length_append]

theorem irCode_carriers {is js : List Instr} (h : (carriers is).Sublist js) : irCode is ≤ irCode js := by
  rw [irCode_eq, irCode_eq]; exact (Rv_carriers h).length_le

theorem irCode_sublist {is js : List Instr} (h : is.Sublist js) : irCode is ≤ irCode js :=
  irCode_carriers ((carriers_sublist is).trans h)

theorem irCode_inert {is : List Instr} (h : is.all Instr.inert = true) : irCode is = 0 := by
  rw [irCode_eq, Rv_of_inert h]; rfl

end Simpleline.Input
