/-
  GLib machine: the membership form of the step facts — what a step preserves when only membership of the pending
  `callH` / `gCall` / `gDisp` / `apprun` instructions is tracked (nothing about the quit callback; `Lemmas/GMStep.lean`
  has the form that also counts the pending `quitCb` / `apprun`).
-/
import Simpleline.Lemmas.GMStepVocab

namespace Simpleline.G

/-- `c'` differs from `c` by helper effects only: registrations are at most added behind the others (an `InputHandler`
registers itself), same force-quit flag and ticket lines, the trace extended by quiet events -/
structure Keep (c c' : Cfg) : Prop where
  handlers : c.L.handlers <+: c'.L.handlers
  fq : c'.L.forceQuit = c.L.forceQuit
  tickets : c'.L.tickets = c.L.tickets
  tr : ∃ new, c'.tr = new ++ c.tr ∧ ∀ t ∈ new, t.quiet = true

/-- every instruction but the handler-call / batch instructions and `apprun` -/
def Instr.boring : Instr → Bool
  | .callH .. => false
  | .gCall .. => false
  | .gDisp .. => false
  | .apprun => false
  | _ => true

/-- how a non-boring instruction gets into the pending code: pushed by the instruction at the head of `c` -/
def PushedOK (c c' : Cfg) : Instr → Prop
  | .callH h d s => (∃ k, c.code.head? = some (.gCall s .live k) ∧ (handlersOf c.L s.cls)[k]? = some (h, d) ∧
        c'.code = .callH h d s :: .gCall s .live (k + 1) :: c.code.tail) ∧ (s.cls, h, d) ∈ c.L.handlers ∧ c.L.forceQuit = false
  | .gCall s hs k => (∃ k0, c.code.head? = some (.gCall s hs k0) ∧ k = k0 + 1) ∨
      (∃ q g, c.code.head? = some (.runH q g) ∧ g.sig = s ∧ g.hs = hs ∧ c.L.forceQuit = false ∧ k = 0)
  | .gDisp q e g => (∃ mode, c.code.head? = some (.gIter q mode)) ∧ ∃ p att batch, Tr.iter q e p att batch ∈ c'.tr ∧ g ∈ batch
  | _ => False

structure StepFacts (c c' : Cfg) : Prop where
  tickets : c'.L.tickets = c.L.tickets ∨ TicketOK c c'.L.tickets
  tr : ∃ new, c'.tr = new ++ c.tr ∧ ∀ t ∈ new, t.quiet = false → LoudOK c t
  handlers : c.L.handlers <+: c'.L.handlers
  code : ∀ i ∈ c'.code, i.boring = false → i ∈ c.code.tail ∨ PushedOK c c' i
  fq : c.L.forceQuit = true → c.code.head? ≠ some .apprun → c'.L.forceQuit = true
  fqSet : c.L.forceQuit = false → c'.L.forceQuit = true → c.code.head? = some (.act .forceQuit)

/-- `X` is reached from `c0` by helper effects and loud events that the head instruction of `c0` justifies -/
structure KeepL (c0 X : Cfg) : Prop where
  handlers : c0.L.handlers <+: X.L.handlers
  fq : X.L.forceQuit = c0.L.forceQuit
  tickets : X.L.tickets = c0.L.tickets ∨ TicketOK c0 X.L.tickets
  tr : ∃ new, X.tr = new ++ c0.tr ∧ ∀ t ∈ new, t.quiet = false → LoudOK c0 t

end Simpleline.G
