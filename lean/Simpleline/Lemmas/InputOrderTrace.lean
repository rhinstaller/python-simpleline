/-
  Pure lemmas about the history predicates of `Spec/InputOrderSpec.lean` (C06b): they are closed under
  going back in time, `readyPending` counts the successful `InputReadySignal`s of the replayed queue, and a
  history without `execute_new_loop` has at most one level. Under `NoReadyReentry` `readyDepth` is the flag
  `readyInDispatch` of the spec as a number (`readyDepth_eq`).
-/
import Simpleline.Spec.InputOrderSpec
import Simpleline.Spec.LoopSpec

namespace Simpleline.InputOrder

theorem noReadyCovered_suffix {a b : List Tr} (h : NoReadyCovered (a ++ b)) : NoReadyCovered b := by
  induction a with
  | nil => exact h
  | cons t a ih => exact ih h.2

theorem noReadyCovered_now {tr : List Tr} (h : NoReadyCovered tr) : coveredFree tr := by
  cases tr with
  | nil => intro q hq; simp [levelsOf] at hq
  | cons t tr => exact h.1

theorem noReadyReentry_cons {t : Tr} {tr : List Tr} (h : NoReadyReentry (t :: tr)) : NoReadyReentry tr := by
  cases t <;> first | exact h | exact h.2

theorem noReadyReentry_suffix {a b : List Tr} (h : NoReadyReentry (a ++ b)) : NoReadyReentry b := by
  induction a with
  | nil => exact h
  | cons t a ih => exact ih (noReadyReentry_cons h)

theorem noReadyReentry_take {q : Nat} {s : Sig} {tr : List Tr} (h : NoReadyReentry (.take q s :: tr))
    (hs : s.okReady = true) : readyInDispatch tr = false := h.1 hs

/-- how many successful `InputReadySignal`s have been taken for dispatch and not yet handed to the handler of
their `InputHandler` (hypothesis-free version of `readyInDispatch`) -/
def readyDepth : List Tr → Nat
  | [] => 0
  | .take _ s :: tr => readyDepth tr + (if s.okReady = true then 1 else 0)
  | .call (.ih n) _ s :: tr => readyDepth tr - (if s.okReady = true ∧ s.ih = n then 1 else 0)
  | _ :: tr => readyDepth tr

theorem readyDepth_eq {tr : List Tr} (h : NoReadyReentry tr) : readyDepth tr = (readyInDispatch tr).toNat := by
  induction tr with
  | nil => rfl
  | cons t tr ih =>
    have ih := ih (noReadyReentry_cons h)
    cases t with
    | take q s =>
      simp only [readyDepth, readyInDispatch]
      cases hs : s.okReady
      · simp [ih]
      · have := h.1 hs
        rw [this] at ih
        simp [ih]
    | call hr d s =>
      cases hr with
      | ih n =>
        simp only [readyDepth, readyInDispatch]
        split
        · have : (readyInDispatch tr).toNat ≤ 1 := by cases readyInDispatch tr <;> simp
          simp; omega
        · simp [ih]
      | _ => exact ih
    | _ => exact ih

theorem readyDepth_zero_of_take {q : Nat} {s : Sig} {tr : List Tr} (h : NoReadyReentry (.take q s :: tr))
    (hs : s.okReady = true) : readyDepth tr = 0 := by
  rw [readyDepth_eq (noReadyReentry_cons h), h.1 hs]; rfl

theorem countP_filter_split (p q : Sig → Bool) (l : List Sig) :
    (l.filter q).countP p + (l.filter (fun x => !q x)).countP p = l.countP p := by
  induction l with
  | nil => rfl
  | cons x xs ih =>
    simp only [List.filter_cons, List.countP_cons]
    cases hq : q x <;> simp [List.countP_cons] <;> omega

theorem countP_stableInsert (p : Sig → Bool) (s : Sig) (l : List Sig) :
    (stableInsert s l).countP p = l.countP p + (if p s = true then 1 else 0) := by
  unfold stableInsert
  rw [List.countP_append, List.countP_cons]
  have h := countP_filter_split p (fun x => decide (x.prio ≤ s.prio)) l
  have e : (fun x : Sig => !decide (x.prio ≤ s.prio)) = (fun x => decide (s.prio < x.prio)) := by
    funext x
    by_cases hx : x.prio ≤ s.prio
    · have : ¬ s.prio < x.prio := by omega
      simp [hx, this]
    · have : s.prio < x.prio := by omega
      simp [hx, this]
  rw [e] at h
  omega

theorem countP_tail_of_head (p : Sig → Bool) {l : List Sig} {s : Sig} (h : l.head? = some s) :
    l.tail.countP p = l.countP p - (if p s = true then 1 else 0) := by
  cases l with
  | nil => cases h
  | cons x xs =>
    simp only [List.head?_cons, Option.some.injEq] at h
    subst h
    simp only [List.tail_cons, List.countP_cons]
    split <;> simp

theorem readyPending_eq_replay (q : Nat) {tr : List Tr} (h : TakesAreHeads tr) :
    readyPending q tr = (replayQ q tr).countP Sig.okReady := by
  induction tr with
  | nil => rfl
  | cons t tr ih =>
    cases t with
    | enq q' s =>
      have ih := ih h
      simp only [readyPending, replayQ]
      by_cases hq : q' = q
      · simp only [hq, true_and, if_true, countP_stableInsert, ih]
      · simp only [hq, false_and, if_false, ih, Nat.add_zero]
    | take q' s =>
      have ih := ih h.2
      simp only [readyPending, replayQ]
      by_cases hq : q' = q
      · subst hq
        simp only [true_and, if_true, ih]
        rw [countP_tail_of_head _ h.1]
      · simp only [hq, false_and, if_false, ih, Nat.sub_zero]
    | _ => exact ih h

def _root_.Simpleline.Tr.isStruct : Tr → Bool
  | .openLevel .. | .closeLevel .. | .forceQuit => true
  | _ => false

theorem levelsOf_cons_other (t : Tr) (tr : List Tr) (h : t.isStruct = false) : levelsOf (t :: tr) = levelsOf tr := by
  cases t <;> first | rfl | cases h

theorem levelsOf_length_of_noOpen {tr : List Tr} (h : NoOpenLevel tr) : (levelsOf tr).length ≤ 1 := by
  induction tr with
  | nil => simp [levelsOf]
  | cons t tr ih =>
    have ih := ih (fun t' ht' => h t' (List.mem_cons_of_mem _ ht'))
    cases t with
    | openLevel q r => exact absurd rfl (h _ List.mem_cons_self q r)
    | closeLevel q => simp only [levelsOf, List.length_dropLast]; omega
    | forceQuit => simp [levelsOf]
    | _ => exact ih

end Simpleline.InputOrder
