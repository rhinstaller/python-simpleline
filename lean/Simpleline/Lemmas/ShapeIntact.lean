/-
  Lemmas behind C05 "intact": while the level of a modal entry is open, the part of the stack that was
  beneath the entry when it was pushed is not touched (only `schedule_screen` inserts beneath it).
-/
import Simpleline.Lemmas.ShapeShieldFix

namespace Simpleline

/-- The four ways the library changes the screen stack (top of the stack last): `schedule_screen` inserts a
non-modal entry at the bottom, `push_screen` / `push_screen_modal` add one on top, `replace_screen` exchanges
the top for an entry of the same modality, `close_screen` (or a failed setup) removes the top. -/
inductive StackOp : List Entry → List Entry → Prop
  | bottom (s : List Entry) (x : Entry) : x.modal = false → StackOp s (x :: s)
  | top (s : List Entry) (x : Entry) : StackOp s (s ++ [x])
  | repl (s : List Entry) (old x : Entry) : s.getLast? = some old → x.modal = old.modal → StackOp s (s.dropLast ++ [x])
  | pop (s : List Entry) (old : Entry) : s.getLast? = some old → StackOp s s.dropLast

inductive StackCh (v : SV) (evs : List Tr) (v' : SV) : Prop
  | same : v'.stack = v.stack → (∀ w st, Tr.stackOp w st ∉ evs) → StackCh v evs v'
  | op {h : Instr} {rest : List Instr} {w : String} {st : List Entry} :
      v.code = h :: rest → h.isWindowHead = false → Tr.stackOp w st ∈ evs → StackOp v.stack v'.stack → StackCh v evs v'

/-- `st` still has `S` in place: above what `schedule_screen` inserted at the bottom (`ins`), beneath
`above`, whose lowest entry — the slot of the modal entry pushed on `S` — is modal -/
def Intact (S st : List Entry) : Prop :=
  ∃ ins above, st = ins ++ S ++ above ∧ (∀ y ∈ ins, y.modal = false) ∧ (∀ a l, above = a :: l → a.modal = true)

namespace Shape

theorem modalCount_nonmodal {l : List Entry} (h : ∀ y ∈ l, y.modal = false) : modalCount l = 0 := by
  unfold modalCount
  rw [List.length_eq_zero_iff, List.filter_eq_nil_iff]
  intro y hy
  simp [h y hy]

theorem stack_step {P : Prog} {v v' : SV} {evs : List Tr} (hs : SStepE P v evs v') : StackCh v evs v' := by
  cases hs with
  | batch hc hb => exact .same rfl fun w st h => by cases hb <;> simp at h
  | raise _ _ => exact .same rfl fun w st h => absurd h (not_mem_exitEv_of_ne_exit (fun h => nomatch h))
  | stutter | halt _ _ | enqAct _ | apprun _ | restore _ _ | identSkip _ _ _ => exact .same rfl fun w st h => nomatch h
  | kill _ | forceQuit _ | «open» _ _ | pop _ _ _ | popExit _ _ _ => exact .same rfl fun w st h => by simp at h
  | schedule hc => exact .op hc rfl (List.mem_cons_self ..) (.bottom _ _ rfl)
  | pushScr hc => exact .op hc rfl (List.mem_cons_self ..) (.top _ _)
  | replace hc hold => exact .op hc rfl (List.mem_cons_self ..) (.repl _ _ _ hold rfl)
  | pushModal hc => exact .op hc rfl (List.mem_cons_of_mem _ (List.mem_cons_self ..)) (.top _ _)
  | closeScreen hc he | discard hc he => exact .op hc rfl (List.mem_cons_self ..) (.pop _ _ he)

theorem intact_count {S st : List Entry} (h : Intact S st) :
    ∃ ins above, st = ins ++ S ++ above ∧ (∀ y ∈ ins, y.modal = false) ∧ (∀ a l, above = a :: l → a.modal = true) ∧
      modalCount st = modalCount S + modalCount above := by
  obtain ⟨ins, above, h1, h2, h3⟩ := h
  refine ⟨ins, above, h1, h2, h3, ?_⟩
  rw [h1, modalCount_append, modalCount_append, modalCount_nonmodal h2]; omega

/-- a stack operation keeps `S` in place as long as a modal entry is left above it -/
theorem intact_op {S s s' : List Entry} (hJ : Intact S s) (hop : StackOp s s') (hcnt : modalCount S < modalCount s) :
    Intact S s' := by
  obtain ⟨ins, above, h1, h2, h3, h4⟩ := intact_count hJ
  have hne : above ≠ [] := by
    intro h0; rw [h0] at h4
    have : modalCount ([] : List Entry) = 0 := rfl
    omega
  obtain ⟨init, lst, hal⟩ := (List.eq_nil_or_concat above).resolve_left hne
  rw [List.concat_eq_append] at hal
  have hlast : s.getLast? = some lst := by rw [h1, hal]; simp [← List.append_assoc]
  have hdrop : s.dropLast = ins ++ S ++ init := by
    rw [h1, hal, ← List.append_assoc, List.dropLast_concat]
  cases hop with
  | bottom x hx =>
    refine ⟨x :: ins, above, by rw [h1]; rfl, ?_, h3⟩
    intro y hy
    rcases List.mem_cons.1 hy with rfl | hy
    · exact hx
    · exact h2 y hy
  | top x =>
    refine ⟨ins, above ++ [x], by rw [h1, List.append_assoc], h2, ?_⟩
    intro a l hal'
    cases above with
    | nil => exact absurd rfl hne
    | cons a0 l0 =>
      simp only [List.cons_append, List.cons.injEq] at hal'
      rw [← hal'.1]; exact h3 a0 l0 rfl
  | repl old x hold hx =>
    rw [hlast] at hold; cases hold
    refine ⟨ins, init ++ [x], by rw [hdrop, List.append_assoc], h2, ?_⟩
    intro a l hal'
    cases init with
    | nil =>
      simp only [List.nil_append, List.cons.injEq] at hal'
      rw [← hal'.1, hx]
      exact h3 lst [] (by rw [hal]; rfl)
    | cons a0 l0 =>
      simp only [List.cons_append, List.cons.injEq] at hal'
      rw [← hal'.1]
      exact h3 a0 (l0 ++ [lst]) (by rw [hal]; rfl)
  | pop old hold =>
    refine ⟨ins, init, hdrop, h2, ?_⟩
    intro a l hal'
    rw [hal'] at hal
    exact h3 a (l ++ [lst]) (by rw [hal]; rfl)

/-- the history hypotheses of the intact clause (`NoErr` is not among them: since `close_screen` checks
`closed_from` before it pops, quiescence outside the windows needs no such hypothesis —
`quiescent_of_head_fix`) -/
structure IntactHyps (c : Cfg) : Prop where
  qd : WFQuietDrain c
  wc : WFClose c
  wd : WFDrain c
  nf : NoForceQuit c

theorem IntactHyps.mono {c c' : Cfg} (g : Grow c c') (h : IntactHyps c') : IntactHyps c :=
  ⟨WFQuietDrain.mono g h.qd, WFClose.mono g h.wc, WFDrain.mono g h.wd, NoForceQuit.mono g h.nf⟩

variable {P : Prog} {c0 c c' c1 c2 c3 : Cfg}

theorem levels_above_call {ca : Cfg} (h0 : Started c0) (hra : Reach P c0 ca) {q : Nat} {K X : List Instr}
    {L : List Nat} (hK : markersA K = L.reverse) (hqL : q ∉ L) (hcode : ca.code = X ++ .mainCheck q :: K)
    (hw : WFOpen ca) (hd : WFDrain ca) (hf : NoForceQuit ca) (hq : q ∈ ca.L.levels) :
    L.length + 1 ≤ ca.L.levels.length := by
  have hm : markersA ca.code = markersA X ++ q :: L.reverse := by
    rw [hcode, markersA_append]
    show markersA X ++ (q :: markersA K) = _
    rw [hK]
  rcases reach_exact h0 hra hw hd hf with ho | ⟨_, hA | hB' | hB⟩
  · simpa using (markersA_over ho).symm.trans hm
  · have h1 : markersA ca.code = ca.L.levels.reverse := hA.2
    have := congrArg List.length (h1.symm.trans hm)
    simp at this; omega
  · have h1 : markersA ca.code = ca.L.levels.reverse := hB'.2.2
    have := congrArg List.length (h1.symm.trans hm)
    simp at this; omega
  · obtain ⟨_, _, _, _, q', _, h6⟩ := hB
    have h1 : markersA ca.code = q' :: ca.L.levels.reverse := h6
    rw [hm] at h1
    cases hX : markersA X with
    | nil =>
      rw [hX] at h1
      simp only [List.nil_append, List.cons.injEq] at h1
      have : ca.L.levels = L := List.reverse_inj.1 h1.2.symm
      rw [this] at hq
      exact absurd hq hqL
    | cons m ms =>
      rw [hX] at h1
      have := congrArg List.length h1
      simp at this; omega

theorem count_of_head (h0 : Started c0) (hi : InitScreenOnly c0) (hP : ScreenOnly P) (hC : ClosedSilent P)
    (hr : Reach P c0 c) (hq : WFQuietDrain c) {h : Instr} {rest : List Instr} (hc : c.code = h :: rest)
    (hh : h.isWindowHead = false) (hno : overCode c.code = false) : modalCount c.A.stack + 1 = c.L.levels.length := by
  rcases quiescent_of_head_fix h0 hi hP hC hr hq hc hh with ho | ⟨_, _, h3⟩
  · exact absurd (hno ▸ ho : false = true) nofun
  · exact h3

/-- while the frame `mainCheck q :: K` of a modal screen's level `q` is on the call stack and no stack operation
follows the pop of level `q`, the stack `S` beneath the modal entry stays in place -/
theorem intact_along (h0 : Started c0) (hi : InitScreenOnly c0) (hP : ScreenOnly P) (hC : ClosedSilent P)
    (hr1 : Reach P c0 c1) {q : Nat} {K : List Instr} {S : List Entry} {e : Entry} {L : List Nat}
    (hc1 : c1.code = .mainCheck q :: K) (hst1 : c1.A.stack = S ++ [e]) (he : e.modal = true)
    (hq1 : q ∈ c1.L.levels) (hnq1 : q < c1.sv.nq) (hKL : markersA K = L.reverse) (hqL : q ∉ L)
    (hcnt0 : modalCount S + 1 = L.length) (hr2 : Reach P c1 c2) (hfr : ∃ X, c2.code = X ++ .mainCheck q :: K)
    (haft : ∀ t1 t0, newTr c1 c2 = t1 ++ Tr.closeLevel q :: t0 → ∀ w st, Tr.stackOp w st ∉ t1) (hh : IntactHyps c2) :
    Intact S c2.A.stack ∧ (q ∈ c2.L.levels ∨ Tr.closeLevel q ∈ newTr c1 c2) := by
  revert hfr haft hh
  refine reach_induction_trans (P := P) (c1 := c1)
    (motive := fun cx => (∃ X, cx.code = X ++ .mainCheck q :: K) →
      (∀ t1 t0, newTr c1 cx = t1 ++ Tr.closeLevel q :: t0 → ∀ w st, Tr.stackOp w st ∉ t1) → IntactHyps cx →
      Intact S cx.A.stack ∧ (q ∈ cx.L.levels ∨ Tr.closeLevel q ∈ newTr c1 cx)) ?_ ?_ hr2
  · refine fun _ _ _ => ⟨⟨[], [e], (by rw [hst1]; rfl), (fun y hy => nomatch hy), fun a l hal => ?_⟩, .inl hq1⟩
    cases hal; exact he
  · intro ca cb hra htab ih hfr haft hhb
    have hra0 : Reach P c0 ca := reach_reach hr1 hra
    have gab : Grow ca cb := trans_grow htab
    have hsplit := newTr_trans (reach_grow hra) gab
    obtain ⟨evs, hs, hev, _⟩ := trans_sstep htab
    have hha : IntactHyps ca := hhb.mono gab
    -- the frame is there before the transition: once gone, it would not be there afterwards
    have hfra : ∃ X, ca.code = X ++ .mainCheck q :: K := by
      obtain ⟨hfi, hqa⟩ := reach_frameInv h0 hr1 (.inl ⟨[], hc1⟩) hnq1 hra
      refine hfi.resolve_right fun h => ?_
      obtain ⟨Y, hY⟩ := hfr
      exact frame_gone_step (reach_basic h0 hra0).chained hqa h hs
        (by show q ∈ markersA cb.code; rw [hY]; exact mem_markersA_append_mainCheck Y q K)
    obtain ⟨hJ, hlv⟩ := ih hfra
      (fun t1 t0 h1 w st hm =>
        haft (newTr ca cb ++ t1) t0 (by rw [hsplit, h1, List.append_assoc]) w st (List.mem_append_right _ hm)) hha
    obtain ⟨X, hX⟩ := hfra
    refine ⟨?_, ?_⟩
    · cases stack_step hs with
      | same h1 _ => show Intact _ cb.sv.stack; rw [h1]; exact hJ
      | @op h rest w st hcode hwin hop hstack =>
        -- the level is still open (no stack operation after it was closed)
        have hqa : q ∈ ca.L.levels := by
          refine hlv.resolve_right fun h1 => ?_
          obtain ⟨t1, t0, h2⟩ := List.append_of_mem h1
          exact haft (newTr ca cb ++ t1) t0 (by rw [hsplit, h2, List.append_assoc]) w st
            (List.mem_append_left _ ((mem_newTr_iff hev rfl).2 hop))
        have hcnt := count_of_head h0 hi hP hC hra0 hha.qd (show ca.code = h :: rest from hcode) hwin
          (by rw [hX, overCode_frame])
        have hlen := levels_above_call h0 hra0 hKL hqL hX (WFOpen.of_WFClose hha.wc) hha.wd hha.nf hqa
        exact intact_op hJ hstack (by omega)
    · rw [hsplit]
      rcases hlv with h1 | h1
      · rcases level_step hs h1 with h2 | h2 | h2
        · exact .inl h2
        · exact .inr (List.mem_append_left _ ((mem_newTr_iff hev rfl).2 h2))
        · exact absurd (mem_tr_of_mem_newTr gab ((mem_newTr_iff hev rfl).2 h2)) hhb.nf
      · exact .inr (List.mem_append_right _ h1)

/-- **intact**, at the moment the modal loop's activation returns -/
theorem intact (h0 : Started c0) (hi : InitScreenOnly c0) (hP : ScreenOnly P) (hC : ClosedSilent P)
    (hr : Reach P c0 c) {scr : Nat} {args : Option Nat} {K0 : List Instr}
    (hc : c.code = .pushModal scr args :: K0) (hs1 : step P c = .ok c') (hs2 : step P c' = .ok c1)
    (hr2 : Reach P c1 c2) (ht : Trans P c2 c3) (hret : Tr.loopReturn c.L.queues.length ∈ newTr c2 c3)
    (hh : IntactHyps c3)
    (hafter : ∀ t1 t0, newTr c1 c2 = t1 ++ Tr.closeLevel c.L.queues.length :: t0 →
      ∀ w st, Tr.stackOp w st ∉ t1) :
    (∃ ins, c2.A.stack = ins ++ c.A.stack ∧ ∀ y ∈ ins, y.modal = false) ∧
    c2.code = .mainCheck c.L.queues.length :: .modalRet ⟨c.A.nextEid, scr, args, true⟩ :: K0 ∧
    c3.code = .restoreRun :: .modalRet ⟨c.A.nextEid, scr, args, true⟩ :: K0 ∧ c3.A.stack = c2.A.stack := by
  obtain ⟨c'', s, hs1', hsv'⟩ := step_pushModal (P := P) hc
  cases hs1.symm.trans hs1'
  let e : Entry := ⟨c.A.nextEid, scr, args, true⟩
  let K : List Instr := .modalRet e :: K0
  have hc' : c'.code = .newLoop s :: K := by show c'.sv.code = _; rw [hsv']; rfl
  have hlev' : c'.L.levels = c.L.levels := by show c'.sv.levels = _; rw [hsv']; rfl
  have hnq' : c'.L.queues.length = c.L.queues.length := by show c'.sv.nq = _; rw [hsv']; rfl
  have hst' : c'.A.stack = c.A.stack ++ [e] := by show c'.sv.stack = _; rw [hsv']; rfl
  have hr' : Reach P c0 c' := .step hr hs1
  have g13 : Grow c1 c3 := (reach_grow hr2).trans (trans_grow ht)
  have g'3 : Grow c' c3 := (trans_grow (.step hs2)).trans g13
  have hfq' : c'.L.forceQuit = false := by
    cases hb : c'.L.forceQuit with
    | false => rfl
    | true =>
      obtain ⟨n, hn⟩ := g'3
      exact absurd (hn ▸ List.mem_append_right _ (reach_fq_event h0 hr' hb)) hh.nf
  obtain ⟨c1', hs2', hsv1⟩ := step_newLoop (P := P) hc' hfq'
  cases hs2.symm.trans hs2'
  rw [← hnq'] at hret hafter ⊢
  obtain ⟨hc2, hc3, _, _, _, hlev2, _, hKL⟩ :=
    return_of_call h0 hr' hc' hfq' hs2 hr2 ht hret (WFOpen.of_WFClose hh.wc) hh.wd hh.nf
  have hh2 : IntactHyps c2 := hh.mono (trans_grow ht)
  have hcnt0 := count_of_head h0 hi hP hC hr (((trans_grow (.step hs1)).trans g'3 |> WFQuietDrain.mono) hh.qd) hc rfl
    (not_over_of_head hc nofun)
  obtain ⟨hJ, _⟩ := intact_along h0 hi hP hC (.step hr' hs2) (S := c.A.stack) (e := e) (L := c'.L.levels)
    (by show c1.sv.code = _; rw [hsv1]; rfl) (by show c1.sv.stack = _; rw [hsv1]; exact hst') rfl
    (by show _ ∈ c1.sv.levels; rw [hsv1]; exact List.mem_append_right _ (List.mem_cons_self ..))
    (by rw [hsv1]; exact Nat.lt_succ_self _) hKL
    (fun hm => Nat.lt_irrefl _ ((reach_basic h0 hr').llt _ hm)) (hlev' ▸ hcnt0) hr2 ⟨[], hc2⟩ hafter hh2
  -- at the return the levels are those of the call: no modal entry is left above `S`
  have hcnt2 := count_of_head h0 hi hP hC (reach_reach (.step hr' hs2) hr2) hh2.qd hc2 rfl (not_over_of_head hc2 nofun)
  obtain ⟨ins, above, h1, h2, h3, h4⟩ := intact_count hJ
  have habove : above = [] := by
    cases above with
    | nil => rfl
    | cons a l =>
      have : modalCount (a :: l) = modalCount l + 1 := by rw [modalCount_cons, h3 a l rfl]; rfl
      rw [hlev2, hlev'] at hcnt2
      omega
  refine ⟨⟨ins, by rw [h1, habove, List.append_nil], h2⟩, hc2, hc3, ?_⟩
  obtain ⟨evs, hs, hev, _⟩ := trans_sstep ht
  obtain ⟨rest', _, _, _, h5⟩ := loopReturn_step hs ((mem_newTr_iff hev rfl).1 hret)
  show c3.sv.stack = c2.sv.stack
  rw [h5]

theorem noOpAfterClose_spec {q : Nat} {t1 t0 : List Tr} (h : noOpAfterCloseB q (t1 ++ Tr.closeLevel q :: t0) = true) :
    ∀ w st, Tr.stackOp w st ∉ t1 := by
  induction t1 with
  | nil => intro w st hm; cases hm
  | cons t t1 ih =>
    simp only [List.cons_append, noOpAfterCloseB, Bool.and_eq_true] at h
    intro w st hm
    rcases List.mem_cons.1 hm with h1 | h1
    · subst h1
      have h2 := h.1
      simp [Tr.isStackOp'] at h2
    · exact ih h.2 w st h1

/-- the property-level statement, without `NoErr` -/
theorem intact'_fix (h0 : Started c0) (hi : InitScreenOnly c0) (hP : ScreenOnly P) (hC : ClosedSilent P)
    (hr : Reach P c0 c) {scr : Nat} {args : Option Nat} {K0 : List Instr}
    (hc : c.code = .pushModal scr args :: K0) (hs1 : step P c = .ok c') (hs2 : step P c' = .ok c1)
    (hr2 : Reach P c1 c2) (ht : Trans P c2 c3) (hret : Tr.loopReturn c.L.queues.length ∈ newTr c2 c3)
    (hq : WFQuietDrain c3) (hw : WFClose c3) (hd : WFDrain c3) (hf : NoForceQuit c3)
    (hafter : NoStackOpAfterClose c.L.queues.length (newTr c1 c2)) :
    (∃ ins, c2.A.stack = ins ++ c.A.stack ∧ ∀ y ∈ ins, y.modal = false) ∧
    c2.code = .mainCheck c.L.queues.length :: .modalRet ⟨c.A.nextEid, scr, args, true⟩ :: K0 ∧
    c3.code = .restoreRun :: .modalRet ⟨c.A.nextEid, scr, args, true⟩ :: K0 ∧ c3.A.stack = c2.A.stack :=
  intact h0 hi hP hC hr hc hs1 hs2 hr2 ht hret ⟨hq, hw, hd, hf⟩
    (fun t1 t0 h => noOpAfterClose_spec (by rw [← h]; exact hafter))

/-- the same under the (superfluous) hypothesis `NoErr` -/
theorem intact' (h0 : Started c0) (hi : InitScreenOnly c0) (hP : ScreenOnly P) (hC : ClosedSilent P)
    (hr : Reach P c0 c) {scr : Nat} {args : Option Nat} {K0 : List Instr}
    (hc : c.code = .pushModal scr args :: K0) (hs1 : step P c = .ok c') (hs2 : step P c' = .ok c1)
    (hr2 : Reach P c1 c2) (ht : Trans P c2 c3) (hret : Tr.loopReturn c.L.queues.length ∈ newTr c2 c3)
    (_hn : NoErr c3) (hq : WFQuietDrain c3) (hw : WFClose c3) (hd : WFDrain c3) (hf : NoForceQuit c3)
    (hafter : NoStackOpAfterClose c.L.queues.length (newTr c1 c2)) :
    (∃ ins, c2.A.stack = ins ++ c.A.stack ∧ ∀ y ∈ ins, y.modal = false) ∧
    c2.code = .mainCheck c.L.queues.length :: .modalRet ⟨c.A.nextEid, scr, args, true⟩ :: K0 ∧
    c3.code = .restoreRun :: .modalRet ⟨c.A.nextEid, scr, args, true⟩ :: K0 ∧ c3.A.stack = c2.A.stack :=
  intact'_fix h0 hi hP hC hr hc hs1 hs2 hr2 ht hret hq hw hd hf hafter

end Shape

end Simpleline
