/-
  Executions of the abstract machine: induction over `Reach` one transition at a time, bounded runs, and the
  events a transition adds to the trace and the log.
-/
import Simpleline.Spec.InputSpec

namespace Simpleline

theorem reach_trans {P : Prog} {c0 c c' : Cfg} (hr : Reach P c0 c) (ht : Trans P c c') : Reach P c0 c' := by
  cases ht with
  | step hs => exact .step hr hs
  | deliver hd => exact .deliver hr hd
  | halt hs => exact .halt hr hs

theorem reach_induction {P : Prog} {c0 : Cfg} {motive : Cfg → Prop} (h0 : motive c0)
    (hstep : ∀ c c', Reach P c0 c → motive c → Trans P c c' → motive c') {c : Cfg} (hr : Reach P c0 c) : motive c := by
  induction hr with
  | init => exact h0
  | step hr hs ih => exact hstep _ _ hr ih (.step hs)
  | deliver hr hd ih => exact hstep _ _ hr ih (.deliver hd)
  | halt hr hs ih => exact hstep _ _ hr ih (.halt hs)

theorem reach_reach {P : Prog} {c0 c1 c2 : Cfg} (h1 : Reach P c0 c1) (h2 : Reach P c1 c2) : Reach P c0 c2 :=
  reach_induction h1 (fun _ _ _ ih ht => reach_trans ih ht) h2

theorem Reach.trans_cases {P : Prog} {c0 c : Cfg} (hr : Reach P c0 c) :
    c = c0 ∨ ∃ c1, Reach P c0 c1 ∧ Trans P c1 c := by
  cases hr with
  | init => exact .inl rfl
  | step hr hs => exact .inr ⟨_, hr, .step hs⟩
  | deliver hr hd => exact .inr ⟨_, hr, .deliver hd⟩
  | halt hr hs => exact .inr ⟨_, hr, .halt hs⟩

/-- `reach_induction` with the machine's own steps, completed or halting, apart from the deliveries -/
theorem reach_step_induction {P : Prog} {c0 : Cfg} {I : Cfg → Prop} (h0 : I c0)
    (hs : ∀ c, Reach P c0 c → I c → I (final (step P c)))
    (hd : ∀ c c', Reach P c0 c → I c → c.deliver = some c' → I c') {c : Cfg} (h : Reach P c0 c) : I c := by
  refine reach_induction h0 (fun c c' hr ih ht => ?_) h
  cases ht with
  | step hst => have := hs c hr ih; rwa [hst] at this
  | deliver hdl => exact hd c c' hr ih hdl
  | halt hst => have := hs c hr ih; rwa [hst] at this

/-! The configuration `run()` starts from: nothing has happened yet, one level with an empty queue, the flags as
`MainLoop.__init__` leaves them, and the code is the start-up actions followed by `run()`. -/

theorem Started.tr {c0 : Cfg} (h : Started c0) : c0.tr = [] := by obtain ⟨_, _, _, _, rfl⟩ := h; rfl

theorem Started.log {c0 : Cfg} (h : Started c0) : c0.log = [] := by obtain ⟨_, _, _, _, rfl⟩ := h; rfl

theorem Started.code {c0 : Cfg} (h : Started c0) : ∃ init : List Act, c0.code = init.map .act ++ [.apprun] := by
  obtain ⟨init, _, _, _, rfl⟩ := h; exact ⟨init, rfl⟩

theorem Started.queues {c0 : Cfg} (h : Started c0) : c0.L.queues = [{}] := by obtain ⟨_, _, _, _, rfl⟩ := h; rfl

theorem Started.levels {c0 : Cfg} (h : Started c0) : c0.L.levels = [0] := by obtain ⟨_, _, _, _, rfl⟩ := h; rfl

theorem Started.runLoop {c0 : Cfg} (h : Started c0) : c0.L.runLoop = true := by obtain ⟨_, _, _, _, rfl⟩ := h; rfl

theorem Started.tickets {c0 : Cfg} (h : Started c0) : c0.L.tickets = [] := by obtain ⟨_, _, _, _, rfl⟩ := h; rfl

/-- the three handlers the library registers itself come first -/
theorem Started.handlers {c0 : Cfg} (h : Started c0) :
    ∃ hs, c0.L.handlers = [(.render, .render, none), (.close, .close, none), (.inputReceived, .itm, none)] ++ hs := by
  obtain ⟨_, hs, _, _, rfl⟩ := h; exact ⟨hs, rfl⟩

theorem Started.A {c0 : Cfg} (h : Started c0) : ∃ stdin, c0.A = { stdin := stdin } := by
  obtain ⟨_, _, _, stdin, rfl⟩ := h; exact ⟨stdin, rfl⟩

theorem reach_runFuel {P : Prog} {c0 c : Cfg} (n : Nat) (h : Reach P c0 c) : Reach P c0 (runFuel P n c).1 := by
  induction n generalizing c with
  | zero => exact h
  | succ n ih =>
    unfold runFuel
    split
    · rename_i c' hs; exact ih (.step h hs)
    · rename_i o c' hs; exact .halt h hs

theorem reach_of_run {P : Prog} {c0 : Cfg} (n : Nat) {p : Cfg → Prop} (h : p (runFuel P n c0).1) :
    ∃ c, Reach P c0 c ∧ p c :=
  ⟨_, reach_runFuel n .init, h⟩

theorem newTr_of_append {c c' : Cfg} {new : List Tr} (h : c'.tr = new ++ c.tr) : newTr c c' = new := by
  simp [newTr, h]

theorem mem_newTr {c c' : Cfg} {d : List Tr} (h : c'.tr = d ++ c.tr) {t : Tr} : t ∈ newTr c c' ↔ t ∈ d := by
  rw [newTr_of_append h]

theorem newLog_of_append {c c' : Cfg} {new : List Ev} (h : c'.log = new ++ c.log) : newLog c c' = new := by
  simp [newLog, h]

end Simpleline
