/-
  C20, loop level: small concrete programs for the counterexample and the non-vacuity examples of `Props/C20.lean`.
  The program state is the list of the ids of the signals handled so far (so a different dispatch order is a
  different state).
-/
import Simpleline.Spec.GLoopSpec

namespace Simpleline.GLoop

/-- G1: the handler of signal 1 enqueues a more urgent signal (3, priority -10) -/
def exUrgent : Prog (List Nat) := fun st s =>
  (st ++ [s.id], if s.id = 1 then [⟨3, 1, -10⟩] else [])

def exUrgentInit : List GSig := [⟨1, 0, 0⟩, ⟨2, 0, 0⟩]

/-- handlers enqueue signals of the priority being dispatched while the batch `[1, 2]` is under way;
the handler of such an arrival (4) enqueues again -/
def exSame : Prog (List Nat) := fun st s =>
  (st ++ [s.id],
   if s.id = 1 then [⟨4, 1, 0⟩]
   else if s.id = 2 then [⟨5, 1, 0⟩]
   else if s.id = 4 then [⟨6, 1, 0⟩]
   else [])

def exSameInit : List GSig := [⟨1, 0, 0⟩, ⟨2, 0, 0⟩, ⟨3, 0, 5⟩]

/-- a calm program with four priorities; handlers enqueue less urgent, equally urgent and (the last one, with
nothing else pending) more urgent signals -/
def exCalm : Prog (List Nat) := fun st s =>
  (st ++ [s.id],
   if s.id = 2 then [⟨5, 1, 0⟩, ⟨6, 1, -5⟩]
   else if s.id = 1 then [⟨7, 1, 10⟩, ⟨8, 1, 0⟩]
   else if s.id = 7 then [⟨9, 1, -20⟩]
   else [])

def exCalmInit : List GSig := [⟨1, 0, 0⟩, ⟨2, 0, -5⟩, ⟨3, 0, 0⟩, ⟨4, 0, 10⟩]

/-- not calm but sibling-calm: the handler of 1 (priority 0) enqueues the more urgent 3 (priority -3) while only
the less urgent 2 (priority 5) is pending -/
def exSib : Prog (List Nat) := fun st s =>
  (st ++ [s.id], if s.id = 1 then [⟨3, 1, -3⟩] else [])

def exSibInit : List GSig := [⟨1, 0, 0⟩, ⟨2, 0, 5⟩]

/-- equal signals: the same signal value is pending twice and is enqueued once more by a handler -/
def exDup : Prog (List Nat) := fun st s =>
  (st ++ [s.id], if s.id = 2 ∧ st.length < 2 then [⟨1, 0, 0⟩, ⟨2, 0, -1⟩] else [])

def exDupInit : List GSig := [⟨1, 0, 0⟩, ⟨2, 0, -1⟩, ⟨1, 0, 0⟩, ⟨3, 0, 0⟩]

def ids (l : List GSig) : List Nat := l.map (·.id)

end Simpleline.GLoop
