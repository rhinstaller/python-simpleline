/-
  Association lists as insertion-ordered dictionaries: `alookup`, `aset`, `aerase`.
-/
import Simpleline.Spec.ObjectsSpec

namespace Simpleline.Objects

section
variable {κ β : Type} [DecidableEq κ]

theorem alookup_aset (k k' : κ) (v : β) (d : List (κ × β)) :
    alookup k' (aset k v d) = if k = k' then some v else alookup k' d := by
  induction d with
  | nil => simp [aset, alookup]
  | cons p r ih =>
    obtain ⟨a, b⟩ := p
    simp only [aset, alookup]
    split <;> simp only [alookup] <;> grind

theorem keys_aset (k : κ) (v : β) (d : List (κ × β)) :
    (aset k v d).map Prod.fst = if k ∈ d.map Prod.fst then d.map Prod.fst else d.map Prod.fst ++ [k] := by
  induction d with
  | nil => simp [aset]
  | cons p r ih =>
    obtain ⟨a, b⟩ := p
    simp only [aset]
    split <;> grind

theorem nodup_keys_aset (k : κ) (v : β) (d : List (κ × β)) (h : (d.map Prod.fst).Nodup) :
    ((aset k v d).map Prod.fst).Nodup := by
  rw [keys_aset]; split
  · exact h
  · next hk =>
    exact List.nodup_append.2
      ⟨h, List.pairwise_singleton _ _, fun a ha b hb e => hk (List.mem_singleton.1 hb ▸ e ▸ ha)⟩

theorem mem_aset {k : κ} {v : β} {d : List (κ × β)} {p : κ × β} (h : p ∈ aset k v d) :
    p = (k, v) ∨ p ∈ d := by
  induction d with
  | nil => simp_all [aset]
  | cons q r ih =>
    obtain ⟨a, b⟩ := q
    simp only [aset] at h
    split at h <;> grind

theorem alookup_eq_none_iff (k : κ) (d : List (κ × β)) : alookup k d = none ↔ k ∉ d.map Prod.fst := by
  induction d with
  | nil => simp [alookup]
  | cons q r ih => obtain ⟨a, b⟩ := q; simp only [alookup]; split <;> grind

theorem mem_of_alookup {k : κ} {v : β} {d : List (κ × β)} (h : alookup k d = some v) : (k, v) ∈ d := by
  induction d with
  | nil => simp [alookup] at h
  | cons q r ih => obtain ⟨a, b⟩ := q; simp only [alookup] at h; split at h <;> grind

theorem mem_iff_alookup {k : κ} {v : β} {d : List (κ × β)} (hn : (d.map Prod.fst).Nodup) :
    (k, v) ∈ d ↔ alookup k d = some v := by
  refine ⟨fun h => ?_, mem_of_alookup⟩
  induction d with
  | nil => simp at h
  | cons q r ih =>
    obtain ⟨a, b⟩ := q
    simp only [alookup]
    split
    · grind
    · grind

theorem aerase_sublist (k : κ) (d : List (κ × β)) : (aerase k d).Sublist d := by
  induction d with
  | nil => simp [aerase]
  | cons q r ih => obtain ⟨a, b⟩ := q; simp only [aerase]; split <;> grind

theorem alookup_aerase (k k' : κ) (d : List (κ × β)) (h : (d.map Prod.fst).Nodup) :
    alookup k' (aerase k d) = if k = k' then none else alookup k' d := by
  induction d with
  | nil => simp [aerase, alookup]
  | cons q r ih =>
    obtain ⟨a, b⟩ := q
    rw [List.map_cons, List.nodup_cons] at h
    simp only [aerase, alookup]
    by_cases hak : a = k
    · -- the erased pair: no other pair has its key
      subst hak
      rw [if_pos rfl]
      split
      · next e => rw [← e]; exact (alookup_eq_none_iff _ _).2 h.1
      · rfl
    · rw [if_neg hak]
      simp only [alookup, ih h.2]
      split
      · next e => rw [if_neg (e ▸ Ne.symm hak)]
      · rfl

theorem alookup_map_val (f : β → β) (k : κ) (d : List (κ × β)) :
    alookup k (d.map fun kv => (kv.1, f kv.2)) = (alookup k d).map f := by
  induction d with
  | nil => simp [alookup]
  | cons q r ih => obtain ⟨a, b⟩ := q; simp only [List.map_cons, alookup]; split <;> simp_all

omit [DecidableEq κ] in
theorem keys_map_val (f : κ × β → β) (d : List (κ × β)) :
    (d.map fun kv => (kv.1, f kv)).map Prod.fst = d.map Prod.fst := by
  simp [List.map_map, Function.comp_def]

end

end Simpleline.Objects
