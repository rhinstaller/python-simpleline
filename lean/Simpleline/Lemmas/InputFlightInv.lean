/-
  The invariant `FlightOK`: at most one typed line is in flight between the console and the hand-off, and only while
  the input subsystem is busy (needs `NoForge` and `UserHandlers`). With the invariants of `InputInv.lean` it gives
  the pipeline invariant `InputInv` of C18 in every reachable configuration (`inputInv_reach`).
-/
import Simpleline.Lemmas.InputFlight

namespace Simpleline.Input
open InputOrder

/-- the typed lines in flight: with a waiting reader thread, or in an `InputReceivedSignal` in a queue or in the code -/
def fl (c : Cfg) : Nat := c.A.readers.length + irQ c.L.queues + irCode c.code

def FlightOK (c : Cfg) : Prop := fl c ≤ c.A.processing.toNat

theorem fl_eq_inFlight (c : Cfg) : fl c = inFlight c := by
  unfold fl inFlight; rw [irQueued_eq]

def Fle (c' c : Cfg) : Prop := fl c' ≤ fl c ∧ c'.A.processing = c.A.processing

theorem Fle_trans {a b c : Cfg} (h1 : Fle a b) (h2 : Fle b c) : Fle a c :=
  ⟨Nat.le_trans h1.1 h2.1, h1.2.trans h2.2⟩

theorem FlightOK_of_Fle {c c' : Cfg} (h : Fle c' c) (hf : FlightOK c) : FlightOK c' := by
  unfold FlightOK at *; rw [h.2]; exact Nat.le_trans h.1 hf

theorem Fle_calm {c X : Cfg} (h : Calm c X) (hc : irCode X.code ≤ irCode c.code) : Fle X c := by
  unfold Fle fl; rw [h.readers, h.irQ]; exact ⟨by omega, h.processing⟩

theorem Fle_delivers {X Y : Cfg} (h : Delivers X Y) : Fle Y X := by
  rcases h with rfl | h
  · exact ⟨Nat.le_refl _, rfl⟩
  · have := irQ_deliver h
    unfold Fle fl; rw [deliver_code h]; exact ⟨by omega, deliver_processing h⟩

theorem Fle_push (X : Cfg) {is : List Instr} (h : irCode is = 0) : Fle (push X is) X := by
  unfold Fle fl; rw [push_code, irCode_append, h]; exact ⟨by rw [push_A, push_L]; omega, rfl⟩

/-- the signal taken from the queue is the one `processSignal` is pushed for -/
theorem Fle_pop {Y : Cfg} {e : Int × Nat × Sig} {es : List (Int × Nat × Sig)} {more : List Instr}
    (he : Y.L.activeQ.entries = e :: es) (hm : more.all Instr.inert = true) :
    Fle (push (Y.pop e es) (.processSignal e.2.2 :: more)) Y := by
  have := irQ_pop Y e es he
  unfold Fle fl
  rw [push_code, irCode_append, irCode_cons, irCode_inert hm, pop_code, push_A, push_L, pop_A]
  refine ⟨?_, rfl⟩
  simp only [Instr.irPending, isIR, decide_eq_true_eq] at this ⊢
  omega

theorem Fle_emit (P : Prog) (X : Cfg) (e : Ev) : Fle (X.emit P e) X :=
  Fle_trans (Fle_delivers (delivers_emit P X e)) ⟨Nat.le_refl _, rfl⟩

theorem Passes.irCode {c : Cfg} {ins : Instr} {new : List Instr} {t : List Tr} (h : Passes c ins new t) (hH : HandlersOK c) :
    irCode new = ins.irPending := by
  rw [irCode_eq, h.recv hH, irPending_eq]

theorem FlightOK_startRequest (c : Cfg) (ih : Nat) (requester : Src) (text : Str) (h : FlightOK c) :
    FlightOK (final (startRequest c ih requester text)) := by
  rw [startRequest_eq]
  split
  · exact FlightOK_of_Fle (Fle_calm ((Quiet.refl _).raise _).toCalm (irCode_sublist (raise_code _ _))) h
  · split
    · rename_i hp
      simp [FlightOK, fl, reqRecorded, hp] at h ⊢
      exact h
    · rename_i hp
      have hp' : c.A.processing = false := by simpa using hp
      unfold FlightOK fl at h ⊢
      rw [hp'] at h
      simp only [final_ok, write_readers, write_L, write_code, write_processing, reqRecorded, List.length_append,
        List.length_cons, List.length_nil, Bool.toNat_true, Bool.toNat_false] at h ⊢
      omega

theorem flight_step (P : Prog) (c : Cfg) (hP : P.NoForge) (hc : cleanCode c.code) (hH : HandlersOK c) (hf : FlightOK c) :
    FlightOK (final (step P c)) := by
  obtain ⟨_, hfin⟩ | ⟨ins, rest, c', hcode, hfin, h⟩ := step_cases P c <;> rw [hfin]
  · exact hf
  have hins : ins.clean = true := hc ins (hcode ▸ List.mem_cons_self)
  have hi : irCode c.code = ins.irPending + irCode rest := by rw [hcode, irCode_cons]
  have calm {c' : Cfg} {new rest' : List Instr} (hX : Calm c c') (hc' : c'.code = new ++ rest') (hsub : rest'.Sublist rest)
      (hn : new.all Instr.inert = true) : FlightOK c' := by
    refine FlightOK_of_Fle (Fle_calm hX ?_) hf
    have := irCode_sublist hsub
    rw [hc', hi, irCode_append, irCode_inert hn]; omega
  cases h with
  | calm new rest' hX hc' hsub hn => exact calm hX.toCalm hc' hsub hn
  | pass new t hX hc' hp =>
    refine FlightOK_of_Fle (Fle_calm (hp.calm hX) ?_) hf
    rw [push_code, hc', hi, irCode_append, hp.irCode hH]; omega
  | enq s new hX hc' hs hn =>
    refine FlightOK_of_Fle (Fle_trans (Fle_push _ (irCode_inert hn))
      (Fle_calm ((hs.calm hX).enqueue (hs.not_input hins)) ?_)) hf
    rw [enqueue_code, hs.code, hc', hi]; omega
  | emit e new hX hc' _ hn =>
    refine FlightOK_of_Fle (Fle_trans (Fle_push _ (irCode_inert (hn hP))) (Fle_trans (Fle_emit P _ e) (Fle_calm hX.toCalm ?_))) hf
    rw [hc', hi]; omega
  | idle hX hc' hd =>
    refine FlightOK_of_Fle (Fle_trans (Fle_delivers (.inr hd)) (Fle_calm hX.toCalm ?_)) hf
    rw [hc', hi]; omega
  | pop e es more _ hX hc' hd he hm =>
    refine FlightOK_of_Fle (Fle_trans (Fle_pop he hm) (Fle_trans (Fle_delivers hd) (Fle_calm hX.toCalm ?_))) hf
    rw [hc', hi]; omega
  | closeLevel q a => exact calm (new := []) (calm_closed c rest q a) rfl (.refl _) rfl
  | request ih src text new _ hX hc' hn =>
    apply FlightOK_startRequest
    unfold FlightOK fl at hf ⊢
    rw [hX.readers, hX.queues, hX.processing, hc', irCode_append, irCode_inert hn]
    omega
  | handoff s rs r hi' hst hA hc' _ hL =>
    subst hi'
    have hq := countP_enqueueAll_le isIR c (handoffSigs c.A.reqs rs r s.line (c.nextSid + 1))
    have h0 : (handoffSigs c.A.reqs rs r s.line (c.nextSid + 1)).countP isIR = 0 :=
      List.countP_eq_zero.mpr fun x hx => by simp [isIR, handoffSigs_cls _ _ _ _ _ x hx]
    have hb : c.A.processing.toNat ≤ 1 := by cases c.A.processing <;> simp
    have h1 : (Instr.inputReceived s).irPending = 1 := rfl
    unfold FlightOK fl at hf ⊢
    rw [hi, irQ_pending, h1] at hf
    rw [irQ_pending, hc', hA]
    show c.A.readers.length + List.countP isIR (c'.L.queues.flatMap EQueue.sigs) + irCode rest ≤ 0
    rw [hL]
    show c.A.readers.length + List.countP isIR (enqueueAll c _).pending + irCode rest ≤ 0
    omega
  | ready n s new hi' _ hX hc' hnew =>
    unfold FlightOK fl at hf ⊢
    rw [hX.readers, hX.queues, hX.processing, hc', irCode_append]
    have : irCode new = 0 := by rcases hnew with rfl | ⟨_, scr, rfl⟩ <;> rfl
    omega

theorem flight_reach {P : Prog} {c0 c : Cfg} (h0 : Started c0) (hU : UserHandlers c0) (hF : NoForge P c0)
    (h : Reach P c0 c) : FlightOK c := by
  refine reach_step_induction (I := FlightOK) ?_ ?_ ?_ h
  · unfold FlightOK fl
    rw [irCode_inert (inert_init h0 hF.2)]
    simp [(started_A h0).2.2.2.1, h0.queues, irQ, irq, EQueue.sigs]
  · intro c hr hi
    exact flight_step P c hF.1 (cleanCode_reach h0 hU hF hr) (handlersOK_reach h0 hU hr) hi
  · intro c c' _ hi hd
    exact FlightOK_of_Fle (Fle_delivers (.inr hd)) hi

theorem inputInv_reach {P : Prog} {c0 c : Cfg} (h0 : Started c0) (hU : UserHandlers c0) (hF : NoForge P c0)
    (h : Reach P c0 c) : InputInv c0 c := by
  have hr := objInv_reach h0 h
  have hfl := flight_reach h0 hU hF h
  unfold FlightOK at hfl
  rw [fl_eq_inFlight] at hfl
  have hb : c.A.processing.toNat ≤ 1 := by cases c.A.processing <;> simp
  refine ⟨hr.stack_valid, hr.readers_valid, hr.reqs_valid, hr.handlers, Nat.le_trans hfl hb, ?_,
    hr.processing⟩
  intro h1
  rw [h1] at hfl
  cases hp : c.A.processing
  · rw [hp] at hfl; simp at hfl
  · rfl

theorem reader_busy_of_inv {c0 c : Cfg} (hi : InputInv c0 c) (hrd : c.A.readers ≠ []) :
    c.A.processing = true ∧ c.A.inputStack ≠ [] ∧ c.A.readers.length = 1 ∧ irQueued c = 0 ∧ irCode c.code = 0 := by
  have h1 := hi.one_flight
  have hl : 0 < c.A.readers.length := List.length_pos_iff.mpr hrd
  unfold inFlight at h1
  have hp := hi.flight_processing (by unfold inFlight; omega)
  exact ⟨hp, hi.processing_iff.mp hp, by omega, by omega, by omega⟩

end Simpleline.Input
