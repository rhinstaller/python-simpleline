/-
  The typewriter `Widget.write` (C15): a step is `advance` on the position and, on the buffer, the drawing
  of a grid of one cell (`twStep_eq`, `setCell_eq_drawInto`); where it goes (`pathFrom`), and what it leaves in
  the cells it passes and in all the others.
-/
import Simpleline.Lemmas.Grid

namespace Simpleline

theorem set_padTo_eq_overlay (r : List Char) (y : Nat) (c : Char) :
    (padTo (y + 1) r).set y c = overlay r [c] y := by
  have hy : y < (padTo (y + 1) r).length := by
    rw [padTo_length]; exact Nat.lt_of_lt_of_le (Nat.lt_succ_self y) (Nat.le_max_right _ _)
  rw [overlay, List.set_eq_take_append_cons_drop, if_pos hy]
  simp

theorem setCell_eq_drawInto (buf : Grid) (x y : Nat) (c : Char) :
    setCell (extendRows buf (x + 1)) x y c = drawInto buf [[c]] x y := by
  rw [setCell, drawInto]
  apply List.ext_getElem?
  intro j
  rw [List.getElem?_modify, List.getElem?_mapIdx]
  cases (extendRows buf (x + 1))[j]? with
  | none => rfl
  | some r =>
    show some _ = some _
    congr 1
    dsimp only
    by_cases hj : x = j
    · subst hj
      rw [if_pos rfl, if_pos ⟨Nat.le_refl _, Nat.lt_succ_self _⟩, Nat.sub_self, set_padTo_eq_overlay]
      rfl
    · rw [if_neg hj, if_neg (by simp only [List.length_cons, List.length_nil]; omega)]

/-- reading order on positions -/
def posLt (p q : Nat × Nat) : Prop := p.1 < q.1 ∨ (p.1 = q.1 ∧ p.2 < q.2)

theorem posLt_trans {p q r : Nat × Nat} (h1 : posLt p q) (h2 : posLt q r) : posLt p r := by
  rcases h1 with h1 | ⟨e1, h1⟩ <;> rcases h2 with h2 | ⟨e2, h2⟩
  · exact Or.inl (Nat.lt_trans h1 h2)
  · exact Or.inl (e2 ▸ h1)
  · exact Or.inl (e1 ▸ h2)
  · exact Or.inr ⟨e1.trans e2, Nat.lt_trans h1 h2⟩

theorem posLt_ne {p q : Nat × Nat} (h : posLt p q) : q ≠ p := by
  intro e
  subst e
  rcases h with h | ⟨_, h⟩ <;> exact Nat.lt_irrefl _ h

variable (col : Nat) (width : Option Int) (block : Bool)

theorem advance_gt (p : Nat × Nat) (c : Char) :
    posLt p (advance col width block p c) := by
  cases width with
  | none =>
    rw [advance]
    split
    · exact Or.inl (Nat.lt_succ_self _)
    · exact Or.inr ⟨rfl, Nat.lt_succ_self _⟩
  | some w =>
    rw [advance]
    split
    · exact Or.inl (Nat.lt_succ_self _)
    · split
      · exact Or.inl (Nat.lt_succ_self _)
      · exact Or.inr ⟨rfl, Nat.lt_succ_self _⟩

theorem path_gt (cs : List Char) :
    ∀ (p q : Nat × Nat) (j : Nat), posLt p q → j < cs.length →
      posLt p ((pathFrom col width block q cs).getD j (0, 0)) := by
  induction cs with
  | nil => intro p q j _ hj; cases hj
  | cons c cs ih =>
    intro p q j hpq hj
    cases j with
    | zero => exact hpq
    | succ j => exact ih p _ j (posLt_trans hpq (advance_gt ..)) (Nat.lt_of_succ_lt_succ hj)

theorem path_increasing_gen (text : List Char) :
    ∀ (p : Nat × Nat) (i j : Nat), i < j → j < text.length →
      posLt ((pathFrom col width block p text).getD i (0, 0))
        ((pathFrom col width block p text).getD j (0, 0)) := by
  induction text with
  | nil => intro p i j _ hj; cases hj
  | cons c cs ih =>
    intro p i j hij hj
    cases j with
    | zero => cases hij
    | succ j =>
      have hj' : j < cs.length := Nat.lt_of_succ_lt_succ hj
      cases i with
      | zero => exact path_gt col width block cs p _ j (advance_gt ..) hj'
      | succ i => exact ih _ i j (Nat.lt_of_succ_lt_succ hij) hj'

theorem advance_within (w : Nat) (hw : 1 ≤ w) (hb : block = true ∨ col = 0)
    (p : Nat × Nat) (c : Char) (hp : p.2 < col + w ∧ col ≤ p.2) :
    (advance col (some (w : Int)) block p c).2 < col + w ∧
      col ≤ (advance col (some (w : Int)) block p c).2 := by
  have h0 : (if block = true then col else 0) = col := by
    rcases hb with hb | hb
    · rw [if_pos hb]
    · subst hb; split <;> rfl
  have hnl : (if block = true then col else 0) < col + w ∧ col ≤ (if block = true then col else 0) := by
    rw [h0]; exact ⟨Nat.lt_add_of_pos_right hw, Nat.le_refl _⟩
  rw [advance]
  by_cases hc : c = '\n'
  · rw [if_pos hc]; exact hnl
  · rw [if_neg hc]
    by_cases hw' : (col : Int) + w ≤ ((p.2 + 1 : Nat) : Int)
    · rw [if_pos hw']; exact hnl
    · rw [if_neg hw']; exact ⟨by omega, Nat.le_succ_of_le hp.2⟩

theorem path_within_gen (w : Nat) (hw : 1 ≤ w) (hb : block = true ∨ col = 0) (text : List Char) :
    ∀ (p : Nat × Nat) (i : Nat), (p.2 < col + w ∧ col ≤ p.2) → i < text.length →
      ((pathFrom col (some (w : Int)) block p text).getD i (0, 0)).2 < col + w ∧
      col ≤ ((pathFrom col (some (w : Int)) block p text).getD i (0, 0)).2 := by
  induction text with
  | nil => intro p i _ hi; cases hi
  | cons c cs ih =>
    intro p i hp hi
    cases i with
    | zero => exact hp
    | succ i => exact ih _ i (advance_within col block w hw hb p c hp) (Nat.lt_of_succ_lt_succ hi)

theorem twStep_eq (s : TW) (ch : Char) :
    twStep col width block s ch =
      { buf := if ch = '\n' then extendRows s.buf (s.x + 2) else setCell (extendRows s.buf (s.x + 1)) s.x s.y ch,
        x := (advance col width block (s.x, s.y) ch).1,
        y := (advance col width block (s.x, s.y) ch).2 } := by
  rw [twStep, advance.eq_def]
  by_cases hc : ch = '\n'
  · simp only [if_pos hc]
  · simp only [if_neg hc]
    cases width with
    | none => rfl
    | some w => dsimp only; split <;> rfl

theorem twStep_pos (s : TW) (ch : Char) :
    ((twStep col width block s ch).x, (twStep col width block s ch).y) =
      advance col width block (s.x, s.y) ch := by
  rw [twStep_eq]

theorem twStep_cell_same (s : TW) (ch : Char)
    (hc : ch ≠ '\n') :
    cell (twStep col width block s ch).buf s.x s.y = some ch := by
  rw [twStep_eq, if_neg hc, setCell_eq_drawInto]
  exact drawInto_inside s.buf [[ch]] s.x s.y 0 0 (Nat.lt_succ_self 0) (Nat.lt_succ_self 0)

theorem twStep_cell_other (s : TW) (ch : Char)
    (r c : Nat) (h : ch ≠ '\n' → (s.x, s.y) ≠ (r, c)) :
    cell (twStep col width block s ch).buf r c = cell s.buf r c ∨
      (cell s.buf r c = none ∧ cell (twStep col width block s ch).buf r c = some ' ') := by
  rw [twStep_eq]
  by_cases hc : ch = '\n'
  · rw [if_pos hc, cell_extendRows]; exact .inl rfl
  · rw [if_neg hc, setCell_eq_drawInto]
    by_cases hr : r = s.x
    · subst hr
      have hcy : c ≠ s.y := fun e => h hc (by rw [e])
      have := drawInto_outside s.buf [[ch]] s.x s.y 0 c (Nat.lt_succ_self 0)
        (by show c < s.y ∨ s.y + 1 ≤ c; omega)
      rw [Nat.add_zero] at this
      rw [this]
      -- left of the character the row is padded with blanks
      by_cases h1 : c < (s.buf.getD s.x []).length
      · rw [if_pos h1]; exact .inl rfl
      · rw [if_neg h1, cell, List.getElem?_eq_none (Nat.le_of_not_lt h1)]
        split
        · exact .inr ⟨rfl, rfl⟩
        · exact .inl rfl
    · left
      rw [cell, cell, drawInto_other_rows s.buf [[ch]] s.x s.y r
        (by show r < s.x ∨ s.x + 1 ≤ r; omega)]

theorem foldl_twStep_pos (text : List Char) :
    ∀ s : TW, ((text.foldl (twStep col width block) s).x, (text.foldl (twStep col width block) s).y) =
      text.foldl (advance col width block) (s.x, s.y) := by
  induction text with
  | nil => intro s; rfl
  | cons c cs ih =>
    intro s
    rw [List.foldl_cons, List.foldl_cons, ih, twStep_pos]

theorem foldl_twStep_frame (r c : Nat) (text : List Char) :
    ∀ s : TW,
      (∀ i, (hi : i < text.length) → text[i] ≠ '\n' →
        (pathFrom col width block (s.x, s.y) text).getD i (0, 0) ≠ (r, c)) →
      cell (text.foldl (twStep col width block) s).buf r c = cell s.buf r c ∨
        (cell s.buf r c = none ∧
          (cell (text.foldl (twStep col width block) s).buf r c = some ' ' ∨
           cell (text.foldl (twStep col width block) s).buf r c = none)) := by
  induction text with
  | nil => intro s _; left; rfl
  | cons ch cs ih =>
    intro s hoff
    rw [List.foldl_cons]
    have hstep := twStep_cell_other col width block s ch r c (hoff 0 (Nat.zero_lt_succ _))
    have hrest := ih (twStep col width block s ch) (by
      intro i hi hc
      rw [twStep_pos]
      exact hoff (i + 1) (Nat.succ_lt_succ hi) hc)
    rcases hrest with h1 | ⟨h1, h2⟩
    · rcases hstep with h3 | ⟨h3, h4⟩
      · left; rw [h1, h3]
      · right; exact ⟨h3, Or.inl (by rw [h1, h4])⟩
    · rcases hstep with h3 | ⟨h3, h4⟩
      · right; exact ⟨by rw [← h3, h1], h2⟩
      · rw [h4] at h1; cases h1

theorem foldl_twStep_cell (text : List Char) :
    ∀ (s : TW) (i : Nat) (hi : i < text.length), text[i] ≠ '\n' →
      cell (text.foldl (twStep col width block) s).buf
        ((pathFrom col width block (s.x, s.y) text).getD i (0, 0)).1
        ((pathFrom col width block (s.x, s.y) text).getD i (0, 0)).2 = some text[i] := by
  induction text with
  | nil => intro s i hi; cases hi
  | cons ch cs ih =>
    intro s i hi hc
    rw [List.foldl_cons]
    cases i with
    | zero =>
      -- typed by this step; the later positions of the path are further on in reading order
      have hsame := twStep_cell_same col width block s ch hc
      have hfr := foldl_twStep_frame col width block s.x s.y cs (twStep col width block s ch) (by
        intro j hj _
        rw [twStep_pos]
        exact posLt_ne (path_gt col width block cs (s.x, s.y) _ j (advance_gt ..) hj))
      rcases hfr with h | ⟨h, _⟩
      · exact h.trans hsame
      · rw [hsame] at h; cases h
    | succ i =>
      have := ih (twStep col width block s ch) i (Nat.lt_of_succ_lt_succ hi) hc
      rwa [twStep_pos] at this

end Simpleline
