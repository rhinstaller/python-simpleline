/-
  The typewriter without a width (`typewrite … none false`) lays a text out as its lines
  (`typewrite_empty_buf`, with `splitOn` of `Lemmas/TextWrapLoop.lean`).
-/
import Simpleline.Lemmas.GridWrite
import Simpleline.Lemmas.TextWrapLoop

namespace Simpleline

/-- continue the last row with the first line -/
def glue (row : List Char) : List (List Char) → List (List Char)
  | [] => [row]
  | l :: ls => (row ++ l) :: ls

theorem glue_nil (L : List (List Char)) (h : L ≠ []) : glue [] L = L := by
  cases L with
  | nil => exact absurd rfl h
  | cons l ls => rfl

theorem modify_length_append {α} (f : α → α) (pre : List α) (a : α) :
    (pre ++ [a]).modify pre.length f = pre ++ [f a] := by
  induction pre with
  | nil => rfl
  | cons b bs ih => simp [ih]

theorem padTo_set_end (row : List Char) (c : Char) :
    (padTo (row.length + 1) row).set row.length c = row ++ [c] := by
  induction row with
  | nil => rfl
  | cons b bs ih =>
    simp only [padTo, List.length_cons, List.cons_append, List.set_cons_succ] at ih ⊢
    simp only [Nat.add_sub_cancel_left] at ih ⊢
    rw [ih]

theorem twStep_nl (col : Nat) (pre : Grid) (row : List Char) :
    twStep col none false { buf := pre ++ [row], x := pre.length, y := row.length } '\n' =
      { buf := (pre ++ [row]) ++ [[]], x := (pre ++ [row]).length, y := ([] : List Char).length } := by
  have : pre.length + 2 - (pre.length + 1) = 1 := by omega
  simp [twStep_eq, advance, extendRows, this]

theorem twStep_char (col : Nat) (pre : Grid) (row : List Char) (c : Char) (h : c ≠ '\n') :
    twStep col none false { buf := pre ++ [row], x := pre.length, y := row.length } c =
      { buf := pre ++ [row ++ [c]], x := pre.length, y := (row ++ [c]).length } := by
  simp only [twStep_eq, advance, if_neg h, extendRows, List.length_append, List.length_cons, List.length_nil,
    Nat.zero_add, Nat.sub_self, List.replicate_zero, List.append_nil, setCell,
    modify_length_append, padTo_set_end]

theorem foldl_twStep_buf (col : Nat) (t : List Char) : ∀ (pre : Grid) (row : List Char),
    (t.foldl (twStep col none false) { buf := pre ++ [row], x := pre.length, y := row.length }).buf =
      pre ++ glue row (splitOn '\n' t) := by
  induction t with
  | nil => intro pre row; simp [splitOn, glue]
  | cons c cs ih =>
    intro pre row
    rw [List.foldl_cons]
    by_cases hc : c = '\n'
    · subst hc
      rw [twStep_nl, ih, splitOn_cons_sep, glue_nil _ (splitOn_ne_nil _ _)]
      simp [glue]
    · obtain ⟨l, ls, h1, h2⟩ := splitOn_cons_ne '\n' c cs hc
      rw [twStep_char col pre row c hc, ih, h2, h1]
      simp [glue]

theorem twStep_empty (col : Nat) (c : Char) :
    twStep col none false { buf := [], x := 0, y := 0 } c =
      twStep col none false { buf := [[]], x := 0, y := 0 } c := by
  simp [twStep_eq, extendRows]

theorem typewrite_empty_buf (t : List Char) (ht : t ≠ []) :
    (typewrite [] t 0 0 none false).buf = splitOn '\n' t := by
  cases t with
  | nil => exact absurd rfl ht
  | cons c cs =>
    rw [typewrite, List.foldl_cons, twStep_empty, ← List.foldl_cons]
    have := foldl_twStep_buf 0 (c :: cs) [] []
    simp only [List.nil_append, List.length_nil] at this
    rw [this, glue_nil _ (splitOn_ne_nil _ _)]

end Simpleline
