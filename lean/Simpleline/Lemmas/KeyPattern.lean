/-
  `int()` reads the decimal form of a number back (C14), and `Container.process_user_input` in terms
  of `int(key)`.
-/
import Simpleline.Model.KeyPattern

namespace Simpleline

theorem natDigits_mem (n : Nat) : ∀ c ∈ natDigits n, ∃ d, d < 10 ∧ c = digitChar d := by
  induction n using natDigits.induct with
  | case1 n h =>
    intro c hc
    rw [natDigits, if_pos h] at hc
    exact ⟨n, h, by simpa using hc⟩
  | case2 n h ih =>
    intro c hc
    rw [natDigits, if_neg h] at hc
    rcases List.mem_append.1 hc with hc | hc
    · exact ih c hc
    · exact ⟨n % 10, Nat.mod_lt _ (by omega), by simpa using hc⟩

theorem natDigits_ne_nil (n : Nat) : natDigits n ≠ [] := by
  rw [natDigits]; split <;> simp

theorem digitsAux_natDigits_append (cc : CharClass)
    (hdig : ∀ d, d < 10 → cc.digitVal (digitChar d) = some d) (n : Nat) :
    ∀ (pd : Bool) (tl : List Char),
      digitsAux cc 0 pd (natDigits n ++ tl) = digitsAux cc n true tl := by
  induction n using natDigits.induct with
  | case1 n h =>
    intro pd tl
    rw [natDigits, if_pos h]
    simp [digitsAux, hdig n h]
  | case2 n h ih =>
    intro pd tl
    rw [natDigits, if_neg h, List.append_assoc, ih]
    have hm : n % 10 < 10 := Nat.mod_lt _ (by omega)
    simp only [List.singleton_append, digitsAux, hdig _ hm]
    congr 1
    omega

theorem dropWhile_eq_self_of_all_false (p : Char → Bool) (s : List Char)
    (h : ∀ c ∈ s, p c = false) : s.dropWhile p = s := by
  cases s with
  | nil => rfl
  | cons a l => simp [h a (by simp)]

theorem stripBoth_eq_self (p : Char → Bool) (s : List Char) (h : ∀ c ∈ s, p c = false) :
    stripBoth p s = s := by
  unfold stripBoth
  rw [dropWhile_eq_self_of_all_false p s h,
    dropWhile_eq_self_of_all_false p s.reverse (by simpa using h), List.reverse_reverse]

theorem digitChar_ne_sign : ∀ d, d < 10 → digitChar d ≠ '+' ∧ digitChar d ≠ '-' := by decide

theorem pyInt_intRepr (cc : CharClass)
    (hdig : ∀ d, d < 10 → cc.digitVal (digitChar d) = some d)
    (hdns : ∀ d, d < 10 → cc.isIntSpace (digitChar d) = false)
    (hmns : cc.isIntSpace '-' = false)
    (z : Int) : pyInt cc (intRepr z) = some z := by
  have hsp : ∀ c ∈ natDigits z.natAbs, cc.isIntSpace c = false := by
    intro c hc
    obtain ⟨d, hd, rfl⟩ := natDigits_mem _ c hc
    exact hdns d hd
  have hval : digitsAux cc 0 false (natDigits z.natAbs) = some z.natAbs := by
    simpa [digitsAux] using digitsAux_natDigits_append cc hdig z.natAbs false []
  unfold intRepr
  split
  · next hz =>
    have hs : stripBoth cc.isIntSpace ('-' :: natDigits z.natAbs) = '-' :: natDigits z.natAbs :=
      stripBoth_eq_self _ _ (by simpa [hmns] using hsp)
    simp only [pyInt, hs, hval]
    simp
    omega
  · next hz =>
    -- the first character is a digit, so neither sign
    obtain ⟨a, l, hal⟩ := List.exists_cons_of_ne_nil (natDigits_ne_nil z.natAbs)
    obtain ⟨d, hd, rfl⟩ := natDigits_mem _ a (by rw [hal]; simp)
    rw [pyInt, stripBoth_eq_self _ _ hsp]
    rw [hal] at hval ⊢
    split
    · next heq => exact absurd (List.cons.inj heq).1 (digitChar_ne_sign d hd).1
    · next heq => exact absurd (List.cons.inj heq).1 (digitChar_ne_sign d hd).2
    · rw [hval]
      simp
      omega

theorem processKey_some (cc : CharClass) (kp : KeyPat) (cbs : List Bool) (k : List Char) :
    processKey cc (some kp) cbs (some k) =
      match pyInt cc k with
      | some z =>
        if 0 ≤ z - kp.offset ∧ (z - kp.offset).toNat < cbs.length then
          { handled := true,
            fired := if cbs.getD (z - kp.offset).toNat false then some (z - kp.offset).toNat else none }
        else { handled := false, fired := none }
      | none => { handled := false, fired := none } := by
  simp only [processKey, KeyPat.translate]
  cases pyInt cc k <;> rfl

end Simpleline
