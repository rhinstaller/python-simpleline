import Simpleline.Lemmas.DispatchShape
import Simpleline.Lemmas.Shape

/-
  Stopping: once `run()` is entered it stays entered and force-quit stays set; an exit request leaves the quit callback
  and nothing else; the quit callback is logged once, last; the loop flag goes down only for a reason that is in the history;
  the open levels (plus one if the flag is down) never outnumber the pending `_mainloop` activations (`Owed`, an invariant of
  the shape view), so the outermost activation sees the flag down only after force-quit.
-/

namespace Simpleline.Dispatch
open Simpleline

theorem softI_not_apprun {i : Instr} (h : softI i = true) : isApprun i = false := by
  unfold isApprun
  split <;> first | cases h | rfl

section table
variable {P : Prog} {c : Cfg} {ins : Instr} {pushed : List Instr} {new : List Tr} {L' : LoopSt} {lg : List Ev} {e : End}

theorem CoreStep.no_apprun (h : CoreStep P c ins pushed new L' lg e) : ∀ i ∈ pushed, isApprun i = false := by
  cases h with
  | callUser | callSys => exact bodyOf_all (fun _ => softI_not_apprun) fun _ => rfl
  | _ => exact all_false rfl

end table

theorem AfterStart.iff {c : Cfg} : AfterStart c ↔ ∀ i ∈ c.code, isApprun i = false := by
  simp [AfterStart]

theorem afterStart_trans {P : Prog} {c c' : Cfg} (hA : AfterStart c) (ht : Trans P c c') : AfterStart c' := by
  rw [AfterStart.iff] at hA ⊢
  have hrest : ∀ {ins : Instr} {rest : List Instr}, c.code = ins :: rest → ∀ i ∈ rest, isApprun i = false :=
    fun hc i hi => hA i (by rw [hc]; exact List.mem_cons_of_mem _ hi)
  cases trans_cases ht with
  | idle hcode h => rw [hcode]; exact hA
  | soft hc ho hm hf _ =>
    obtain ⟨pushed, suf, hcode, hsuf, hp, -⟩ := hm.code.suffix_rest
    intro i hi
    rcases List.mem_append.mp (hcode ▸ hf.suffix.subset hi) with h | h
    · exact softI_not_apprun (hp i h)
    · exact hrest hc i (hsuf.subset h)
  | core hc ho h hcode hL htr hlog hf _ =>
    intro i hi
    rcases List.mem_append.mp (hcode ▸ hf.suffix.subset hi) with h' | h'
    · exact h.no_apprun i h'
    · exact hrest hc i h'

theorem afterStart_steps {P : Prog} {c c' : Cfg} (hA : AfterStart c) (hs : Steps P c c') : AfterStart c' := by
  induction hs with
  | refl => exact hA
  | tail _ ht ih => exact afterStart_trans ih ht

/-- what a transition does to the flags and levels of the loop -/
inductive CtlT (c c' : Cfg) : Prop
  | same (h1 : c'.L.levels = c.L.levels) (h2 : c'.L.runLoop = c.L.runLoop) (h3 : c'.L.forceQuit = c.L.forceQuit)
  | forceQuit (hi : c.code.head? = some (.act .forceQuit)) (hn : Tr.forceQuit ∈ newTr c c') (h1 : c'.L.levels = [])
      (h2 : c'.L.runLoop = false) (h3 : c'.L.forceQuit = true)
  | apprun (hi : c.code.head? = some .apprun) (h1 : c'.L.levels = c.L.levels) (h2 : c'.L.runLoop = true)
      (h3 : c'.L.forceQuit = false)
  | restore (hf : c.L.forceQuit = false) (h1 : c'.L.levels = c.L.levels) (h2 : c'.L.runLoop = true)
      (h3 : c'.L.forceQuit = c.L.forceQuit)
  | newLoop (hf : c.L.forceQuit = false) (h1 : c'.L.levels = c.L.levels ++ [c.L.queues.length])
      (h2 : c'.L.runLoop = c.L.runLoop) (h3 : c'.L.forceQuit = c.L.forceQuit)
  | popExit (hx : Tr.exit ∈ newTr c c') (h1 : c'.L.levels = []) (h2 : c'.L.runLoop = c.L.runLoop)
      (h3 : c'.L.forceQuit = c.L.forceQuit)
  | pop {q a} (hi : c.code.head? = some .popLevel) (hq : c.L.levels.getLast? = some q)
      (ha : c.L.levels.dropLast.getLast? = some a) (hn : Tr.closeLevel q ∈ newTr c c')
      (h1 : c'.L.levels = c.L.levels.dropLast) (h2 : c'.L.runLoop = false) (h3 : c'.L.forceQuit = c.L.forceQuit)

theorem CtlT.of_frame {c c' : Cfg} (f : Frame c c') : CtlT c c' := .same f.levels f.runLoop f.forceQuit

theorem trans_ctl {P : Prog} {c c' : Cfg} (ht : Trans P c c') : CtlT c c' := by
  cases trans_cases ht with
  | idle _ h => exact .of_frame (h.frame .done)
  | soft hc ho hm hf _ => exact .of_frame (hm.frame hf)
  | @core _ _ _ new _ _ _ m hc ho h hcode hL htr hlog hf _ =>
    obtain ⟨d, hd, -⟩ := hf.tr
    have hnew : c'.tr = (d ++ new) ++ c.tr := by rw [hd, htr, List.append_assoc]
    have hmem : ∀ t ∈ new, t ∈ newTr c c' := fun t ht' => (mem_newTr hnew).mpr (List.mem_append_right _ ht')
    obtain ⟨gl, -, gr, gf, -⟩ := hf.frame
    rw [hL] at gl gr gf
    have hh := head_of_cons hc
    cases h with
    | forceQuit => exact .forceQuit hh (hmem _ (List.mem_singleton_self _)) gl gr gf
    | apprun => exact .apprun hh gl gr gf
    | restore hq => exact .restore hq gl gr gf
    | newLoop hq => exact .newLoop hq gl gr gf
    | pop hq ha => exact .pop hh hq ha (hmem _ (List.mem_singleton_self _)) gl gr gf
    | popExit hq =>
      refine .popExit ?_ gl gr gf
      -- raised or died, the exit request is recorded
      have : c'.tr = .exit :: m.tr := by
        cases hf with
        | caught hk =>
          rcases raise_ok hk with ⟨-, _, _, -, -, rfl⟩ | ⟨hk', -⟩
          · rfl
          · cases hk'
        | died => rfl
      exact (mem_newTr (d := [.exit, .closeLevel _]) (by rw [this, htr]; rfl)).mpr List.mem_cons_self
    | _ => exact .same gl gr gf

def FQInv (c : Cfg) : Prop := c.L.forceQuit = true → c.L.runLoop = false ∧ c.L.levels = []

theorem fqInv_reach {P : Prog} {c0 c : Cfg} (h0 : Started c0) (hr : Reach P c0 c) : FQInv c :=
  fun hf => ((Shape.reach_basic h0 hr).fq hf).symm

theorem fq_persist_trans {P : Prog} {c c' : Cfg} (hA : AfterStart c) (hf : c.L.forceQuit = true) (ht : Trans P c c') :
    c'.L.forceQuit = true := by
  cases trans_ctl ht with
  | same _ _ h3 | restore _ _ _ h3 | newLoop _ _ _ h3 | popExit _ _ _ h3 | pop _ _ _ _ _ _ h3 => rw [h3]; exact hf
  | forceQuit _ _ _ _ h3 => exact h3
  | apprun hi => cases AfterStart.iff.mp hA _ (List.mem_of_mem_head? hi)

theorem nil_trans {P : Prog} {c c' : Cfg} (ht : Trans P c c') (h : c.code = []) : c'.code = [] := by
  cases trans_cases ht with
  | idle hcode _ => rw [hcode]; exact h
  | soft hc => rw [hc] at h; cases h
  | core hc => rw [hc] at h; cases h

theorem over_iff {c : Cfg} : c.Over ↔ (c.code = [.quitCb] ∨ c.code = []) :=
  ⟨fun h => (Shape.overCode_cases h).symm, fun h => by rcases h with h | h <;> simp [Cfg.Over, h, overCode]⟩

theorem over_trans {P : Prog} {c c' : Cfg} (ht : Trans P c c') (h : c.code = [.quitCb] ∨ c.code = []) :
    c'.code = [.quitCb] ∨ c'.code = [] :=
  over_iff.mp (Shape_over_stable ht (over_iff.mpr h))

/-- after the start an exit request leaves exactly the quit callback to run; before it nothing catches it and the run dies -/
theorem exit_cases {P : Prog} {c0 c c' : Cfg} (h0 : Started c0) (hr : Reach P c0 c) (ht : Trans P c c')
    (hx : Tr.exit ∈ newTr c c') :
    (AfterStart c ∧ c'.code = [.quitCb]) ∨ (¬ AfterStart c ∧ c'.code = [] ∧ ∃ o, step P c = .error (o, c')) := by
  have none : c'.tr = c.tr → False := fun h => by rw [newTr_of_append (new := []) (by simp [h])] at hx; cases hx
  cases shapeStep_reach h0 hr ht
  case body hx' => exact absurd hx hx'
  case exit hc hB hcode _ => exact .inl ⟨open_afterStart hc hB, hcode⟩
  case start hc hcode htr => exact (none htr).elim
  case loopOff hc hr' hcode htr => rw [newTr_of_append (new := [.loopReturn 0]) (by simp [htr])] at hx; simp at hx
  case restored hc hcode htr => exact (none htr).elim
  case leave hc hcode htr => exact (none htr).elim
  case quit hc hcode hx' hlog => exact absurd hx hx'
  case same hcode hx' => exact absurd hx hx'
  case dead hs hcode hx' => exact .inr ⟨hx' hx, hcode, hs⟩

theorem exit_over_reach {P : Prog} {c0 c : Cfg} (h0 : Started c0) (hr : Reach P c0 c) (hm : Tr.exit ∈ c.tr) :
    c.code = [.quitCb] ∨ c.code = [] := by
  revert hm
  refine reach_induction (motive := fun c => Tr.exit ∈ c.tr → c.code = [.quitCb] ∨ c.code = []) ?_ ?_ hr
  · intro hm; rw [h0.tr] at hm; cases hm
  · intro c c' hr hI ht hm
    obtain ⟨hnew, -⟩ := (trans_origin ht).toNewTr
    rw [hnew] at hm
    rcases List.mem_append.mp hm with hm | hm
    · exact over_iff.mp (Shape_end_over h0 hr ht (.inl hm))
    · exact over_trans ht (hI hm)

theorem over_no_call {P : Prog} {c c' : Cfg} (ht : Trans P c c') (h : c.code = [.quitCb] ∨ c.code = [])
    (hd : HRef) (d : Option Nat) (s : Sig) : Tr.call hd d s ∉ newTr c c' := by
  intro hm
  have := (trans_origin ht).toNewTr.2 _ hm
  rcases h with h | h <;> simp [TrOrigin, h] at this

/-- the quit callback is logged at most once, with the registered argument, and only as the very last thing -/
structure QuitInv (c0 c : Cfg) : Prop where
  count : c.log.countP isQuitcbEv = 0 ∨ (c.log.countP isQuitcbEv = 1 ∧ c.code = [])
  arg : ∀ d, Ev.quitcb d ∈ c.log → c0.L.quitCb = some d

theorem countP_soft_zero {lg : List Ev} (h : ∀ e ∈ lg, softE e = true) : lg.countP isQuitcbEv = 0 := by
  rw [List.countP_eq_zero]
  intro e he
  have := h e he
  cases e <;> first | exact Bool.false_ne_true | cases this

theorem quitcb_logged {P : Prog} {c c' : Cfg} (hS : CodeShape c) (ht : Trans P c c') {d : Nat} (hm : Ev.quitcb d ∈ newLog c c') :
    c.code = [.quitCb] ∧ c'.code = [] ∧ c.L.quitCb = some d ∧
      ∃ lg, (∀ e ∈ lg, softE e = true) ∧ c'.log = lg ++ .quitcb d :: c.log := by
  obtain ⟨hlog, horig⟩ := (trans_logOrigin ht).toNewLog
  obtain ⟨hhead, hq⟩ := horig _ hm
  have notsoft : ∀ {lg : List Ev}, (∀ e ∈ lg, softE e = true) → c'.log = lg ++ c.log → False := by
    intro lg hl he
    rw [newLog, he] at hm
    simp only [List.length_append, Nat.add_sub_cancel, List.take_left'] at hm
    cases hl _ hm
  cases trans_cases ht with
  | idle _ h => obtain ⟨lg, he, hl⟩ := h.log; exact (notsoft hl he).elim
  | soft hc ho hm' hf _ =>
    rw [hc] at hhead; cases hhead; cases ho
  | core hc ho h hcode hL htr hlog' hf _ =>
    rw [hc] at hhead; cases hhead
    rcases shape_cases hS hc with hb | ⟨hins, -⟩
    · cases hb
      cases h with
      | quitCbSome hd _ hl =>
        cases hf
        rw [hq] at hd; cases hd
        exact ⟨hc, hcode, hq, _, hl, by rw [hlog', List.append_assoc]; rfl⟩
      | quitCbNone hd => rw [hq] at hd; cases hd
    · cases hins

theorem quitInv_trans {P : Prog} {c0 c c' : Cfg} (hq : c.L.quitCb = c0.L.quitCb) (hI : QuitInv c0 c) (hS : CodeShape c)
    (ht : Trans P c c') : QuitInv c0 c' := by
  obtain ⟨hlog, horig⟩ := (trans_logOrigin ht).toNewLog
  by_cases hex : ∃ d, Ev.quitcb d ∈ newLog c c'
  · obtain ⟨d, hm⟩ := hex
    obtain ⟨hc, hc', hqd, lg, hsoft, hl⟩ := quitcb_logged hS ht hm
    have h0 : c.log.countP isQuitcbEv = 0 := by
      rcases hI.count with h | ⟨-, h⟩
      · exact h
      · rw [hc] at h; cases h
    constructor
    · right
      rw [hl, List.countP_append, List.countP_cons, countP_soft_zero hsoft, h0]
      exact ⟨by simp [isQuitcbEv], hc'⟩
    · intro d' hm'
      rw [hl] at hm'
      simp only [List.mem_append, List.mem_cons] at hm'
      rcases hm' with hm' | hm' | hm'
      · have := hsoft _ hm'; simp [softE] at this
      · cases hm'; rw [← hq]; exact hqd
      · exact hI.arg d' hm'
  · have h0 : ∀ e ∈ newLog c c', isQuitcbEv e = false := by
      intro e he
      cases e <;> try rfl
      exact absurd ⟨_, he⟩ hex
    constructor
    · rw [hlog, List.countP_append]
      have : (newLog c c').countP isQuitcbEv = 0 := by
        rw [List.countP_eq_zero]; intro e he; simp [h0 e he]
      rw [this, Nat.zero_add]
      rcases hI.count with h | ⟨h, hnil⟩
      · exact .inl h
      · exact .inr ⟨h, nil_trans ht hnil⟩
    · intro d hm
      rw [hlog] at hm
      rcases List.mem_append.mp hm with hm | hm
      · have := h0 _ hm; simp [isQuitcbEv] at this
      · exact hI.arg d hm

theorem quitInv_reach {P : Prog} {c0 c : Cfg} (h0 : Started c0) (hr : Reach P c0 c) : QuitInv c0 c ∧ c.L.quitCb = c0.L.quitCb := by
  refine reach_induction (motive := fun c => QuitInv c0 c ∧ c.L.quitCb = c0.L.quitCb) ?_ ?_ hr
  · exact ⟨⟨.inl (by rw [h0.log]; rfl), fun d hm => by rw [h0.log] at hm; cases hm⟩, rfl⟩
  · intro c c' hr hI ht
    exact ⟨quitInv_trans hI.2 hI.1 (shape_reach h0 hr) ht, (trans_static ht).2.1.trans hI.2⟩

/-- a reason for `_run_loop` being `False` is in the history: force-quit, or a level closed by `close_loop` -/
def StopReason (tr : List Tr) : Prop := Tr.forceQuit ∈ tr ∨ ∃ q, Tr.closeLevel q ∈ tr

theorem StopReason.grow {tr new : List Tr} (h : StopReason tr) : StopReason (new ++ tr) := by
  rcases h with h | ⟨q, h⟩
  · exact .inl (List.mem_append_right _ h)
  · exact .inr ⟨q, List.mem_append_right _ h⟩

theorem StopReason.cons {tr : List Tr} {t : Tr} (h : StopReason tr) : StopReason (t :: tr) := h.grow (new := [t])

def RunLoopInv (c : Cfg) : Prop := c.L.runLoop = false → StopReason c.tr

theorem runLoop_cleared {P : Prog} {c c' : Cfg} (ht : Trans P c c') (h1 : c.L.runLoop = true) (h2 : c'.L.runLoop = false) :
    (c.code.head? = some (.act .forceQuit) ∧ Tr.forceQuit ∈ newTr c c') ∨
    (c.code.head? = some .popLevel ∧ ∃ q, Tr.closeLevel q ∈ newTr c c') := by
  cases trans_ctl ht with
  | same _ g2 | newLoop _ _ g2 | popExit _ _ g2 => rw [g2, h1] at h2; cases h2
  | apprun _ _ g2 | restore _ _ g2 => rw [g2] at h2; cases h2
  | forceQuit hi hn => exact .inl ⟨hi, hn⟩
  | pop hi _ _ hn => exact .inr ⟨hi, _, hn⟩

theorem runLoopInv_trans {P : Prog} {c c' : Cfg} (hI : RunLoopInv c) (ht : Trans P c c') : RunLoopInv c' := by
  intro hf
  obtain ⟨hnew, -⟩ := (trans_origin ht).toNewTr
  rw [hnew]
  cases hr : c.L.runLoop
  · exact (hI hr).grow
  · rcases runLoop_cleared ht hr hf with ⟨-, h⟩ | ⟨-, q, h⟩
    · exact .inl (List.mem_append_left _ h)
    · exact .inr ⟨q, List.mem_append_left _ h⟩

theorem runLoopInv_reach {P : Prog} {c0 c : Cfg} (h0 : Started c0) (hr : Reach P c0 c) : RunLoopInv c := by
  refine reach_induction ?_ ?_ hr
  · intro hf; rw [h0.runLoop] at hf; cases hf
  · intro c c' _ hI ht; exact runLoopInv_trans hI ht

section levels
open Simpleline.Shape

/-- the `_mainloop` activations that are pending: their loop test, or the `self._run_loop = True` that follows it, or the
`apprun` that is going to start the outermost one -/
def isFrame : Instr → Bool
  | .mainCheck _ | .restoreRun | .apprun => true
  | _ => false

def frames (l : List Instr) : Nat := l.countP isFrame

@[simp] theorem frames_nil : frames [] = 0 := rfl

def isRestore : Instr → Bool
  | .restoreRun => true
  | _ => false

theorem softI_not_restore {i : Instr} (h : softI i = true) : isRestore i = false := by
  unfold isRestore
  split <;> first | cases h | rfl

/-- the levels an activation still has to leave its loop for never outnumber the activations that can do so -/
structure Owed (v : SV) : Prop where
  count : 0 ∈ markersA v.code →
    v.levels.length + (if v.runLoop then 0 else 1) ≤ (markersA v.code).length + (if headIsRestore v.code then 1 else 0)
  head : headIsRestore v.code = true → v.runLoop = false

theorem Owed.step {v v' : SV} {evs : List Tr} (hb : Basic v) (hI : Owed v) (hl : LStep v evs v') : Owed v' := by
  have hch := hb.chained
  obtain ⟨hK, hH⟩ := hI
  cases hl with
  | over ho _ =>
    have hm := markersA_over ho
    refine ⟨fun h0 => (by rw [hm] at h0; cases h0), fun hh => ?_⟩
    rcases overCode_cases ho with h | h <;> rw [h] at hh <;> cases hh
  | keep hm hh hlv hr _ _ _ _ => exact ⟨by rw [hm, hh, hlv, hr]; exact hK, by rw [hh, hr]; exact hH⟩
  | mainExit hc hr _ hv =>
    subst hv
    rw [hc] at hK
    exact ⟨fun h0 => by have := hK (List.mem_cons_of_mem _ h0); simp [markersA, headIsRestore] at this ⊢; omega,
      fun _ => hr⟩
  | restoreFQ hc hf _ hv =>
    subst hv
    have hr := headIsRestore_of_chained (hc ▸ hch)
    obtain ⟨h1, h2⟩ := hb.fq hf
    refine ⟨fun h0 => ?_, fun hh => Bool.noConfusion (hr.symm.trans hh)⟩
    have := List.length_pos_of_mem h0
    simp only [h1, h2, hr] at this ⊢
    simp; omega
  | restore hc hf _ hv =>
    subst hv
    have hr := headIsRestore_of_chained (hc ▸ hch)
    rw [hc] at hK hH
    refine ⟨fun h0 => ?_, fun hh => Bool.noConfusion (hr.symm.trans hh)⟩
    have := hK h0
    simp [markersA, headIsRestore, hH rfl] at this ⊢
    omega
  | apprun hc _ hv =>
    subst hv
    rw [hc] at hK
    exact ⟨fun _ => by have := hK (by simp [markersA]); simp [markersA, headIsRestore] at this ⊢; split at this <;> omega,
      fun hh => by cases hh⟩
  | «open» hc hf _ hv =>
    subst hv
    rw [hc] at hK
    refine ⟨fun h0 => ?_, fun hh => by cases hh⟩
    have h0' : 0 ∈ markersA (v.code.tail) := by
      rw [hc]
      rcases List.mem_cons.mp h0 with h | h
      · exact absurd h (Nat.ne_of_lt hb.nq_pos)
      · exact h
    rw [hc] at h0'
    have := hK h0'
    cases hrl : v.runLoop <;> simp [SV.noteExc, markersA, headIsRestore, hrl] at this ⊢ <;> omega
  | pop hc hq _ _ hv =>
    subst hv
    have hr := headIsRestore_of_chained (hc ▸ hch)
    rw [hc] at hK
    refine ⟨fun h0 => ?_, fun hh => Bool.noConfusion (hr.symm.trans hh)⟩
    have := hK h0
    have hlen : 1 ≤ v.levels.length := by
      cases hl : v.levels with
      | nil => rw [hl] at hq; cases hq
      | cons x xs => simp
    simp [markersA, headIsRestore] at this ⊢
    split at this <;> omega
  | forceQuit hc _ hv =>
    subst hv
    have hr := headIsRestore_of_chained (hc ▸ hch)
    refine ⟨fun h0 => ?_, fun hh => Bool.noConfusion (hr.symm.trans hh)⟩
    have := List.length_pos_of_mem h0
    simp [hr] at this ⊢
    omega

theorem owed_reach {P : Prog} {c0 c : Cfg} (h0 : Started c0) (hr : Reach P c0 c) : Owed c.sv := by
  refine reach_sv_inv (H := fun _ => True) h0 hr (fun _ _ => trivial) ?_
    (fun hb hI hs _ => hI.step hb (sstepE_level hb.chained hs)) trivial
  obtain ⟨init, hc⟩ := h0.code
  have hm : markersA c0.sv.code = [0] := (congrArg markersA hc).trans (markersA_init init)
  refine ⟨fun _ => by rw [hm]; simp [Cfg.sv, h0.levels, h0.runLoop], fun hh => ?_⟩
  exact absurd hh (by cases init <;> simp [Cfg.sv, hc, headIsRestore])

def LevelsLeft (c : Cfg) : Prop := c.L.levels = [] → Tr.forceQuit ∈ c.tr ∨ Tr.exit ∈ c.tr

theorem levelsLeft_trans {P : Prog} {c c' : Cfg} (hI : LevelsLeft c) (ht : Trans P c c') : LevelsLeft c' := by
  obtain ⟨hnew, -⟩ := (trans_origin ht).toNewTr
  intro hl
  rw [hnew]
  cases trans_ctl ht with
  | same h1 | apprun _ h1 | restore _ h1 =>
    exact (hI (h1 ▸ hl)).imp (List.mem_append_right _) (List.mem_append_right _)
  | forceQuit _ hn => exact .inl (List.mem_append_left _ hn)
  | popExit hx => exact .inr (List.mem_append_left _ hx)
  | newLoop _ h1 => rw [h1] at hl; simp at hl
  | pop _ _ ha _ h1 => rw [h1] at hl; rw [hl] at ha; cases ha

theorem levelsLeft_reach {P : Prog} {c0 c : Cfg} (h0 : Started c0) (hr : Reach P c0 c) : LevelsLeft c := by
  refine reach_induction ?_ ?_ hr
  · intro hl; rw [h0.levels] at hl; cases hl
  · intro c c' _ hI ht; exact levelsLeft_trans hI ht

theorem outer_down_forceQuit {P : Prog} {c0 c : Cfg} (h0 : Started c0) (hr : Reach P c0 c)
    (hc : c.code = [.mainCheck 0, .catchExit, .quitCb]) (hf : c.L.runLoop = false) : Tr.forceQuit ∈ c.tr := by
  have hK := (owed_reach h0 hr).count
  simp only [Cfg.sv, hc, hf, markersA, headIsRestore] at hK
  have hl : c.L.levels = [] := by
    cases hl : c.L.levels with
    | nil => rfl
    | cons a l => rw [hl] at hK; simp at hK
  rcases levelsLeft_reach h0 hr hl with h | h
  · exact h
  · rcases exit_over_reach h0 hr h with h' | h' <;> rw [hc] at h' <;> cases h'

end levels

theorem live_reach {P : Prog} {c0 c : Cfg} (h : Live P c0 c) : Reach P c0 c := by
  induction h with
  | init => exact .init
  | step _ hs ih => exact .step ih hs
  | deliver _ hd ih => exact .deliver ih hd

/-- once the code of a live run is not open any more, an exit request is in the history, or the return of the outermost loop
after a force-quit -/
structure LiveInv (c0 c : Cfg) : Prop where
  why : OpenCode c.code ∨ Tr.exit ∈ c.tr ∨ (Tr.loopReturn 0 ∈ c.tr ∧ Tr.forceQuit ∈ c.tr)
  done : c.code = [] → ∀ d, c0.L.quitCb = some d → Ev.quitcb d ∈ c.log

theorem liveInv_trans {P : Prog} {c0 c c' : Cfg} (hq : c.L.quitCb = c0.L.quitCb)
    (hoff : c.code = [.mainCheck 0, .catchExit, .quitCb] → c.L.runLoop = false → Tr.forceQuit ∈ c.tr) (hI : LiveInv c0 c)
    (hS : CodeShapeStep P c c') (ht : Trans P c c') (hlive : ∀ o, step P c ≠ .error (o, c')) : LiveInv c0 c' := by
  obtain ⟨hnew, -⟩ := (trans_origin ht).toNewTr
  obtain ⟨newl, hnewl, -⟩ := trans_logOrigin ht
  -- what is known once the code is not open any more stays known
  have carry : ¬ OpenCode c.code → OpenCode c'.code ∨ Tr.exit ∈ c'.tr ∨ (Tr.loopReturn 0 ∈ c'.tr ∧ Tr.forceQuit ∈ c'.tr) :=
    fun hn => (hI.why.resolve_left hn).elim (fun h => .inr (.inl (hnew ▸ List.mem_append_right _ h)))
      fun h => .inr (.inr (hnew ▸ ⟨List.mem_append_right _ h.1, List.mem_append_right _ h.2⟩))
  have ne : ∀ {a : Instr} {l : List Instr}, c'.code = a :: l → c'.code = [] → ∀ d, c0.L.quitCb = some d → Ev.quitcb d ∈ c'.log :=
    fun h1 h2 => by rw [h1] at h2; cases h2
  cases hS
  case body B B' T hT hc hB hcode hB' hx =>
    exact ⟨.inl ⟨B', T, hcode, hB', hT⟩, fun h => absurd (hcode ▸ h) (open_ne hT).1⟩
  case exit hc hB hcode hx => exact ⟨.inr (.inl (hnew ▸ List.mem_append_left _ hx)), ne hcode⟩
  case start hc hcode htr => exact ⟨.inl ⟨[], _, hcode, by simp, .inr rfl⟩, ne hcode⟩
  case loopOff hc hr hcode htr =>
    exact ⟨.inr (.inr (htr ▸ ⟨List.mem_cons_self, List.mem_cons_of_mem _ (hoff hc hr)⟩)), ne hcode⟩
  case restored hc hcode htr => exact ⟨carry fun h => h.not_over.2.2.2 hc, ne hcode⟩
  case leave hc hcode htr => exact ⟨carry fun h => h.not_over.2.2.1 hc, ne hcode⟩
  case quit hc hcode hx hlog =>
    refine ⟨carry fun h => h.not_over.2.1 hc, fun _ d hd => ?_⟩
    obtain ⟨lg, -, hl⟩ := hlog
    rw [hl, hq, hd]; simp
  case same hcode hx =>
    refine ⟨?_, fun h d hd => hnewl ▸ List.mem_append_right _ (hI.done (hcode ▸ h) d hd)⟩
    by_cases ho : OpenCode c.code
    · exact .inl (hcode ▸ ho)
    · exact carry ho
  case dead hs hcode hx =>
    obtain ⟨o, hs⟩ := hs
    exact absurd hs (hlive o)

theorem liveInv_live {P : Prog} {c0 c : Cfg} (h0 : Started c0) (h : Live P c0 c) : LiveInv c0 c := by
  induction h with
  | init =>
    obtain ⟨i, hc⟩ := h0.code
    exact ⟨.inl ⟨i.map .act, [.apprun], hc, by simp [isTop], .inl rfl⟩, fun h => by rw [hc] at h; simp at h⟩
  | step hl hs ih =>
    have hr := live_reach hl
    exact liveInv_trans (quitInv_reach h0 hr).2 (outer_down_forceQuit h0 hr) ih (shapeStep_reach h0 hr (.step hs)) (.step hs)
      (fun o he => by rw [hs] at he; cases he)
  | @deliver c c' hl hd ih =>
    obtain ⟨r, rs, hrr, rfl⟩ := deliver_eq hd
    exact ⟨ih.why.imp id (.imp (List.mem_cons_of_mem _) fun h => ⟨List.mem_cons_of_mem _ h.1, List.mem_cons_of_mem _ h.2⟩),
      fun h d hd => List.mem_cons_of_mem _ (ih.done h d hd)⟩

theorem step_mainCheck_up (P : Prog) (c : Cfg) (q : Nat) (rest : List Instr) (hc : c.code = .mainCheck q :: rest)
    (hr : c.L.runLoop = true) : step P c = .ok { c with code := .loopCheck :: .mainCheck q :: rest } := by
  simp [step, hc, hr, push]

theorem halt_outcome {P : Prog} {c c' : Cfg} {o : Outcome} {ins : Instr} {rest : List Instr} (hc : c.code = ins :: rest)
    (hs : step P c = .error (o, c')) :
    (otherI ins = true ∧ (o = .livelock ∨ ∃ k, o = failOutcome k)) ∨ (ins = .apprun ∧ o = .raised "NothingScheduled") ∨
      ((ins = .getDispatch ∨ ∃ cls t, ins = .waitStep cls t) ∧ o = .blocked) ∨
      (ins = .popLevel ∧ (o = failOutcome .err ∨ o = failOutcome .exit)) ∨ ((∃ s, ins = .kill s) ∧ o = .killed 1) := by
  cases ho : otherI ins
  · obtain ⟨pushed, new, L', lg, e, m, hrow, hs', -⟩ := step_core (P := P) hc ho
    rcases (Fin.of_error (hs' ▸ hs)).2 with rfl | ⟨k, rfl, rfl⟩
    · cases hrow with
      | refuse => exact .inr (.inl ⟨rfl, rfl⟩)
      | getBlocked => exact .inr (.inr (.inl ⟨.inl rfl, rfl⟩))
      | waitBlocked => exact .inr (.inr (.inl ⟨.inr ⟨_, _, rfl⟩, rfl⟩))
    · cases hrow with
      | kill => exact .inr (.inr (.inr (.inr ⟨⟨_, rfl⟩, rfl⟩)))
      | popErr => exact .inr (.inr (.inr (.inl ⟨rfl, .inl rfl⟩)))
      | popExit => exact .inr (.inr (.inr (.inl ⟨rfl, .inr rfl⟩)))
  · left
    obtain ⟨m, hm, h | ⟨k, -, h⟩ | h⟩ := step_other (P := P) hc ho
    · rw [h] at hs; cases hs
    · exact ⟨rfl, .inr ⟨k, (raise_error (h ▸ hs)).2⟩⟩
    · rw [h] at hs; cases hs; exact ⟨rfl, .inl rfl⟩

end Simpleline.Dispatch
