/-
  GLib machine vs. MainLoop machine: the part of a configuration the scheduler / screen / input instructions read and write
  (`View`), the translation of the shared instructions, the relation between the results of one step on the two machines,
  and the calls of the loop API (`enqueue_signal`, `redraw`, the reader's delivery, `emit`, the loop of
  `_input_received_handler`) on configurations that agree above the loop API (`Same`): with a loop left the GLib statement
  returns and the results agree again (`Both`); `Both` is closed under sequencing, and a `Both` step is a `ResRel.ok` step
  that pushes nothing.
-/
import Simpleline.Lemmas.GMcUnwind

namespace Simpleline.G

/-- what the instructions above the loop API read and write: the application state (screen stack, screen objects, input
subsystem, console), the observable log, the counter for framework signal ids, the return registers of the callbacks, and
the handler registrations (an `InputHandler` registers itself), the quit-callback registration -/
structure View where
  A : AppSt
  log : List Ev
  nextSid : Nat
  retSetup : Bool
  retPromptNone : Bool
  retInput : Ret
  retKey : Str
  retAction : UAction
  handlers : List (Cls × HRef × Option Nat)
  quitCb : Option Nat

def Cfg.view (c : Cfg) : View :=
  ⟨c.A, c.log, c.nextSid, c.retSetup, c.retPromptNone, c.retInput, c.retKey, c.retAction, c.L.handlers, c.L.quitCb⟩

def mview (c : Simpleline.Cfg) : View :=
  ⟨c.A, c.log, c.nextSid, c.retSetup, c.retPromptNone, c.retInput, c.retKey, c.retAction, c.L.handlers, c.L.quitCb⟩

/-- the instructions both machines share (scheduler, screens, input, the user actions, and the loop API *entry points* the
scheduler pushes: `newLoop`, `closeLoop`, `procWait`), translated constructor by constructor; the GLib-only loop
instructions have no counterpart (`mapped = false`; their image here is a dummy) -/
def tI : Instr → Simpleline.Instr
  | .act a => .act a
  | .apprun => .apprun
  | .quitCb => .quitCb
  | .kill s => .kill s
  | .callH h d s => .callH h d s
  | .hret h => .hret h
  | .note w => .note w
  | .procWait c => .procWait c
  | .newLoop s => .newLoop s
  | .closeLoop => .closeLoop
  | .pushModal s a => .pushModal s a
  | .modalRet e => .modalRet e
  | .closeScreen f => .closeScreen f
  | .closeScreen2 e f => .closeScreen2 e f
  | .closeScreen3 e => .closeScreen3 e
  | .processScreen => .processScreen
  | .afterSetup t => .afterSetup t
  | .afterSetupFail e => .afterSetupFail e
  | .afterSetup2 t => .afterSetup2 t
  | .identCheck t => .identCheck t
  | .catchPS => .catchPS
  | .drawScreen t => .drawScreen t
  | .catchDraw => .catchDraw
  | .maybeInput t => .maybeInput t
  | .callScr s cb a k => .callScr s cb a k
  | .scrRet s cb r k => .scrRet s cb r k
  | .printWidget s => .printWidget s
  | .printLines ls => .printLines ls
  | .getInput s a => .getInput s a
  | .getInput2 s a => .getInput2 s a
  | .blockingInput s c => .blockingInput s c
  | .waitInput ih => .waitInput ih
  | .inputReceived s => .inputReceived s
  | .inputReady n s => .inputReady n s
  | .processInput s k => .processInput s k
  | .classify s => .classify s
  | .catchPI s => .catchPI s
  | .countAndAct s => .countAndAct s
  | .endPI => .endPI
  | .afterQuit q => .afterQuit q
  | _ => .catchHandler

def mapped : Instr → Bool
  | .gRun .. | .gIter .. | .gDisp .. | .runH .. | .gCall .. | .catchRun | .endRun .. | .gAfter .. | .gWait .. | .procIter => false
  | _ => true

/-- how the results of one step of the two machines correspond -/
inductive ResRel (rg : List Instr) (rm : List Simpleline.Instr) :
    Except (Outcome × Cfg) Cfg → Except (Outcome × Simpleline.Cfg) Simpleline.Cfg → Prop
  | ok {g' : Cfg} {m' : Simpleline.Cfg} (pushed : List Instr) : g'.view = mview m' → g'.code = pushed ++ rg →
      m'.code = pushed.map tI ++ rm → (∀ j ∈ pushed, mapped j = true) → ResRel rg rm (.ok g') (.ok m')
  /-- both raise the same kind of exception from configurations with the same view (where it lands differs: the catchers
  of the two loops differ) -/
  | raise {gc : Cfg} {mc : Simpleline.Cfg} (k : Kind) (pushed : List Instr) : gc.view = mview mc → gc.code = pushed ++ rg →
      mc.code = pushed.map tI ++ rm → ResRel rg rm (gc.raise k) (mc.raise k)
  /-- both skip to the end of `_process_screen`'s `try` -/
  | skip {g' : Cfg} {m' : Simpleline.Cfg} : g'.view = mview m' →
      g'.code = (rg.dropWhile fun i => match i with | .catchPS => false | _ => true) →
      m'.code = (rm.dropWhile fun i => match i with | .catchPS => false | _ => true) → ResRel rg rm (.ok g') (.ok m')
  | halt {g' : Cfg} {m' : Simpleline.Cfg} (o : Outcome) : g'.view = mview m' → ResRel rg rm (.error (o, g')) (.error (o, m'))

theorem enq?_view {c c' : Cfg} {s : Sig} (h : c.enq? s = some c') : c'.view = c.view ∧ c'.L.loops = c.L.loops := by
  unfold Cfg.enq? at h
  split at h
  · cases h; exact ⟨rfl, rfl⟩
  · split at h
    · cases h
    · cases h; exact ⟨rfl, rfl⟩

theorem m_enqueue_view (m : Simpleline.Cfg) (s : Sig) : mview (m.enqueue s) = mview m ∧ (m.enqueue s).code = m.code := by
  unfold Simpleline.Cfg.enqueue
  split <;> exact ⟨rfl, rfl⟩

theorem view_setA {g : Cfg} {m : Simpleline.Cfg} (hv : g.view = mview m) (f : AppSt → AppSt) :
    ({ g with A := f g.A } : Cfg).view = mview { m with A := f m.A } :=
  congrArg (fun v : View => { v with A := f v.A }) hv

/-- `chunkOut` is the MainLoop machine's chunking, instruction by instruction -/
theorem chunkOut_map (scr : Nat) : ∀ (evs : List OutEv) (cur : List Str) (acc : List Instr),
    (chunkOut scr evs cur acc).map tI = Simpleline.step.go scr evs cur (acc.map tI)
  | [], cur, acc => by
    unfold chunkOut Simpleline.step.go
    split <;> simp [tI]
  | .line l :: r, cur, acc => by
    unfold chunkOut Simpleline.step.go
    exact chunkOut_map scr r _ _
  | .ask :: r, cur, acc => by
    unfold chunkOut Simpleline.step.go
    rw [chunkOut_map scr r _ _]
    split <;> simp [tI]

theorem mapped_of_all {l : List Instr} (h : l.all mapped = true) : ∀ j ∈ l, mapped j = true :=
  fun j hj => List.all_eq_true.1 h j hj

/-- `ResRel.ok` for results that are written out: the hypotheses are closed by evaluation -/
theorem ResRel.ok' {rg : List Instr} {rm : List Simpleline.Instr} {g' : Cfg} {m' : Simpleline.Cfg} (pushed : List Instr)
    (hv : g'.view = mview m' := by rfl) (hg : g'.code = pushed ++ rg := by rfl)
    (hm : m'.code = pushed.map tI ++ rm := by rfl) (hp : pushed.all mapped = true := by rfl) :
    ResRel rg rm (.ok g') (.ok m') :=
  ResRel.ok pushed hv hg hm (mapped_of_all hp)

theorem ResRel.raise' {rg : List Instr} {rm : List Simpleline.Instr} {gc : Cfg} {mc : Simpleline.Cfg} {k : Kind}
    (pushed : List Instr) (hv : gc.view = mview mc := by rfl) (hg : gc.code = pushed ++ rg := by rfl)
    (hm : mc.code = pushed.map tI ++ rm := by rfl) : ResRel rg rm (gc.raise k) (mc.raise k) :=
  ResRel.raise k pushed hv hg hm

theorem ResRel.ite {rg : List Instr} {rm : List Simpleline.Instr} {p : Prop} [Decidable p] {x y : Except (Outcome × Cfg) Cfg}
    {x' y' : Except (Outcome × Simpleline.Cfg) Simpleline.Cfg} (h1 : p → ResRel rg rm x x') (h2 : ¬ p → ResRel rg rm y y') :
    ResRel rg rm (if p then x else y) (if p then x' else y') := by
  split
  · exact h1 ‹_›
  · exact h2 ‹_›

theorem startRequest_rel (rg : List Instr) (rm : List Simpleline.Instr) (gc : Cfg) (mc : Simpleline.Cfg) (ih : Nat) (r : Src) (t : Str)
    (pushed : List Instr) (hv : gc.view = mview mc) (hgc : gc.code = pushed ++ rg) (hmc : mc.code = pushed.map tI ++ rm)
    (hp : ∀ j ∈ pushed, mapped j = true) :
    ResRel rg rm (startRequest gc ih r t) (Simpleline.startRequest mc ih r t) := by
  obtain ⟨gcode, gL, A, glog, gtr, gsid, g1, g2, g3, g4, g5⟩ := gc
  obtain ⟨mcode, mL, mA, mlog, mtr, msid, m1, m2, m3, m4, m5⟩ := mc
  obtain rfl : A = mA := congrArg View.A hv
  simp only [startRequest, Simpleline.startRequest]
  split
  · exact ResRel.raise _ pushed (view_setA hv fun A => { A with inputStack := _, reqs := _, ihs := _ }) hgc hmc
  · split
    · exact ResRel.ok pushed (view_setA hv fun A => { A with inputStack := _, reqs := _, ihs := _, out := _ }) hgc hmc hp
    · exact ResRel.ok pushed (view_setA hv fun A =>
        { A with inputStack := _, reqs := _, ihs := _, out := _, processing := true, readers := _ }) hgc hmc hp

/-- one turn of `InputThreadManager._input_received_handler`'s loop over the other pending requests, on either machine -/
abbrev foldG : Cfg → Nat → Except (Outcome × Cfg) Cfg := fun c t =>
  (c.newSig Cls.inputReady 0 (c.A.reqs.getD t default).requester [] (c.A.reqs.getD t default).ih false).snd.enqueue
    (c.newSig Cls.inputReady 0 (c.A.reqs.getD t default).requester [] (c.A.reqs.getD t default).ih false).fst
abbrev foldM : Simpleline.Cfg → Nat → Simpleline.Cfg := fun c t =>
  (c.newSig Cls.inputReady 0 (c.A.reqs.getD t default).requester [] (c.A.reqs.getD t default).ih false).snd.enqueue
    (c.newSig Cls.inputReady 0 (c.A.reqs.getD t default).requester [] (c.A.reqs.getD t default).ih false).fst

structure Same (rg : List Instr) (rm : List Simpleline.Instr) (g : Cfg) (m : Simpleline.Cfg) : Prop where
  view : g.view = mview m
  loops : g.L.loops ≠ []
  gcode : g.code = rg
  mcode : m.code = rm

def Both (rg : List Instr) (rm : List Simpleline.Instr) (x : Except (Outcome × Cfg) Cfg) (y : Simpleline.Cfg) : Prop :=
  ∃ g', x = .ok g' ∧ Same rg rm g' y

variable {rg : List Instr} {rm : List Simpleline.Instr} {g : Cfg} {m : Simpleline.Cfg}

theorem Same.A (h : Same rg rm g m) : g.A = m.A := congrArg View.A h.view

theorem Same.map (h : Same rg rm g m) {g' : Cfg} {m' : Simpleline.Cfg} (hv : g'.view = mview m')
    (hl : g'.L.loops = g.L.loops := by rfl) (hg : g'.code = g.code := by rfl) (hm : m'.code = m.code := by rfl) :
    Same rg rm g' m' :=
  ⟨hv, hl ▸ h.loops, hg.trans h.gcode, hm.trans h.mcode⟩

theorem Same.both (h : Same rg rm g m) : Both rg rm (.ok g) m := ⟨g, rfl, h⟩

theorem Same.enq? (h : Same rg rm g m) {s s' : Sig} (hs : s = s') : ∃ g', g.enq? s = some g' ∧ Same rg rm g' (m.enqueue s') := by
  subst hs
  have hm := m_enqueue_view m s
  cases he : g.enq? s with
  | some g' =>
    obtain ⟨h1, h3⟩ := enq?_view he
    exact ⟨g', rfl, h.map (by rw [h1, h.view, hm.1]) h3 (enq?_code he) hm.2⟩
  | none =>
    obtain ⟨q, hq⟩ := route_some g.L s.src h.loops
    unfold Cfg.enq? at he
    split at he
    · cases he
    · rw [hq] at he; cases he

theorem Same.enqueue (h : Same rg rm g m) {s s' : Sig} (hs : s = s') : Both rg rm (g.enqueue s) (m.enqueue s') := by
  obtain ⟨g', he, h'⟩ := h.enq? hs
  exact ⟨g', by rw [Cfg.enqueue, he], h'⟩

theorem Same.newSig (h : Same rg rm g m) (cls : Cls) (prio : Int) (src : Src) (line : Str) (ih : Nat) (ok : Bool) :
    (g.newSig cls prio src line ih ok).1 = (m.newSig cls prio src line ih ok).1 ∧
    Same rg rm (g.newSig cls prio src line ih ok).2 (m.newSig cls prio src line ih ok).2 :=
  ⟨by simp only [Cfg.newSig, Simpleline.Cfg.newSig, show g.nextSid = m.nextSid from congrArg View.nextSid h.view],
    h.map (congrArg (fun v : View => { v with nextSid := v.nextSid + 1 }) h.view)⟩

theorem Same.redraw (h : Same rg rm g m) : Both rg rm g.redraw m.redraw := by
  have hn := h.newSig .render 0 .sched [] 0 true
  exact hn.2.enqueue hn.1

theorem Both.bind {x : Except (Outcome × Cfg) Cfg} {y z : Simpleline.Cfg} {f : Cfg → Except (Outcome × Cfg) Cfg}
    (h : Both rg rm x y) (hf : ∀ g', Same rg rm g' y → Both rg rm (f g') z) : Both rg rm (x >>= f) z := by
  obtain ⟨g', rfl, hs⟩ := h
  exact hf g' hs

theorem Both.bindRes {x : Except (Outcome × Cfg) Cfg} {y : Simpleline.Cfg} {f : Cfg → Except (Outcome × Cfg) Cfg}
    {r : Except (Outcome × Simpleline.Cfg) Simpleline.Cfg}
    (h : Both rg rm x y) (hf : ∀ g', Same rg rm g' y → ResRel rg rm (f g') r) : ResRel rg rm (x >>= f) r := by
  obtain ⟨g', rfl, hs⟩ := h
  exact hf g' hs

theorem Same.res (h : Same rg rm g m) : ResRel rg rm (.ok g) (.ok m) :=
  ResRel.ok [] h.view h.gcode h.mcode (mapped_of_all rfl)

theorem Both.res {x : Except (Outcome × Cfg) Cfg} {y : Simpleline.Cfg} (h : Both rg rm x y) : ResRel rg rm x (.ok y) := by
  obtain ⟨g', rfl, hs⟩ := h
  exact hs.res

theorem Same.fold : ∀ (l : List Nat) {g : Cfg} {m : Simpleline.Cfg}, Same rg rm g m →
    Both rg rm (l.foldlM foldG g) (l.foldl foldM m)
  | [], _, _, h => h.both
  | t :: l, g, m, h => by
    rw [List.foldlM_cons, List.foldl_cons]
    have hn := h.newSig Cls.inputReady 0 (g.A.reqs.getD t default).requester [] (g.A.reqs.getD t default).ih false
    have he : Both rg rm (foldG g t) (foldM m t) := by
      unfold foldM
      rw [← h.A]
      exact hn.2.enqueue hn.1
    exact he.bind fun g' hs => Same.fold l hs

theorem Same.deliver (h : Same rg rm g m) : Same rg rm ((g.deliver).getD g) ((m.deliver).getD m) := by
  unfold Cfg.deliver Simpleline.Cfg.deliver
  rw [h.A]
  cases m.A.readers with
  | nil => exact h
  | cons r rs =>
    have h1 : Same rg rm { g with A := { g.A with readers := rs, stdin := g.A.stdin.tail }, log := .read (g.A.stdin.headD []) :: g.log }
        { m with A := { m.A with readers := rs, stdin := m.A.stdin.tail }, log := .read (m.A.stdin.headD []) :: m.log } :=
      h.map (congrArg (fun v : View =>
        { v with A := { v.A with readers := rs, stdin := v.A.stdin.tail }, log := .read (v.A.stdin.headD []) :: v.log }) h.view)
    have hn := h1.newSig .inputReceived 0 (.req r) (g.A.stdin.headD []) 0 true
    obtain ⟨g', he, hs⟩ := hn.2.enq? hn.1
    rw [h.A] at he hs
    simp only [Option.getD_some]
    rw [he]
    exact hs

theorem Same.emit (P : Prog) (h : Same rg rm g m) (e : Ev) : Same rg rm (g.emit P e) (m.emit P e) := by
  have h1 : Same rg rm { g with log := e :: g.log } { m with log := e :: m.log } :=
    h.map (congrArg (fun v : View => { v with log := e :: v.log }) h.view)
  unfold Cfg.emit Simpleline.Cfg.emit
  dsimp only
  rw [show (e :: g.log).length = (e :: m.log).length from congrArg (fun v : View => (e :: v.log).length) h.view]
  split
  · exact h1.deliver
  · exact h1

/-- the end of `close_screen`: `ExitMainLoop` when the stack has become empty -/
theorem Same.exitIfEmpty (h : Same rg rm g m) :
    ResRel rg rm (if g.A.stack = [] then g.raise .exit else pure g) (if m.A.stack = [] then m.raise .exit else .ok m) := by
  rw [h.A]
  split
  · exact ResRel.raise .exit [] h.view h.gcode h.mcode
  · exact h.res

/-- `InputThreadManager._input_received_handler` after the request has been looked up -/
theorem Same.inputReceived (h : Same rg rm g m) (s : Sig) (l : List Nat) :
    ResRel rg rm
      (do let c ← g.enqueue s
          let c ← l.foldlM foldG c
          pure { c with A := { c.A with inputStack := [], processing := false } })
      (.ok ({ l.foldl foldM (m.enqueue s) with
        A := { (l.foldl foldM (m.enqueue s)).A with inputStack := [], processing := false } } : Simpleline.Cfg)) :=
  (h.enqueue rfl).bindRes fun _ h1 => (Same.fold l h1).bindRes fun _ h2 =>
    (h2.map (view_setA h2.view fun A => { A with inputStack := [], processing := false })).res

theorem Same.regSource (h : Same rg rm g m) (src : Src) : Both rg rm (g.regSource src) m := by
  obtain ⟨q, hq⟩ := regSource_eq g src h.loops
  exact ⟨_, hq, h.map h.view⟩

theorem Same.push (h : Same rg rm g m) (pushed : List Instr) {pm : List Simpleline.Instr} (hpm : pushed.map tI = pm)
    (hp : ∀ j ∈ pushed, mapped j = true) : ResRel rg rm (.ok (push g pushed)) (.ok (Simpleline.push m pm)) :=
  ResRel.ok pushed h.view (congrArg (pushed ++ ·) h.gcode) (hpm ▸ congrArg (pushed.map tI ++ ·) h.mcode) hp

end Simpleline.G
