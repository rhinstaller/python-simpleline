/-
  GLib machine: the quit callback is logged at most once (invariant over `Reach`), from three clauses of `StepFacts`: the
  quit-callback registration is never changed, no step but `quitCb` logs a quit-callback event, the number of pending
  `quitCb` / `apprun` instructions never grows.
-/
import Simpleline.Lemmas.GMInv

namespace Simpleline.G

theorem cnt_map {α} (l : List α) (f : α → Instr) (h : ∀ x, qa (f x) = false) : (l.map f).countP qa = 0 := by
  rw [List.countP_eq_zero]
  intro i hi
  obtain ⟨x, _, rfl⟩ := List.mem_map.1 hi
  simp [h x]

theorem mem_filter_isQ {l : List Ev} {d : Nat} : Ev.quitcb d ∈ l ↔ Ev.quitcb d ∈ l.filter isQ := by
  simp [List.mem_filter, isQ]

theorem step_quitCb (P : Prog) (c : Cfg) (rest : List Instr) (hc : c.code = .quitCb :: rest) :
    (rcfg (step P c)).code = rest ∧ (rcfg (step P c)).L.quitCb = c.L.quitCb ∧
    (rcfg (step P c)).log.filter isQ = (c.L.quitCb.toList.map Ev.quitcb) ++ c.log.filter isQ := by
  cases hq : c.L.quitCb with
  | none => simp [step, hc, hq, rcfg]
  | some d =>
    have kk := deliverD_keep ({ c with code := rest, log := Ev.quitcb d :: c.log } : Cfg)
    have hcode := deliverD_code ({ c with code := rest, log := Ev.quitcb d :: c.log } : Cfg)
    simp only [step, hc, hq, rcfg, Cfg.emit]
    split
    · refine ⟨hcode, kk.qcb.trans hq, ?_⟩
      rw [kk.logq]; simp [List.filter, isQ]
    · exact ⟨rfl, hq, by simp [List.filter, isQ]⟩

/-- registration unchanged; at most one of: a pending `apprun`, a pending `quitCb`, a logged quit callback; a logged quit
callback carries the registered datum -/
def QInv (q0 : Option Nat) (c : Cfg) : Prop :=
  c.L.quitCb = q0 ∧ c.code.countP qa + (c.log.filter isQ).length ≤ 1 ∧ ∀ d, Ev.quitcb d ∈ c.log → q0 = some d

theorem qInv_step (P : Prog) (q0 : Option Nat) (c : Cfg) (h : QInv q0 c) : QInv q0 (rcfg (step P c)) := by
  obtain ⟨h1, h2, h3⟩ := h
  by_cases hh : c.code.head? = some .quitCb
  · cases hc : c.code with
    | nil => rw [hc] at hh; cases hh
    | cons i rest =>
      rw [hc] at hh
      simp only [List.head?_cons, Option.some.injEq] at hh
      subst hh
      obtain ⟨k1, k2, k3⟩ := step_quitCb P c rest hc
      have hcnt : rest.countP qa = 0 ∧ (c.log.filter isQ).length = 0 := by
        rw [hc, List.countP_cons] at h2
        simp only [qa, if_true] at h2
        omega
      refine ⟨k2.trans h1, ?_, fun d hd => ?_⟩
      · rw [k1, k3, hcnt.1, List.length_append, hcnt.2]
        cases c.L.quitCb <;> simp
      · rw [mem_filter_isQ, k3] at hd
        rcases List.mem_append.1 hd with hd | hd
        · rw [h1] at hd
          cases hq : q0 with
          | none => rw [hq] at hd; simp at hd
          | some d0 => rw [hq] at hd; simp at hd; rw [hd]
        · exact h3 d (mem_filter_isQ.2 hd)
  · have sf := step_facts P c
    refine ⟨sf.qcb.trans h1, ?_, fun d hd => ?_⟩
    · rw [sf.logq hh]; exact Nat.le_trans (Nat.add_le_add_right sf.cnt _) h2
    · rw [mem_filter_isQ, sf.logq hh] at hd
      exact h3 d (mem_filter_isQ.2 hd)

theorem qInv_reach {P : Prog} {c0 c : Cfg} (h0 : Started c0) (hr : Reach P c0 c) : QInv c0.L.quitCb c := by
  induction hr with
  | init =>
    obtain ⟨init, hs, q, stdin, rfl⟩ := h0
    refine ⟨rfl, ?_, fun d hd => by simp [initCfg] at hd⟩
    show (init.map Instr.act ++ [Instr.apprun]).countP qa + 0 ≤ 1
    rw [List.countP_append, cnt_map _ _ fun _ => rfl]
    exact Nat.le_refl 1
  | @step c1 c2 _ hs ih => have := qInv_step P _ c1 ih; rw [hs] at this; exact this
  | @deliver c1 c2 _ hd ih =>
    have hk := deliver_keep hd
    obtain ⟨h1, h2, h3⟩ := ih
    refine ⟨hk.qcb.trans h1, by rw [deliver_code hd, hk.logq]; exact h2, fun d hd' => ?_⟩
    rw [mem_filter_isQ, hk.logq] at hd'
    exact h3 d (mem_filter_isQ.2 hd')
  | @halt c1 c2 o _ hs ih => have := qInv_step P _ c1 ih; rw [hs] at this; exact this

end Simpleline.G
