/-
  GLib machine: `StepFacts` holds of every step (`step_facts`), instruction by instruction; the steps of `_run_handlers`
  that C20b, C20c and the flat runs need as equations (`step_gCall_end`, `step_runH`).
-/
import Simpleline.Lemmas.GMStep
import Simpleline.Lemmas.Store

namespace Simpleline.G

theorem handlersOf_mem {L : GSt} {cls : Cls} {k : Nat} {h : HRef} {d : Option Nat}
    (hk : (handlersOf L cls)[k]? = some (h, d)) : (cls, h, d) ∈ L.handlers :=
  mem_of_mem_handlers (List.mem_of_getElem? hk)

theorem newIH_keep (c : Cfg) (src : Src) (skip : Bool) (cb : Option Nat) :
    Keep c (newIH c src skip cb).2 ∧ (newIH c src skip cb).2.code = c.code :=
  ⟨⟨List.prefix_append _ _, rfl, rfl, rfl, rfl, [], rfl, by simp⟩, rfl⟩

theorem step_facts (P : Prog) (c0 : Cfg) : StepFacts c0 (rcfg (step P c0)) := by
  unfold step
  split
  · rename_i hc
    exact {
      cnt := Nat.le_refl _, qcb := rfl, logq := fun _ => rfl, tickets := Or.inl rfl, tr := ⟨[], rfl, fun _ h => nomatch h⟩
      handlers := List.prefix_refl _
      code := fun i (hi : i ∈ c0.code) _ => by rw [hc] at hi; cases hi
      fq := fun hf _ => hf
      fqSet := fun h1 (h2 : c0.L.forceQuit = true) => by rw [h1] at h2; cases h2 }
  · rename_i ins rest hc
    have k0 : Keep c0 { c0 with code := rest } := Keep.same
    have hd : c0.code.head? = some ins := by rw [hc]; rfl
    cases ins with
    | act a => exact doAct_facts hc
    | apprun =>
      have hfq : c0.L.forceQuit = true → c0.code.head? ≠ some Instr.apprun → ∀ X : Cfg, X.L.forceQuit = true :=
        fun _ h => absurd hd h
      simp only
      split
      · exact facts_plain hc k0
      · split
        · rename_i q _
          -- the one step that pushes `quitCb` (in place of `apprun`) and resets the force-quit flag
          exact {
            cnt := by rw [hc]; simp [push, Cfg.setCtx, qa, List.countP_cons]
            qcb := rfl, logq := fun _ => rfl, tickets := Or.inl rfl, tr := ⟨[], rfl, fun _ h => nomatch h⟩, handlers := List.prefix_refl _
            code := fun i hi hb => by
              rcases List.mem_cons.1 hi with rfl | hi
              · cases hb
              · rcases List.mem_cons.1 hi with rfl | hi
                · exact Or.inr hd
                · rw [hc]; exact Or.inl hi
            fq := fun a b => hfq a b _, fqSet := fun _ h => nomatch h }
        · have g := raise_good ({ c0 with code := rest, L := { c0.L with forceQuit := false } } : Cfg) .err
          obtain ⟨new, e, hq⟩ := g.2.tr
          exact {
            cnt := by rw [hc, List.countP_cons]; exact Nat.le_trans g.1.sublist.countP_le (Nat.le_add_right _ _)
            qcb := g.2.qcb, logq := fun _ => g.2.logq, tickets := Or.inl g.2.tickets, handlers := g.2.handlers
            tr := ⟨new, e, fun t ht hl => by rw [hq t ht] at hl; cases hl⟩
            code := fun i hi _ => Or.inl (by rw [hc]; exact g.1.subset hi)
            fq := fun a b => hfq a b _
            fqSet := fun _ h2 => by rw [g.2.fq] at h2; cases h2 }
    | quitCb =>
      simp only
      split
      · exact facts_plainL hc (k0.toL.emit P _ fun _ => hd) ⟨[], emit_code _ _ _⟩
      · exact facts_plain hc k0
    | gRun q => exact facts_ite (fun _ => facts_push hc k0) fun _ => facts_plain hc Keep.ev
    | gIter q mode =>
      simp -zeta only
      -- `c2`: the configuration after a possible delivery of a typed line
      extract_lets c c1 e c2
      have h2 : Keep c0 c2 ∧ c2.code = rest := by
        unfold c2
        split
        · exact ⟨(Keep.same : Keep c0 c1).trans (deliverD_keep _), deliverD_code _⟩
        · exact ⟨Keep.same, rfl⟩
      clear_value c2
      simp only
      split
      · split
        · exact facts_plain hc h2.1 ⟨[], h2.2⟩
        · split
          · exact facts_plain hc h2.1 ⟨[], h2.2⟩
          · exact facts_plain hc (h2.1.trans Keep.ev) ⟨[], h2.2⟩
        · exact facts_plain hc (h2.1.trans Keep.ev) ⟨[], h2.2⟩
      · rename_i p hp
        -- the batch is collected: one loud event, and the `gDisp` instructions it justifies
        have hg : ∃ m, c0.code.head? = some (.gIter q m) := ⟨mode, hd⟩
        refine facts_gen hc ((h2.1.toL.gtrace (.iter q e p _ _) fun _ => ⟨hg, hp, rfl⟩).trans Keep.same)
          (by rw [show (rcfg _).code = _ ++ c2.code from rfl, h2.2]; exact List.Sublist.refl _) fun i hi _ => ?_
        obtain ⟨g, hg', rfl⟩ := List.mem_map.1 hi
        exact ⟨rfl, hg, p, _, _, List.mem_cons_self, hg'⟩
    | gDisp q e g =>
      refine facts_ite (fun _ => facts_plain hc Keep.ev) fun _ => ?_
      split
      · exact facts_plain hc Keep.ev
      · refine facts_ite (fun _ => facts_plain hc Keep.ev) fun _ => ?_
        exact facts_pushL hc (((Keep.same : Keep c0 _).toL.gtrace (.disp q e g) fun _ => hd).trans Keep.ev) (boring_of_all rfl)
    | runH q g =>
      refine facts_ite (fun _ => facts_push hc k0) fun hf => ?_
      refine facts_gen hc (pushed := [.gCall g.sig g.hs 0, .catchRun, .endRun q g]) (k0.toL.trans Keep.same)
        (List.Sublist.refl _) fun i hi hb => ?_
      rcases List.mem_cons.1 hi with rfl | hi
      · exact ⟨rfl, Or.inr ⟨q, g, hd, rfl, rfl, by simpa using hf, rfl⟩⟩
      · rw [boring_of_all (l := [.catchRun, .endRun q g]) rfl i hi] at hb; cases hb
    | gCall s hs i =>
      simp only
      split
      · split
        · rename_i h d hk
          split
          · exact facts_plain hc Keep.ev
          · rename_i hf
            refine facts_gen hc (pushed := [.callH h d s, .gCall s .live (i + 1)]) (k0.toL.trans Keep.same)
              (List.Sublist.refl _) fun j hj _ => ?_
            rcases List.mem_cons.1 hj with rfl | hj
            · exact ⟨rfl, ⟨i, hd, hk, by rw [hc]; rfl⟩, handlersOf_mem hk, by simpa using hf⟩
            · obtain rfl := List.mem_singleton.1 hj
              exact ⟨rfl, Or.inl ⟨i, hd, rfl⟩⟩
        · exact facts_plain hc Keep.ev
      · split
        · rename_i hi0
          refine facts_gen hc (pushed := [.kill s, .gCall s .kill 1]) (k0.toL.trans Keep.same)
            (List.Sublist.refl _) fun j hj hb => ?_
          rcases List.mem_cons.1 hj with rfl | hj
          · cases hb
          · obtain rfl := List.mem_singleton.1 hj
            exact ⟨rfl, Or.inl ⟨i, hd, by rw [hi0.1]⟩⟩
        · exact facts_plain hc Keep.ev
      · exact facts_plain hc Keep.ev
    | catchRun => exact facts_plain hc k0
    | endRun q g =>
      exact facts_plainL hc ((k0.toL.setTickets (TicketOK.endRun hd)).trans Keep.ev)
    | gAfter q sid => exact facts_plain hc Keep.same
    | kill s => exact facts_good hc (raise_good _ _) Keep.ev
    | callH h d s =>
      have kl : KeepL c0 (({ c0 with code := rest } : Cfg).trace (.call h d s)) := k0.toL.gtrace (.m (.call h d s)) fun _ => hd
      simp only
      cases h with
      | user hid =>
        refine facts_pushL hc (kl.emit P _ nofun) (fun i hi => ?_) ⟨[], emit_code _ _ _⟩
        rcases List.mem_append.1 hi with h | h
        · exact boring_acts _ i h
        · exact boring_of_all (l := [.hret hid]) rfl i h
      | render => exact facts_pushL hc kl (boring_of_all rfl)
      | close => exact facts_pushL hc kl (boring_of_all rfl)
      | itm => exact facts_pushL hc kl (boring_of_all rfl)
      | ih n => exact facts_pushL hc kl (boring_of_all rfl)
      | exc => exact facts_plainL hc (kl.emit P _ nofun) ⟨[], emit_code _ _ _⟩
    | hret hid => exact facts_plainL hc (k0.toL.emit P _ nofun) ⟨[], emit_code _ _ _⟩
    | note w => exact facts_plainL hc (k0.toL.emit P _ nofun) ⟨[], emit_code _ _ _⟩
    | procWait cls =>
      simp only
      split
      · exact facts_good hc (raise_good _ _) k0
      · exact facts_pushL hc ((k0.toL.setTickets (TicketOK.procWait hd)).trans Keep.ev) (boring_of_all rfl)
    | gWait cls t q =>
      exact facts_ite (fun _ => facts_plainL hc ((k0.toL.setTickets (TicketOK.gWait hd)).trans Keep.ev)) fun _ =>
        facts_ite (fun _ => facts_plain hc Keep.ev) fun _ => facts_push hc k0
    | procIter =>
      simp only
      split
      · exact facts_good hc (raise_good _ _) k0
      · exact facts_push hc k0
    | newLoop s =>
      refine facts_ite (fun _ => facts_plain hc k0) fun _ => ?_
      exact facts_bind_push hc (enqueue_good _ s) Keep.ev (fun c => c.setCtx c0.L.ctxs.length fun x => { x with running := true })
          (fun c => ⟨rfl, Keep.same⟩)
    | closeLoop =>
      simp only
      split
      · exact facts_good hc (raise_good _ _) k0
      · exact facts_plain hc Keep.ev
    | pushModal scr args => exact facts_push hc (Keep.of_tr [_, _])
    | modalRet e => exact facts_plain hc Keep.ev
    | closeScreen frm =>
      simp only
      split
      · exact facts_good hc (raise_good _ _) k0
      · exact facts_ite (fun _ => facts_good hc (raise_good _ _) k0) fun _ => facts_push hc Keep.ev
    | closeScreen2 e frm =>
      exact facts_ite (fun _ => facts_good hc (raise_good _ _) k0) fun _ =>
        facts_ite (fun _ => facts_push hc k0) fun _ => facts_push hc k0
    | closeScreen3 e =>
      have hr : ∀ c1 : Cfg, Good c1 (if c1.A.stack = [] then c1.raise .exit else pure c1) := fun c1 => by
        split
        · exact raise_good _ _
        · exact Good.ok _ _ (List.suffix_refl _) (Keep.refl _)
      simp only
      split
      · exact facts_good hc ((redraw_good _).bind hr) k0
      · exact facts_good hc (hr _) k0
    | processScreen =>
      simp only
      split
      · exact facts_good hc (raise_good _ _) k0
      · exact facts_ite (fun _ => facts_push hc k0) fun _ => facts_push hc k0
    | afterSetup top =>
      refine facts_ite (fun _ => facts_push hc k0) fun _ => ?_
      split
      · exact facts_good hc (raise_good _ _) k0
      · exact facts_ite (fun _ => facts_push hc Keep.ev) fun _ => facts_good hc (redraw_good _) Keep.ev
    | afterSetupFail e => exact facts_ite (fun _ => facts_good hc (raise_good _ _) k0) fun _ => facts_plain hc k0
    | afterSetup2 top =>
      exact facts_bind_push hc (regSource_good _ _) k0 (fun c => c.trace (.refresh top)) (fun c => ⟨rfl, Keep.ev⟩)
    | identCheck top =>
      simp only
      split
      · exact facts_good hc (raise_good _ _) k0
      · exact facts_ite (fun _ => facts_plain hc Keep.same (List.dropWhile_suffix _)) fun _ => facts_push hc k0
    | catchPS => exact facts_plain hc k0
    | drawScreen top =>
      simp only
      split
      · exact facts_push hc Keep.ev
      · exact facts_push hc Keep.ev
    | catchDraw => exact facts_plain hc k0
    | maybeInput top => exact facts_ite (fun _ => facts_push hc k0) fun _ => facts_plain hc k0
    | callScr scr cb arg key =>
      refine facts_pushL hc ((Keep.same : Keep c0 _).toL.emit P _ nofun) (fun i hi => ?_) ⟨[], emit_code _ _ _⟩
      rcases List.mem_append.1 hi with hi | hi
      · rcases List.mem_append.1 hi with hi | hi
        · split at hi
          · exact boring_of_all (l := [.printWidget scr]) rfl i hi
          · cases hi
        · exact boring_acts _ i hi
      · exact boring_of_all (l := [.scrRet ..]) rfl i hi
    | scrRet scr cb ret key =>
      cases cb with
      | setup =>
        exact facts_ite (fun _ => facts_plain hc Keep.same) fun _ =>
          facts_bind_map hc (regSource_good _ _) Keep.same _ (fun c => ⟨rfl, Keep.same⟩)
      | prompt => exact facts_plain hc Keep.same
      | input => exact facts_plain hc Keep.same
      | refresh => exact facts_plain hc k0
      | «show» => exact facts_plain hc k0
      | closed => exact facts_plain hc k0
    | printWidget scr =>
      simp only
      split
      · exact facts_good hc (raise_good _ _) k0
      · split
        · exact facts_plain hc k0
        · exact facts_pushL hc k0.toL (chunkOut_forall (·.boring = true) (fun _ => rfl) (fun _ => rfl) _ _ _ fun _ h => nomatch h)
    | printLines ls => exact facts_plain hc Keep.same
    | getInput scr args => exact facts_push hc k0
    | getInput2 scr args =>
      exact facts_ite (fun _ => facts_plain hc Keep.same) fun _ =>
        facts_good hc (startRequest_good _ _ _ _) (Keep.trans Keep.same (newIH_keep _ _ _ _).1)
    | blockingInput scr cont =>
      exact facts_good' hc (startRequest_good _ _ _ _) [.waitInput c0.A.ihs.length] (boring_of_all rfl)
        (k0.trans ((newIH_keep { c0 with code := rest } (.im scr) (P.spec scr).skipCheck none).1.trans Keep.same))
    | waitInput ih =>
      exact facts_ite (fun _ => facts_plain hc k0) fun _ => facts_ite (fun _ => facts_plain hc k0) fun _ => facts_push hc k0
    | inputReceived s =>
      simp only
      split
      · exact facts_good hc (raise_good _ _) k0
      · refine facts_good hc (c1 := { c0 with code := rest, nextSid := c0.nextSid + 1 })
          ((enqueue_good _ _).bind fun c1 => (foldlM_good _ (fun c t => ?_) _ _).bind fun c2 =>
            Good.ok _ _ (List.suffix_refl _) Keep.same) Keep.same
        exact (enqueue_good _ _).mono (List.suffix_refl _) (Keep.same)
    | inputReady n s =>
      refine facts_ite (fun _ => facts_plain hc k0) fun _ => facts_ite (fun _ => facts_plain hc Keep.same) fun _ => ?_
      split
      · exact facts_push hc Keep.same
      · exact facts_plain hc Keep.same
    | processInput scr key => exact facts_push hc k0
    | classify scr => exact facts_plain hc Keep.same
    | catchPI scr => exact facts_plain hc k0
    | countAndAct scr =>
      simp only
      generalize c0.A.setScr scr _ = A'
      split
      · exact facts_good hc (raise_good _ _) Keep.same
      · split
        · split
          · exact facts_good hc (redraw_good _) Keep.same
          · exact facts_push hc Keep.same
        · exact facts_plain hc Keep.same
        · exact facts_good hc (redraw_good _) Keep.same
        · exact facts_push hc Keep.same
        · split
          · exact facts_push hc Keep.same
          · exact facts_good hc (raise_good _ _) Keep.same
    | endPI => exact facts_plain hc k0
    | afterQuit q =>
      simp only
      split
      · exact facts_good hc (raise_good _ _) k0
      · exact facts_good hc (raise_good _ _) k0
      · exact facts_good hc (redraw_good _) k0

/-- the handler loop of `_run_handlers` is left: under force-quit (`break`), on the empty snapshot, or at the end of the live
list -/
theorem step_gCall_end (P : Prog) {c : Cfg} {s : Sig} {hs : HList} {i : Nat} {rest : List Instr}
    (hc : c.code = .gCall s hs i :: rest)
    (h : c.L.forceQuit = true ∨ hs = .empty ∨ hs = .live ∧ (handlersOf c.L s.cls)[i]? = none) :
    step P c = .ok { c with code := rest, tr := .m (.dispatched s i) :: c.tr } := by
  rcases h with hf | rfl | ⟨rfl, hn⟩
  · cases hs with
    | live =>
      simp only [step, hc, hf]
      split <;> rfl
    | kill => simp [step, hc, hf, Cfg.trace]
    | empty => simp [step, hc, Cfg.trace]
  · simp [step, hc, Cfg.trace]
  · simp [step, hc, hn, Cfg.trace]

/-- `_run_handlers` outside force-quit: the handler loop, the `try` and the epilogue of the source behind one another -/
theorem step_runH (P : Prog) {c : Cfg} {q : Nat} {g : GSource} {rest : List Instr} (hc : c.code = .runH q g :: rest)
    (hf : c.L.forceQuit = false) :
    step P c = .ok { c with code := .gCall g.sig g.hs 0 :: .catchRun :: .endRun q g :: rest } := by
  simp [step, hc, hf, push]

end Simpleline.G
