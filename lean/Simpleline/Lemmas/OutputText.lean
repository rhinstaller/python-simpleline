/-
  Helper lemmas for C17 (console output), pure layer: which characters a `TextWidget` can put into its
  lines (`renderTextSt`), the width of its lines for *every* integer width (together: `Lines`, `render_lines`), the
  same for the title part of a window, and the lines of a text prompt (`textPrompt`, `splitOn_joined`).
-/
import Simpleline.Lemmas.Text
import Simpleline.Lemmas.Screen

namespace Simpleline.Output

/-- what a `TextWidget` showing the text `t` can put into a line: a blank, or a character of `t` that
is not one of `string.whitespace` (`'\t' '\n' '\x0b' '\x0c' '\r' ' '`) -/
def TextChar (t : List Char) (ch : Char) : Prop := ch = ' ' ∨ (ch ∈ t ∧ isWs6 ch = false)

theorem TextChar.ne_nl {t : List Char} {ch : Char} (h : TextChar t ch) : ch ≠ '\n' := by
  rcases h with rfl | ⟨_, h⟩
  · decide
  · intro e; subst e; revert h; decide

/-- `_munge_whitespace` replaces every character of `string.whitespace` by a blank and adds only
blanks -/
theorem munge_chars (t : List Char) : ∀ ch ∈ munge t, TextChar t ch := by
  intro ch h
  cases hw : isWs6 ch with
  | true =>
    -- a whitespace character of the result is one of the blanks put in
    obtain ⟨d, _, rfl⟩ := List.mem_map.mp h
    by_cases hd : isWs6 d = true
    · rw [if_pos hd]; exact .inl rfl
    · rw [if_neg hd] at hw; exact absurd hw hd
  | false =>
    have hm : ch ∈ (munge t).filter (!isWs6 ·) := List.mem_filter.mpr ⟨h, by rw [hw]; rfl⟩
    rw [filter_munge _ (fun c hc => by rw [hc]; rfl)] at hm
    exact .inr ⟨(List.mem_filter.mp hm).1, hw⟩

theorem pyWrap_chars (cc : CharClass) (l : List Char) (w : Nat) :
    ∀ x ∈ pyWrap cc l w, ∀ ch ∈ x, TextChar l ch :=
  fun x hx ch hch => munge_chars l ch (pyWrap_subset cc l w x hx hch)

theorem render_chars (cc : CharClass) (st : WSt) (t : List Char) (w : Int) (s : WSt)
    (h : renderTextSt cc st t w = .ok s) : ∀ l ∈ s.buf, ∀ ch ∈ l, TextChar t ch := by
  rcases render_int_cases cc st t w s h with h0 | ⟨hw, h1⟩
  · rw [h0]; simp
  · rw [render_breaks cc st t w.toNat hw s h1]
    split
    · simp
    · intro l hl ch hch
      obtain ⟨src, hsrc, hl⟩ := List.mem_flatMap.mp hl
      split at hl
      · rw [List.mem_singleton.mp hl] at hch; cases hch
      · rcases pyWrap_chars cc src w.toNat l hl ch hch with h2 | ⟨h2, h3⟩
        · exact .inl h2
        · exact .inr ⟨mem_of_mem_splitOn '\n' t src hsrc ch h2, h3⟩

theorem textPrompt_spec (cc : CharClass) (p : Str) (w : Int) (r : Str) (h : textPrompt cc p w = .ok r) :
    ∃ st, renderTextSt cc {} p w = .ok st ∧ r = joinWith '\n' st.buf ++ [' '] := by
  unfold textPrompt at h
  cases hr : renderTextSt cc {} p w with
  | error e => simp [hr, bind, Except.bind] at h
  | ok st =>
    simp only [hr, bind, Except.bind, pure, Except.pure, Except.ok.injEq] at h
    exact ⟨st, rfl, h.symm⟩

theorem joinWith_eq_joinStr (sep : Char) : ∀ ls : List (List Char), joinWith sep ls = joinStr [sep] ls
  | [] => rfl
  | [_] => rfl
  | l :: l' :: ls => by
    rw [joinWith_cons_cons, joinWith_eq_joinStr sep (l' :: ls), List.append_cons]
    rfl

def Lines (A : Char → Prop) (w : Nat) (g : Grid) : Prop := ∀ l ∈ g, l.length ≤ w ∧ ∀ ch ∈ l, A ch

namespace Lines
variable {A B : Char → Prop} {w : Nat} {g g' : Grid}

theorem mono (h : Lines A w g) (hAB : ∀ ch, A ch → B ch) : Lines B w g :=
  fun l hl => ⟨(h l hl).1, fun ch hch => hAB ch ((h l hl).2 ch hch)⟩

theorem nil : Lines A w [] := fun _ h => nomatch h

theorem append (h : Lines A w g) (h' : Lines A w g') : Lines A w (g ++ g') :=
  fun l hl => (List.mem_append.mp hl).elim (h l) (h' l)

theorem sub (h : Lines A w g) (hs : ∀ l ∈ g', l ∈ g) : Lines A w g' := fun l hl => h l (hs l hl)

theorem no_sep (h : Lines A w g) {sep : Char} (hA : ¬ A sep) : ∀ l ∈ g, sep ∉ l :=
  fun l hl hm => hA ((h l hl).2 sep hm)

end Lines

theorem render_lines (cc : CharClass) (st : WSt) (t : List Char) (w : Int) (s : WSt)
    (h : renderTextSt cc st t w = .ok s) : Lines (TextChar t) w.toNat s.buf :=
  fun l hl => ⟨render_width_int cc st t w s h l hl, render_chars cc st t w s h l hl⟩

/-! ### an optional text and the title part of a window -/

def optLines (cc : CharClass) (o : Option Str) (w : Int) : Except RErr Grid :=
  match truthy o with
  | some t => (renderTextSt cc {} t w).map (·.buf)
  | none => .ok []

theorem truthy_getD {o : Option Str} {t : Str} (h : truthy o = some t) : o.getD [] = t := by
  unfold truthy at h
  split at h
  · cases h
  · rw [h]; rfl

theorem optLines_lines {cc : CharClass} {o : Option Str} {w : Int} {g : Grid} (h : optLines cc o w = .ok g) :
    Lines (TextChar (o.getD [])) w.toNat g := by
  unfold optLines at h
  split at h
  · next t ht =>
    cases hs : renderTextSt cc {} t w with
    | error e => rw [hs] at h; cases h
    | ok s => rw [hs] at h; cases h; exact truthy_getD ht ▸ render_lines cc {} t w s hs
  · cases h; exact .nil

theorem titleLines_lines {cc : CharClass} {title : Option Str} {w : Int} {tl : Grid}
    (h : titleLines cc title w = .ok tl) : Lines (TextChar (title.getD [])) w.toNat tl := by
  unfold titleLines at h
  split at h
  · next t ht =>
    cases hs : renderTextSt cc {} t w with
    | error e => rw [hs] at h; cases h
    | ok s =>
      rw [hs] at h; cases h
      exact (truthy_getD ht ▸ render_lines cc {} t w s hs).append fun l hl => by
        rw [List.mem_singleton.mp hl]; exact ⟨Nat.zero_le _, nofun⟩
  · cases h; exact .nil

theorem eq_nil_or_snoc {α} (g : List α) : g = [] ∨ ∃ g' l, g = g' ++ [l] :=
  (List.eq_nil_or_concat g).imp id fun ⟨g', l, h⟩ => ⟨g', l, h.trans (List.concat_eq_append ..)⟩

theorem joinWith_concat_append (sep : Char) (l R : List Char) :
    ∀ g : Grid, joinWith sep (g ++ [l]) ++ R = joinWith sep (g ++ [l ++ R])
  | [] => rfl
  | [x] => by simp [joinWith]
  | x :: y :: g => by
    have ih := joinWith_concat_append sep l R (y :: g)
    simp only [List.cons_append, joinWith_cons_cons] at ih ⊢
    rw [List.append_assoc, List.cons_append, ih]

/-- the lines of a text prompt (`joinWith '\n' g ++ [' ']`): those of the grid, the last one continued by the blank -/
theorem splitOn_joined (g : Grid) (h : ∀ l ∈ g, '\n' ∉ l) :
    splitOn '\n' (joinWith '\n' g ++ [' ']) = g.dropLast ++ [g.getLastD [] ++ [' ']] := by
  rcases eq_nil_or_snoc g with rfl | ⟨g', l, rfl⟩
  · rfl
  · have hn : ∀ x ∈ g' ++ [l ++ [' ']], '\n' ∉ x := by
      intro x hx hm
      rcases List.mem_append.mp hx with hx | hx
      · exact h x (List.mem_append_left _ hx) hm
      · rw [List.mem_singleton.mp hx] at hm
        rcases List.mem_append.mp hm with hm | hm
        · exact h l (by simp) hm
        · exact absurd (List.mem_singleton.mp hm) (by decide)
    rw [joinWith_concat_append, splitOn_joinWith '\n' _ hn, if_neg (by simp), List.dropLast_concat,
      List.getLastD_concat]

end Simpleline.Output
