/-
  The invariants behind C05 "shield", "quiescent" and "close only for modal", without the hypothesis `NoErr`.

  Since `close_screen` checks `closed_from` *before* it pops (a refused request pops nothing), no
  exception can separate the pop of a modal entry from the `close_loop` of its level in a program whose
  `closed()` callbacks are silent and whose `close_loop` drains dispatch nothing: the straight-line
  windows between the two (`Win`) contain no instruction that can raise — the only candidates are
  `closeScreen2` (its `closed_from` check repeats the check that was passed before the pop: `AccCode`)
  and `popLevel` (which finds at least two levels, by the counting invariant).  An exception raised
  anywhere else finds nothing pending and unwinds nothing that matters.

  So the window invariant and the counting invariant hold in *every* reachable configuration of such
  a program, whether or not exceptions escaped from callbacks.
-/
import Simpleline.Lemmas.ShapeShield

namespace Simpleline

/-- every pending `closeScreen2` (the part of `close_screen` after the pop) stands for a request that
was accepted: no requester, or the popped screen itself -/
def AccCode (code : List Instr) : Prop :=
  ∀ e frm, Instr.closeScreen2 e frm ∈ code → frm = none ∨ frm = some (.scr e.screen)

def FixInv (v : SV) : Prop := WinInv v ∧ MatchInv v ∧ AccCode v.code

namespace Shape

theorem _root_.Simpleline.AccCode.sublist {l1 l2 : List Instr} (h : l1.Sublist l2) (ha : AccCode l2) : AccCode l1 :=
  fun e frm hm => ha e frm (h.subset hm)

theorem _root_.Simpleline.AccCode.tail {h : Instr} {rest : List Instr} (ha : AccCode (h :: rest)) : AccCode rest :=
  ha.sublist (List.sublist_cons_self ..)

theorem _root_.Simpleline.AccCode.append {B rest : List Instr} (hB : ∀ e frm, Instr.closeScreen2 e frm ∉ B) (hr : AccCode rest) :
    AccCode (B ++ rest) := by
  intro e frm hm
  rcases List.mem_append.1 hm with h | h
  · exact absurd h (hB e frm)
  · exact hr e frm h

theorem batch_no_close2 {P : Prog} {v : SV} {h : Instr} {B : List Instr} {evs : List Tr} (hb : Batch P v h B evs)
    (e : Entry) (frm : Option Src) : Instr.closeScreen2 e frm ∉ B := by
  intro hm
  have hsc := fun hh => (batch_scripted hb hh).2
  cases hb
  case callUser | callScr | printWidget => cases hsc rfl _ hm
  all_goals simp at hm

theorem acc_sstep {P : Prog} {v v' : SV} {evs : List Tr} (hs : SStepE P v evs v')
    (hnc : ∀ frm rest, v.code ≠ .closeScreen frm :: rest) (ha : AccCode v.code) : AccCode v'.code := by
  have tl : ∀ {h : Instr} {rest : List Instr}, v.code = h :: rest → AccCode rest := fun hc => (hc ▸ ha).tail
  cases hs with
  | stutter => exact ha
  | batch hc hb => exact AccCode.append (batch_no_close2 hb) (tl hc)
  | halt hc _ | forceQuit hc | enqAct hc | schedule hc | pushScr hc | replace hc _ | restore hc _ | pop hc _ _ =>
    exact tl hc
  | raise hc _ | popExit hc _ _ => exact (tl hc).sublist (unwindTo_sublist _ _)
  | kill _ => intro e frm hm; cases hm
  | apprun hc => exact AccCode.append (by intro e frm hm; simp at hm) (tl hc)
  | «open» hc _ => exact AccCode.append (B := [.mainCheck v.nq]) (by intro e frm hm; simp at hm) (tl hc)
  | pushModal hc => exact AccCode.append (B := [.newLoop _, .modalRet _]) (by intro e frm hm; simp at hm) (tl hc)
  | closeScreen hc _ => exact absurd hc (hnc _ _)
  | discard hc _ => exact AccCode.append (by intro e frm hm; split at hm <;> simp at hm) (tl hc)
  | identSkip hc _ _ => exact (tl hc).sublist (List.dropWhile_sublist _)

theorem raise_code_sublist (c : Cfg) (k : Kind) : (outCfg (c.raise k)).code.Sublist c.code := by
  have h : (outCfg (c.raise k)).sv.code = (raisedSV k c.sv).code := by rw [sv_raise]
  have h' : (outCfg (c.raise k)).code = (unwindTo k c.code).getD [] := h
  rw [h']
  exact unwindTo_sublist k c.code

/-- the `closeScreen2` that the pop of `close_screen` pushes carries a request that passed the check -/
theorem acc_closeScreen {P : Prog} {c c' : Cfg} {frm : Option Src} {rest : List Instr}
    (hc : c.code = .closeScreen frm :: rest) (ht : Trans P c c') (ha : AccCode c.code) : AccCode c'.code := by
  have hstep : AccCode (outCfg (step P c)).code := by
    rw [hc] at ha
    unfold step
    simp only [hc]
    split
    · exact ha.tail.sublist (raise_code_sublist _ _)
    · rename_i e he
      split
      · exact ha.tail.sublist (raise_code_sublist _ _)
      · rename_i hacc
        intro e' frm' hm
        have hm' : Instr.closeScreen2 e' frm' ∈
            Instr.callScr e.screen .closed none none :: Instr.closeScreen2 e frm :: rest := hm
        simp only [List.mem_cons, reduceCtorEq, false_or, Instr.closeScreen2.injEq] at hm'
        rcases hm' with ⟨rfl, rfl⟩ | hm'
        · by_cases h1 : frm' = none
          · exact .inl h1
          · exact .inr (Classical.byContradiction fun h2 => hacc ⟨h1, h2⟩)
        · exact ha.tail e' frm' hm'
  rcases trans_step_or_deliver ht with rfl | h
  · exact hstep
  · exact code_deliver h ▸ ha

theorem acc_trans {P : Prog} {c c' : Cfg} (ht : Trans P c c') (ha : AccCode c.code) : AccCode c'.code := by
  by_cases hnc : ∃ frm rest, c.code = .closeScreen frm :: rest
  · obtain ⟨frm, rest, hc⟩ := hnc
    exact acc_closeScreen hc ht ha
  · obtain ⟨evs, hs, _, _⟩ := trans_sstep ht
    exact acc_sstep hs (fun frm rest hc => hnc ⟨frm, rest, hc⟩) ha

/-! ### the two window instructions that could raise, do not -/

theorem raisedSV_code_length (k : Kind) (v : SV) : (raisedSV k v).code.length ≤ v.code.length :=
  (unwindTo_sublist k v.code).length_le

/-- an accepted `closeScreen2` goes on; "not a raise" is said by length: a raise leaves no more than `rest`
(`raisedSV_code_length`) -/
theorem close2_not_raise {P : Prog} {c c' : Cfg} {e : Entry} {frm : Option Src} {rest : List Instr}
    (hc : c.code = .closeScreen2 e frm :: rest) (hacc : frm = none ∨ frm = some (.scr e.screen))
    (ht : Trans P c c') : rest.length < c'.code.length := by
  have hrf : ¬ (frm ≠ none ∧ frm ≠ some (.scr e.screen)) := by
    rintro ⟨h1, h2⟩
    rcases hacc with h | h
    · exact h1 h
    · exact h2 h
  rcases trans_step_or_deliver ht with rfl | h
  · unfold step
    simp only [hc, hrf, if_false]
    split
    · simp [push]; omega
    · simp [push]
  · rw [code_deliver h, hc]; simp

/-- `popLevel` with two levels open pops: a raise would leave the levels alone -/
theorem pop_not_raise {P : Prog} {c c' : Cfg} {rest : List Instr} (hc : c.code = .popLevel :: rest)
    (hl : 2 ≤ c.L.levels.length) (ht : Trans P c c') :
    rest.length < c'.code.length ∨ c'.L.levels.length < c.L.levels.length := by
  rcases trans_step_or_deliver ht with rfl | h
  · right
    unfold step
    simp only [hc]
    split
    · rename_i hnone
      have : c.L.levels = [] := by simpa using hnone
      rw [this] at hl; simp at hl
    · split
      · rename_i hnone
        have : c.L.levels.dropLast = [] := by simpa using hnone
        have := congrArg List.length this
        simp at this; omega
      · simp; omega
  · left
    rw [code_deliver h, hc]; simp

theorem win_init {c0 : Cfg} (h0 : Started c0) : WinInv c0.sv := by
  obtain ⟨init, handlers, quitCb, stdin, rfl⟩ := h0
  have h1 := pend_free_list (pendFree_acts init)
  exact .inr (.quiet (quiet_batch h1.1 h1.2 ⟨rfl, rfl⟩))

/-- whatever a raise unwinds from quiescent code, nothing was pending in it -/
theorem fix_raise_quiet {v : SV} {h : Instr} {rest : List Instr} {k : Kind} (hf : v.forceQuit = false)
    (hsc : ScreenCode v.code) (hq : Quiet v.code) (hc : v.code = h :: rest)
    (heq : modalCount v.stack + 1 + pendCloses v.code = v.levels.length + pendOpens v.code) :
    WinInv (raisedSV k { v with code := rest }) ∧ MatchInv (raisedSV k { v with code := rest }) := by
  have hsub : (raisedSV k { v with code := rest }).code.Sublist v.code :=
    hc ▸ (unwindTo_sublist k rest).trans (List.sublist_cons_self ..)
  have hq' := quiet_sublist hsub hq
  refine ⟨.inr (.quiet hq'), .inr ⟨hf, hsc.sublist hsub, ?_⟩⟩
  show modalCount v.stack + 1 + pendCloses (raisedSV k { v with code := rest }).code =
    v.levels.length + pendOpens (raisedSV k { v with code := rest }).code
  rw [hq'.1, hq'.2]
  rw [hq.1, hq.2] at heq
  exact heq

theorem fix_step {P : Prog} {c c' : Cfg} (hP : ScreenOnly P) (hC : ClosedSilent P) (hb : Basic c.sv)
    (hi : FixInv c.sv) (ht : Trans P c c') (hdq : drainQuietScan false c'.sv.ev = true) : FixInv c'.sv := by
  obtain ⟨hw, hm, ha⟩ := hi
  obtain ⟨evs, hs, _, _⟩ := trans_sstep ht
  have over : overCode c.sv.code = true → FixInv c'.sv := fun ho =>
    ⟨.inl (over_step ho hs), .inl (over_step ho hs), acc_trans ht ha⟩
  rcases hm with ho | ⟨hf, hsc, heq⟩
  · exact over ho
  rcases hw with ho | hwin
  · exact over ho
  -- what a raise does: outside the windows nothing is pending; inside, no instruction raises
  have hraise : ∀ {h : Instr} {rest : List Instr} {k : Kind}, c.sv.code = h :: rest → h.canRaise k = true →
      c'.sv = raisedSV k { c.sv with code := rest } → WinInv c'.sv ∧ MatchInv c'.sv := by
    intro h rest k hc hr hv
    have hlen : c'.code.length ≤ rest.length := by
      show c'.sv.code.length ≤ _
      rw [hv]; exact raisedSV_code_length k { c.sv with code := rest }
    cases hwin with
    | quiet hq => rw [hv]; exact fix_raise_quiet hf hsc hq hc heq
    | w1 hc' _ | w2 hc' _ | w3 hc' _ | w5 hc' _ | w6 hc' _ _ => cases hc.symm.trans hc'; cases k <;> cases hr
    | @w4 e frm rest' hc' _ =>
      have := close2_not_raise hc' (ha e frm (hc' ▸ List.mem_cons_self ..)) ht
      cases hc.symm.trans hc'
      omega
    | @w7 rest' hc' hq =>
      have heq' : modalCount c.A.stack + 1 + pendCloses c.code = c.L.levels.length + pendOpens c.code := heq
      rw [show c.code = _ from hc', pendCloses_cons, pendOpens_cons, hq.1, hq.2] at heq'
      have hl : 2 ≤ c.L.levels.length := by simp only [Instr.closes, Instr.opens] at heq'; omega
      cases hc.symm.trans hc'
      rcases pop_not_raise hc' hl ht with h3 | h3
      · omega
      · rw [show c'.L.levels = c.L.levels from by show c'.sv.levels = _; rw [hv]; rfl] at h3; omega
  exact ⟨win_step_core hP hC hb hf hsc hwin hs hdq fun hc hr hv => (hraise hc hr hv).1,
    match_step_core hP hb (.inr ⟨hf, hsc, heq⟩) hs fun hc hr hv => (hraise hc hr hv).2, acc_trans ht ha⟩

theorem fix_init {c0 : Cfg} (h0 : Started c0) (hi : InitScreenOnly c0) : FixInv c0.sv := by
  have hw := win_init h0
  obtain ⟨init, handlers, quitCb, stdin, rfl⟩ := h0
  refine ⟨hw, match_init init handlers quitCb stdin rfl hi, ?_⟩
  intro e frm hm
  rcases List.mem_append.1 (show Instr.closeScreen2 e frm ∈ init.map Instr.act ++ [Instr.apprun] from hm) with h | h
  · obtain ⟨a, _, ha⟩ := List.mem_map.1 h; cases ha
  · cases List.mem_singleton.1 h

theorem reach_fix {P : Prog} {c0 c : Cfg} (h0 : Started c0) (hi : InitScreenOnly c0) (hP : ScreenOnly P)
    (hC : ClosedSilent P) (hr : Reach P c0 c) (hq : WFQuietDrain c) : FixInv c.sv := by
  revert hq
  refine reach_induction_trans (motive := fun c => WFQuietDrain c → FixInv c.sv) (fun _ => fix_init h0 hi) ?_ hr
  intro ca cb hra ht ih hq
  exact fix_step hP hC (reach_basic h0 hra) (ih (WFQuietDrain.mono (trans_grow ht) hq)) ht
    ((drainQuietScan_shapeTr false cb.tr).trans hq)

theorem quiescent_of_head_fix {P : Prog} {c0 c : Cfg} (h0 : Started c0) (hi : InitScreenOnly c0) (hP : ScreenOnly P)
    (hC : ClosedSilent P) (hr : Reach P c0 c) (hq : WFQuietDrain c) {h : Instr} {rest : List Instr}
    (hc : c.code = h :: rest) (hh : h.isWindowHead = false) :
    c.Over ∨ (pendOpens c.code = 0 ∧ pendCloses c.code = 0 ∧ modalCount c.A.stack + 1 = c.L.levels.length) := by
  obtain ⟨hwi, hmi, _⟩ := reach_fix h0 hi hP hC hr hq
  rcases hwi with ho | hw
  · exact .inl ho
  rcases hmi with ho | ⟨_, _, heq⟩
  · exact .inl ho
  have hQ : Quiet c.code := win_quiet_of_head hw hc hh
  have heq' : modalCount c.A.stack + 1 + pendCloses c.code = c.L.levels.length + pendOpens c.code := heq
  rw [hQ.1, hQ.2] at heq'
  exact .inr ⟨hQ.1, hQ.2, heq'⟩

theorem shield_fix {P : Prog} {c0 c c' : Cfg} (h0 : Started c0) (hi : InitScreenOnly c0) (hP : ScreenOnly P)
    (hC : ClosedSilent P) (hr : Reach P c0 c) (ht : Trans P c c') (hq : WFQuietDrain c) {x : Entry}
    (hx : Tr.show x ∈ newTr c c' ∨ Tr.refresh x ∈ newTr c c') :
    pendOpens c.code = 0 ∧ pendCloses c.code = 0 ∧ modalCount c.A.stack + 1 = c.L.levels.length ∧
    (Tr.show x ∈ newTr c c' → ∃ l, c.A.stack.getLast? = some l ∧ l.eid = x.eid) := by
  obtain ⟨evs, hs, hev, _⟩ := trans_sstep ht
  -- the head instruction is `drawScreen x` or `afterSetup2 x`: no window head, and the run is not over
  obtain ⟨h, rest, hc, hh, hno⟩ : ∃ h rest, c.code = h :: rest ∧ h.isWindowHead = false ∧ overCode c.code = false := by
    rcases hx with hx | hx
    · obtain ⟨rest, hc⟩ := show_step hs ((mem_newTr_iff hev rfl).1 hx)
      exact ⟨_, rest, hc, rfl, not_over_of_head hc nofun⟩
    · obtain ⟨rest, hc⟩ := refresh_step hs ((mem_newTr_iff hev rfl).1 hx)
      exact ⟨_, rest, hc, rfl, not_over_of_head hc nofun⟩
  rcases quiescent_of_head_fix h0 hi hP hC hr hq hc hh with ho | ⟨h1, h2, h3⟩
  · exact absurd (hno ▸ ho : false = true) nofun
  · refine ⟨h1, h2, h3, fun hx' => ?_⟩
    obtain ⟨rest', hc'⟩ := show_step hs ((mem_newTr_iff hev rfl).1 hx')
    exact reach_draw h0 hr x rest' hc'

theorem close_only_for_modal_fix {P : Prog} {c0 c c' : Cfg} (h0 : Started c0) (hi : InitScreenOnly c0)
    (hP : ScreenOnly P) (hC : ClosedSilent P) (hr : Reach P c0 c) (ht : Trans P c c')
    (hq : WFQuietDrain c) {b : Bool} {n : Nat} (hx : Tr.closeReq b n ∈ newTr c c') :
    modalCount c.A.stack + 2 = c.L.levels.length := by
  obtain ⟨evs, hs, hev, _⟩ := trans_sstep ht
  obtain ⟨rest, hc⟩ := closeReq_step hs ((mem_newTr_iff hev rfl).1 hx)
  have hc' : c.code = .closeLoop :: rest := hc
  obtain ⟨hwi, hmi, _⟩ := reach_fix h0 hi hP hC hr hq
  rcases hwi with ho | hw
  · cases (over_head ho hc').1
  rcases hmi with ho | ⟨_, _, heq⟩
  · cases (over_head ho hc').1
  have hQ : Quiet rest := by
    cases hw with
    | quiet hq' => exact quiet_tail (hc ▸ hq')
    | w5 hc'' hq' => cases hc'.symm.trans (show c.code = _ from hc''); exact hq'
    | w1 hc'' _ | w2 hc'' _ | w3 hc'' _ | w4 hc'' _ | w6 hc'' _ _ | w7 hc'' _ =>
      cases hc'.symm.trans (show c.code = _ from hc'')
  have heq' : modalCount c.A.stack + 1 + pendCloses c.code = c.L.levels.length + pendOpens c.code := heq
  rw [hc', pendCloses_cons, pendOpens_cons, hQ.1, hQ.2] at heq'
  simp only [Instr.closes, Instr.opens] at heq'
  omega

/-- this and the next two: the `_fix` statements under the (superfluous) hypothesis `NoErr`, that no exception
escaped a callback -/
theorem quiescent_of_head {P : Prog} {c0 c : Cfg} (h0 : Started c0) (hi : InitScreenOnly c0) (hP : ScreenOnly P)
    (hC : ClosedSilent P) (hr : Reach P c0 c) (hn : NoErr c) (hq : WFQuietDrain c) {h : Instr} {rest : List Instr}
    (hc : c.code = h :: rest) (hh : h.isWindowHead = false) :
    c.Over ∨ (pendOpens c.code = 0 ∧ pendCloses c.code = 0 ∧ modalCount c.A.stack + 1 = c.L.levels.length) :=
  (fun _ => quiescent_of_head_fix h0 hi hP hC hr hq hc hh) hn

theorem close_only_for_modal {P : Prog} {c0 c c' : Cfg} (h0 : Started c0) (hi : InitScreenOnly c0)
    (hP : ScreenOnly P) (hC : ClosedSilent P) (hr : Reach P c0 c) (ht : Trans P c c') (hn : NoErr c)
    (hq : WFQuietDrain c) {b : Bool} {n : Nat} (hx : Tr.closeReq b n ∈ newTr c c') :
    modalCount c.A.stack + 2 = c.L.levels.length :=
  (fun _ => close_only_for_modal_fix h0 hi hP hC hr ht hq hx) hn

theorem shield {P : Prog} {c0 c c' : Cfg} (h0 : Started c0) (hi : InitScreenOnly c0) (hP : ScreenOnly P)
    (hC : ClosedSilent P) (hr : Reach P c0 c) (ht : Trans P c c') (hn : NoErr c) (hq : WFQuietDrain c) {x : Entry}
    (hx : Tr.show x ∈ newTr c c' ∨ Tr.refresh x ∈ newTr c c') :
    pendOpens c.code = 0 ∧ pendCloses c.code = 0 ∧ modalCount c.A.stack + 1 = c.L.levels.length ∧
    (Tr.show x ∈ newTr c c' → ∃ l, c.A.stack.getLast? = some l ∧ l.eid = x.eid) :=
  (fun _ => shield_fix h0 hi hP hC hr ht hq hx) hn

end Shape

end Simpleline
