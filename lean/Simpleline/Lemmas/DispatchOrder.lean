import Simpleline.Lemmas.DispatchCodeInv

/-
  The dispatch of one signal value `s`.  Where it stands is a *position* `j`: `dispatch s j` (or `processSignal s`, `j = 0`)
  pending in the code, or `dispatched s j` in the history; `positions s c` lists them.  The invariant: positions never
  outnumber the takes of `s`, and while `s` was taken at most once the handlers called for it, with the call that is the
  next instruction, are the first `j` of its class.
-/

namespace Simpleline.Dispatch
open Simpleline

def isPSs (s : Sig) : Instr → Bool
  | .processSignal s' => decide (s' = s)
  | _ => false

def isDisp (s : Sig) : Instr → Bool
  | .dispatch s' _ => decide (s' = s)
  | _ => false

def isCallS (s : Sig) : Instr → Bool
  | .callH _ _ s' => decide (s' = s)
  | _ => false

/-- the instructions that belong to the dispatch of `s` -/
def relI (s : Sig) (i : Instr) : Bool := isPSs s i || isDisp s i || isCallS s i

def isDoneT (s : Sig) : Tr → Bool
  | .dispatched s' _ => decide (s' = s)
  | _ => false

/-- the trace events that belong to the dispatch of `s` -/
def relT (s : Sig) : Tr → Bool
  | .call _ _ s' => decide (s' = s)
  | .take _ s' => decide (s' = s)
  | .dispatched s' _ => decide (s' = s)
  | _ => false

theorem append_irrel {α} {f : List Tr → α} {p : Tr → Bool} (hf : ∀ t tr, p t = false → f (t :: tr) = f tr)
    {new : List Tr} (h : ∀ t ∈ new, p t = false) (tr : List Tr) : f (new ++ tr) = f tr := by
  induction new with
  | nil => rfl
  | cons t new ih =>
    rw [List.cons_append, hf t _ (h t List.mem_cons_self), ih fun t ht => h t (List.mem_cons_of_mem _ ht)]

theorem callsOf_cons_irrel {s : Sig} (t : Tr) (tr : List Tr) (h : relT s t = false) : callsOf s (t :: tr) = callsOf s tr := by
  cases t <;> first | rfl | exact if_neg (of_decide_eq_false h)

theorem takeCount_cons_irrel {s : Sig} (t : Tr) (tr : List Tr) (h : relT s t = false) :
    takeCount s (t :: tr) = takeCount s tr := by
  cases t <;> first | rfl | exact if_neg (of_decide_eq_false h)

theorem callsOf_irrel {s : Sig} {new : List Tr} (h : ∀ t ∈ new, relT s t = false) (tr : List Tr) :
    callsOf s (new ++ tr) = callsOf s tr :=
  append_irrel callsOf_cons_irrel h tr

theorem takeCount_irrel {s : Sig} {new : List Tr} (h : ∀ t ∈ new, relT s t = false) (tr : List Tr) :
    takeCount s (new ++ tr) = takeCount s tr :=
  append_irrel takeCount_cons_irrel h tr

theorem softT_irrel {s : Sig} {t : Tr} (h : softT t = true) : relT s t = false := by
  unfold relT
  split <;> first | cases h | rfl

theorem exitOrSoft_irrel {s : Sig} {t : Tr} (h : exitOrSoft t) : relT s t = false := by
  rcases h with rfl | h
  · rfl
  · exact softT_irrel h

theorem softI_irrel {s : Sig} {i : Instr} (h : softI i = true) : relI s i = false := by
  unfold relI isPSs isDisp isCallS
  split <;> first | cases h | (split <;> first | cases h | (split <;> first | cases h | rfl))

theorem relI_parts {s : Sig} {i : Instr} (h : relI s i = false) : isPSs s i = false ∧ isDisp s i = false ∧ isCallS s i = false := by
  unfold relI at h
  simp only [Bool.or_eq_false_iff] at h
  exact ⟨h.1.1, h.1.2, h.2⟩

def posI (s : Sig) : Instr → Option Nat
  | .processSignal s' => if s' = s then some 0 else none
  | .dispatch s' j => if s' = s then some j else none
  | _ => none

def posT (s : Sig) : Tr → Option Nat
  | .dispatched s' j => if s' = s then some j else none
  | _ => none

def positions (s : Sig) (c : Cfg) : List Nat := c.code.filterMap (posI s) ++ c.tr.filterMap (posT s)

theorem posI_irrel {s : Sig} {l : List Instr} (h : ∀ i ∈ l, relI s i = false) : l.filterMap (posI s) = [] := by
  rw [List.filterMap_eq_nil_iff]
  intro i hi
  unfold posI
  split
  · exact if_neg (of_decide_eq_false (relI_parts (h _ hi)).1)
  · exact if_neg (of_decide_eq_false (relI_parts (h _ hi)).2.1)
  · rfl

theorem posT_irrel {s : Sig} {l : List Tr} (h : ∀ t ∈ l, relT s t = false) : l.filterMap (posT s) = [] := by
  rw [List.filterMap_eq_nil_iff]
  intro t ht
  unfold posT
  split
  · exact if_neg (of_decide_eq_false (h _ ht))
  · rfl

theorem mem_posI {s : Sig} {j : Nat} {l : List Instr} (h : Instr.dispatch s j ∈ l) : j ∈ l.filterMap (posI s) :=
  List.mem_filterMap.mpr ⟨_, h, if_pos rfl⟩

theorem mem_posT {s : Sig} {j : Nat} {l : List Tr} (h : Tr.dispatched s j ∈ l) : j ∈ l.filterMap (posT s) :=
  List.mem_filterMap.mpr ⟨_, h, if_pos rfl⟩

theorem length_posI (s : Sig) (l : List Instr) :
    (l.filterMap (posI s)).length = l.countP (isPSs s) + l.countP (isDisp s) := by
  induction l with
  | nil => rfl
  | cons i l ih =>
    rw [List.countP_cons, List.countP_cons, Nat.add_add_add_comm, ← ih]
    cases i with
    | processSignal s' => by_cases h : s' = s <;> simp [posI, isPSs, isDisp, h]
    | dispatch s' j => by_cases h : s' = s <;> simp [posI, isPSs, isDisp, h]
    | _ => rfl

theorem length_posT (s : Sig) (l : List Tr) : (l.filterMap (posT s)).length = l.countP (isDoneT s) := by
  induction l with
  | nil => rfl
  | cons t l ih =>
    rw [List.countP_cons, ← ih]
    cases t with
    | dispatched s' j => by_cases h : s' = s <;> simp [posT, isDoneT, h]
    | _ => rfl

theorem length_positions (s : Sig) (c : Cfg) :
    (positions s c).length = c.code.countP (isPSs s) + c.code.countP (isDisp s) + c.tr.countP (isDoneT s) := by
  unfold positions
  rw [List.length_append, length_posI, length_posT]

theorem eq_of_mem_of_length_le_one {α} {a j : α} {l : List α} (hj : j ∈ a :: l) (hl : (a :: l).length ≤ 1) : j = a := by
  rcases List.mem_cons.mp hj with h | h
  · exact h
  · have := List.length_pos_of_mem h
    rw [List.length_cons] at hl
    omega

structure DispInv (s : Sig) (c : Cfg) : Prop where
  count : (positions s c).length ≤ takeCount s c.tr
  none : takeCount s c.tr = 0 → callsOf s c.tr ++ pend s c.code = []
  pos : takeCount s c.tr ≤ 1 → ∀ j ∈ positions s c,
    j ≤ (handlersOf c.L s.cls).length ∧ callsOf s c.tr ++ pend s c.code = (handlersOf c.L s.cls).take j

theorem take_of_prefix {α} {l l' : List α} (h : l <+: l') {j : Nat} (hj : j ≤ l.length) : l'.take j = l.take j := by
  obtain ⟨t, rfl⟩ := h
  rw [List.take_append_of_le_length hj]

/-- A transition that takes `s` no further time, creates no position but from an old one of the same index, and leaves the
calls made or pending as they are. -/
theorem DispInv.step {s : Sig} {c c' : Cfg} {l : List Nat} (hI : DispInv s c) (hT : takeCount s c'.tr = takeCount s c.tr)
    (hperm : (positions s c').Perm l) (hsub : l.Sublist (positions s c))
    (hcalls : callsOf s c'.tr ++ pend s c'.code = callsOf s c.tr ++ pend s c.code)
    (hh : HExt c.L.handlers c'.L.handlers) : DispInv s c' := by
  have hpre := handlersOf_ext hh s.cls
  refine ⟨?_, by rw [hT, hcalls]; exact hI.none, ?_⟩
  · rw [hT, hperm.length_eq]
    exact Nat.le_trans hsub.length_le hI.count
  rw [hT, hcalls]
  intro h1 j hj
  obtain ⟨hle, heq⟩ := hI.pos h1 j (hsub.subset (hperm.subset hj))
  exact ⟨Nat.le_trans hle hpre.length_le, by rw [take_of_prefix hpre hle, heq]⟩

/-- a transition that does not concern `s`: no instruction of its dispatch is pushed, no event of its
dispatch is traced, no call for it is pending -/
structure Neutral (s : Sig) (c c' : Cfg) : Prop where
  code : ∃ pushed suf, c'.code = pushed ++ suf ∧ suf <:+ c.code.tail ∧ ∀ i ∈ pushed, relI s i = false
  tr : ∃ new, c'.tr = new ++ c.tr ∧ ∀ t ∈ new, relT s t = false
  handlers : HExt c.L.handlers c'.L.handlers
  pend : pend s c.code = []

theorem pend_ne_nil {s : Sig} {l : List Instr} (h : pend s l ≠ []) : ∃ h d rest, l = .callH h d s :: rest := by
  cases l with
  | nil => simp [pend] at h
  | cons i rest =>
    unfold pend at h
    split at h
    · rename_i hh d s' _ heq
      cases heq
      split at h
      · subst_vars; exact ⟨hh, d, rest, rfl⟩
      · exact absurd rfl h
    · exact absurd rfl h

theorem mem_tail_of_cons {α} {a : α} {l rest : List α} (h : l = a :: rest) {x : α} (hx : x ∈ rest) : x ∈ l.tail := by
  subst h; exact hx

theorem pend_nil_of_ext {s : Sig} {c : Cfg} (hC : CodeInv c) {code pushed suf : List Instr} (hcode : code = pushed ++ suf)
    (hsuf : suf <:+ c.code.tail) (hp : ∀ i ∈ pushed, relI s i = false) : pend s code = [] := by
  apply Classical.byContradiction
  intro hne
  obtain ⟨h, d, rest, hl⟩ := pend_ne_nil hne
  have hm : Instr.callH h d s ∈ pushed ++ suf := by rw [← hcode, hl]; simp
  rcases List.mem_append.mp hm with hm | hm
  · have := (relI_parts (hp _ hm)).2.2
    simp [isCallS] at this
  · have := hC.noCall _ (hsuf.subset hm)
    simp [isCallH] at this

/-- once the dispatch of `s` is complete no call for it is pending -/
theorem DispInv.done {s : Sig} {c : Cfg} (hI : DispInv s c) (hC : CodeInv c) (h1 : takeCount s c.tr ≤ 1) (n : Nat)
    (hn : Tr.dispatched s n ∈ c.tr) :
    n ≤ (handlersOf c.L s.cls).length ∧ callsOf s c.tr = (handlersOf c.L s.cls).take n := by
  have hp : pend s c.code = [] := by
    apply Classical.byContradiction
    intro hne
    obtain ⟨h, d, rest, hl⟩ := pend_ne_nil hne
    obtain ⟨j, K, hK, -, -⟩ := hC.headCall h d s (by rw [hl]; rfl)
    have := List.length_pos_of_mem (mem_posI (show Instr.dispatch s (j + 1) ∈ c.code by rw [hK]; simp))
    have := List.length_pos_of_mem (mem_posT hn)
    have hcount := hI.count
    unfold positions at hcount
    rw [List.length_append] at hcount
    omega
  have := hI.pos h1 n (List.mem_append_right _ (mem_posT hn))
  rwa [hp, List.append_nil] at this

theorem DispInv.neutral {s : Sig} {c c' : Cfg} (hI : DispInv s c) (hC : CodeInv c) (hN : Neutral s c c') : DispInv s c' := by
  obtain ⟨pushed, suf, hcode, hsuf, hp⟩ := hN.code
  obtain ⟨new, hnew, hirr⟩ := hN.tr
  refine hI.step (by rw [hnew, takeCount_irrel hirr]) (.refl _) ?_
    (by rw [hnew, callsOf_irrel hirr, pend_nil_of_ext hC hcode hsuf hp, hN.pend]) hN.handlers
  unfold positions
  rw [hcode, hnew, List.filterMap_append, List.filterMap_append, posI_irrel hp, posT_irrel hirr]
  exact ((hsuf.sublist.trans (List.tail_sublist _)).filterMap _).append (.refl _)

def CodeQ (q : Instr → Bool) (rest code : List Instr) : Prop :=
  ∃ pushed suf, code = pushed ++ suf ∧ suf <:+ rest ∧ ∀ i ∈ pushed, q i = false

theorem CodeQ.append {q : Instr → Bool} {rest l d : List Instr} (hd : ∀ i ∈ d, q i = false) (h : CodeQ q rest l) : CodeQ q rest (d ++ l) := by
  obtain ⟨p, sf, rfl, hs, hp⟩ := h
  refine ⟨d ++ p, sf, by simp, hs, ?_⟩
  intro t ht; simp at ht; rcases ht with ht | ht; exact hd t ht; exact hp t ht

def CodeN (s : Sig) (rest code : List Instr) : Prop :=
  ∃ pushed suf, code = pushed ++ suf ∧ suf <:+ rest ∧ ∀ i ∈ pushed, relI s i = false

theorem CodeN.append {s : Sig} {rest l d : List Instr} (hd : ∀ i ∈ d, relI s i = false) (h : CodeN s rest l) : CodeN s rest (d ++ l) :=
  CodeQ.append hd h

theorem DispInv.congr {s : Sig} {c c' : Cfg} (hI : DispInv s c) (hcode : c'.code = c.code)
    (hh : HExt c.L.handlers c'.L.handlers) (htr : ExtP (fun t => relT s t = false) c.tr c'.tr) : DispInv s c' := by
  obtain ⟨new, hnew, hirr⟩ := htr
  refine hI.step (by rw [hnew, takeCount_irrel hirr]) (.refl _) ?_ (by rw [hcode, hnew, callsOf_irrel hirr]) hh
  unfold positions
  rw [hcode, hnew, List.filterMap_append, posT_irrel hirr]
  exact .refl _

theorem soft_irrel {s : Sig} {new : List Tr} (h : ∀ t ∈ new, softT t = true) : ∀ t ∈ new, relT s t = false :=
  fun t ht => softT_irrel (h t ht)

theorem DispInv.takeS {s : Sig} {c c' : Cfg} {q : Nat} {extra : List Instr} {new : List Tr} (hI : DispInv s c)
    (hcode : c'.code = .processSignal s :: (extra ++ c.code.tail)) (hextra : ∀ i ∈ extra, relI s i = false)
    (htr : c'.tr = .take q s :: (new ++ c.tr)) (hnew : ∀ t ∈ new, softT t = true) : DispInv s c' := by
  have hirr := soft_irrel (s := s) hnew
  have hT : takeCount s c'.tr = takeCount s c.tr + 1 := by rw [htr]; simp [takeCount, takeCount_irrel hirr]
  have hCalls : callsOf s c'.tr = callsOf s c.tr := by rw [htr]; simp [callsOf, callsOf_irrel hirr]
  have hP : positions s c' = 0 :: (c.code.tail.filterMap (posI s) ++ c.tr.filterMap (posT s)) := by
    unfold positions
    rw [hcode, htr]
    simp [List.filterMap_cons, posI, posT, posI_irrel hextra, posT_irrel hirr]
  have hsub : (c.code.tail.filterMap (posI s) ++ c.tr.filterMap (posT s)).Sublist (positions s c) :=
    ((List.tail_sublist _).filterMap _).append (.refl _)
  have hcount := hI.count
  have := hsub.length_le
  refine ⟨by rw [hP, hT, List.length_cons]; omega, by omega, ?_⟩
  rw [hP]
  intro hle j hj
  -- `s` had not been taken before: the new `processSignal s` is the only position
  have h0 : takeCount s c.tr = 0 := by omega
  cases eq_of_mem_of_length_le_one hj (by rw [List.length_cons]; omega)
  have hn := List.append_eq_nil_iff.mp (hI.none h0)
  exact ⟨Nat.zero_le _, by rw [hCalls, hn.1, hcode]; rfl⟩

/-- `processSignal s` finds handlers and starts the dispatch at index 0, or finds none: nothing is dispatched, or the
process is going to be killed -/
theorem DispInv.ps {s : Sig} {c c' : Cfg} {rest pushed : List Instr} {new : List Tr} (hI : DispInv s c)
    (hc : c.code = .processSignal s :: rest) (hcode : c'.code = pushed ++ rest) (htr : c'.tr = new ++ c.tr)
    (hp : pushed = [.dispatch s 0] ∧ new = [] ∨ (∀ i ∈ pushed, relI s i = false) ∧ (new = [] ∨ new = [.dispatched s 0]))
    (hh : c'.L.handlers = c.L.handlers) (hpend : pend s c'.code = []) : DispInv s c' := by
  have hT : takeCount s c'.tr = takeCount s c.tr := by
    rcases hp with ⟨-, rfl⟩ | ⟨-, rfl | rfl⟩ <;> rw [htr] <;> rfl
  have hcalls : callsOf s c'.tr = callsOf s c.tr := by
    rcases hp with ⟨-, rfl⟩ | ⟨-, rfl | rfl⟩ <;> rw [htr] <;> rfl
  obtain ⟨l, hperm, hsub⟩ : ∃ l, (positions s c').Perm l ∧ l.Sublist (positions s c) := by
    unfold positions
    rw [hcode, hc, htr, List.filterMap_append, List.filterMap_append]
    rcases hp with ⟨rfl, rfl⟩ | ⟨hp, rfl | rfl⟩
    · exact ⟨_, by simp [posI], .refl _⟩
    · exact ⟨_, .refl _, by simp [posI, posI_irrel hp]⟩
    · exact ⟨_, by simp [posI, posT, posI_irrel hp], .refl _⟩
  exact hI.step hT hperm hsub (by rw [hcalls, hpend, hc]; rfl) (hh ▸ HExt.refl _)

theorem DispInv.dispNext {s : Sig} {c c' : Cfg} {rest : List Instr} {i : Nat} {h : HRef} {d : Option Nat} (hI : DispInv s c)
    (hc : c.code = .dispatch s i :: rest) (hcode : c'.code = .callH h d s :: .catchHandler :: .dispatch s (i + 1) :: rest)
    (hget : (handlersOf c.L s.cls)[i]? = some (h, d)) (htr : c'.tr = c.tr) (hh : c'.L.handlers = c.L.handlers) :
    DispInv s c' := by
  have hH : handlersOf c'.L s.cls = handlersOf c.L s.cls := by unfold handlersOf; rw [hh]
  have hP : positions s c = i :: (rest.filterMap (posI s) ++ c.tr.filterMap (posT s)) := by
    unfold positions; rw [hc]; simp [posI]
  have hP' : positions s c' = (i + 1) :: (rest.filterMap (posI s) ++ c.tr.filterMap (posT s)) := by
    unfold positions; rw [hcode, htr]; simp [List.filterMap_cons, posI]
  have hcount := hI.count
  rw [hP, List.length_cons] at hcount
  refine ⟨by rw [hP', htr]; exact hcount, ?_, ?_⟩
  · intro h0
    rw [htr] at h0
    omega
  · rw [htr, hH, hP']
    intro hle j hj
    -- the `dispatch s i` that was the head was the only position
    cases eq_of_mem_of_length_le_one hj (by rw [List.length_cons]; omega)
    obtain ⟨-, heq⟩ := hI.pos hle i (by rw [hP]; exact List.mem_cons_self)
    rw [hc] at heq
    have hlt : i < (handlersOf c.L s.cls).length := (List.getElem?_eq_some_iff.mp hget).1
    refine ⟨hlt, ?_⟩
    simp only [pend, List.append_nil] at heq
    rw [hcode, heq]
    simp [pend, List.take_add_one, hget]

/-- `dispatch s i` is past the end (or force-quit): the dispatch of `s` is complete -/
theorem DispInv.dispDone {s : Sig} {c c' : Cfg} {rest : List Instr} {i : Nat} (hI : DispInv s c) (hC : CodeInv c)
    (hc : c.code = .dispatch s i :: rest) (hcode : c'.code = rest)
    (htr : c'.tr = .dispatched s i :: c.tr) (hh : c'.L.handlers = c.L.handlers) : DispInv s c' := by
  have hp : pend s c'.code = [] :=
    pend_nil_of_ext hC (pushed := []) (by rw [hcode]; rfl) (by rw [hc]; exact List.suffix_refl _) (by simp)
  refine hI.step (by rw [htr]; rfl) ?_ (.refl _) (by rw [htr, hp, hc]; rfl) (hh ▸ HExt.refl _)
  unfold positions
  rw [hcode, hc, htr]
  simp [posI, posT]

theorem DispInv.call {s : Sig} {c c' : Cfg} {rest body : List Instr} {new : List Tr} {h : HRef} {d : Option Nat}
    (hI : DispInv s c) (hC : CodeInv c) (hc : c.code = .callH h d s :: rest) (hcode : c'.code = body ++ rest)
    (hbody : ∀ i ∈ body, relI s i = false) (htr : c'.tr = new ++ .call h d s :: c.tr) (hnew : ∀ t ∈ new, softT t = true)
    (hh : c'.L.handlers = c.L.handlers) : DispInv s c' := by
  have hp : pend s c'.code = [] := pend_nil_of_ext hC hcode (by rw [hc]; exact List.suffix_refl _) hbody
  have hirr := soft_irrel (s := s) hnew
  refine hI.step (by rw [htr, takeCount_irrel hirr]; rfl) (.refl _) ?_
    (by rw [htr, callsOf_irrel hirr, hp, hc]; simp [callsOf, pend]) (hh ▸ HExt.refl _)
  unfold positions
  rw [hcode, hc, htr, List.filterMap_append, List.filterMap_append, posI_irrel hbody, posT_irrel hirr]
  exact .refl _

theorem all_false {α} {p : α → Bool} {l : List α} (h : l.all (fun x => !p x) = true) : ∀ x ∈ l, p x = false :=
  fun x hx => by simpa using List.all_eq_true.mp h x hx

theorem otherI_pend {s : Sig} {ins : Instr} (h : otherI ins = true) (rest : List Instr) : pend s (ins :: rest) = [] := by
  unfold pend
  split <;> first | rfl | (rename_i heq; cases heq; cases h)

section table
variable {P : Prog} {c : Cfg} {ins : Instr} {pushed : List Instr} {new : List Tr} {L' : LoopSt} {lg : List Ev} {e : End}

theorem DispInv.core {s : Sig} {rest : List Instr} {m : Cfg} (hI : DispInv s c) (hC : CodeInv c) (hc : c.code = ins :: rest)
    (h : CoreStep P c ins pushed new L' lg e) (hcode : m.code = pushed ++ rest) (hL : m.L = L')
    (htr : m.tr = new ++ c.tr) : DispInv s m := by
  have hH : m.L.handlers = c.L.handlers := by rw [hL, h.static.1]
  have neutral : pend s (ins :: rest) = [] → (∀ i ∈ pushed, relI s i = false) → (∀ t ∈ new, relT s t = false) →
      DispInv s m := fun h1 h2 h3 =>
    hI.neutral hC ⟨⟨pushed, rest, hcode, by rw [hc]; exact List.suffix_refl _, h2⟩, ⟨new, htr, h3⟩, hH ▸ HExt.refl _, hc ▸ h1⟩
  have soft : ∀ {tr' : List Tr}, (∀ t ∈ tr', softT t = true) → ∀ t ∈ tr', relT s t = false := soft_irrel
  have hbody : ∀ {tr : List Tr} {hd : HRef} {s' : Sig}, ∀ i ∈ bodyOf P tr hd s', relI s i = false :=
    bodyOf_all (fun _ => softI_irrel) fun _ => rfl
  have hne : ∀ {s' : Sig}, s' ≠ s → decide (s' = s) = false := fun h => decide_eq_false h
  cases h with
  | @getDispatch s' _ _ _ ht _ =>
    by_cases hs : s' = s
    · subst hs
      exact hI.takeS (extra := []) (by rw [hcode, hc]; rfl) (by simp) htr ht
    · exact neutral rfl (by simp [relI, isPSs, isDisp, isCallS, hs])
        (List.forall_mem_cons.mpr ⟨hne hs, soft ht⟩)
  | @waitTake cls t s' _ _ _ _ ht _ =>
    by_cases hs : s' = s
    · subst hs
      exact hI.takeS (extra := [.waitCheck cls t]) (by rw [hcode, hc]; rfl) (all_false rfl) htr ht
    · exact neutral rfl (by simp [relI, isPSs, isDisp, isCallS, hs])
        (List.forall_mem_cons.mpr ⟨hne hs, soft ht⟩)
  | @iterTake _ e' _ _ _ _ _ =>
    by_cases hs : e'.2.2 = s
    · subst hs
      exact hI.takeS (extra := [.procIter (some e'.2.2.prio)]) (new := []) (by rw [hcode, hc]; rfl) (all_false rfl)
        htr (by simp)
    · exact neutral rfl (by simp [relI, isPSs, isDisp, isCallS, hs]) (List.forall_mem_singleton.mpr (hne hs))
  | @psDispatch s' _ =>
    by_cases hs : s' = s
    · subst hs
      exact hI.ps hc hcode htr (.inl ⟨rfl, rfl⟩) hH (by rw [hcode]; rfl)
    · exact neutral rfl (by simp [relI, isPSs, isDisp, isCallS, hs]) (by simp)
  | @psKill s' _ _ =>
    by_cases hs : s' = s
    · subst hs
      exact hI.ps hc hcode htr (.inr ⟨all_false rfl, .inl rfl⟩) hH (by rw [hcode]; rfl)
    · exact neutral rfl (all_false rfl) (by simp)
  | @psNone s' hno _ =>
    by_cases hs : s' = s
    · subst hs
      exact hI.ps hc hcode htr (.inr ⟨by simp, .inr rfl⟩) hH
        (pend_nil_of_ext hC (pushed := []) hcode (by rw [hc]; exact List.suffix_refl _) (by simp))
    · exact neutral rfl (by simp) (List.forall_mem_singleton.mpr (hne hs))
  | @dispCall s' _ _ _ hh _ =>
    by_cases hs : s' = s
    · subst hs
      exact hI.dispNext hc hcode hh htr hH
    · exact neutral rfl (by simp [relI, isPSs, isDisp, isCallS, hs]) (by simp)
  | @dispDone s' _ _ =>
    by_cases hs : s' = s
    · subst hs
      exact hI.dispDone hC hc hcode htr hH
    · exact neutral rfl (by simp) (List.forall_mem_singleton.mpr (hne hs))
  | @callUser _ _ s' _ _ _ ht _ =>
    by_cases hs : s' = s
    · subst hs
      exact hI.call hC hc hcode hbody (htr.trans (List.append_assoc ..)) ht hH
    · exact neutral (by simp [pend, hs]) hbody (forall_mem_snoc (soft ht) (hne hs))
  | @callSys _ _ s' _ _ _ _ ht _ =>
    by_cases hs : s' = s
    · subst hs
      exact hI.call hC hc hcode hbody (htr.trans (List.append_assoc ..)) ht hH
    · exact neutral (by simp [pend, hs]) hbody (forall_mem_snoc (soft ht) (hne hs))
  | quitCbSome _ ht _ => exact neutral rfl (by simp) (soft ht)
  | hret ht _ => exact neutral rfl (by simp) (soft ht)
  | getBlocked ht _ => exact neutral rfl (by simp) (soft ht)
  | waitBlocked _ ht _ => exact neutral rfl (by simp) (soft ht)
  | newLoop _ ht => exact neutral rfl (all_false rfl) (List.forall_mem_cons.mpr ⟨softT_irrel ht, all_false rfl⟩)
  | _ => exact neutral rfl (all_false rfl) (all_false rfl)

end table

theorem DispInv.init (s : Sig) {c0 : Cfg} (h0 : Started c0) : DispInv s c0 := by
  obtain ⟨init, hc⟩ := h0.code
  have hcode : ∀ i ∈ c0.code, relI s i = false := by
    intro i hi
    simp only [hc, List.mem_append, List.mem_map, List.mem_singleton] at hi
    rcases hi with ⟨a, -, rfl⟩ | rfl <;> rfl
  have hP : positions s c0 = [] := by
    unfold positions
    rw [posI_irrel hcode, h0.tr]
    rfl
  refine ⟨by rw [hP]; exact Nat.zero_le _, fun _ => ?_, ?_⟩
  · rw [h0.tr, hc]; cases init <;> rfl
  · rintro - j hj
    rw [hP] at hj
    cases hj

/-- a step that ends with an exception drops pending code and adds events that do not concern `s` -/
theorem DispInv.fin {s : Sig} {m c' : Cfg} {e : End} (hI : DispInv s m) (hC : CodeInv m) (hp : pend s m.code = [])
    (hf : Fin m e c') : DispInv s c' := by
  obtain rfl | ⟨code', Q, T, n, rfl, hs, hT⟩ := hf.nf
  · exact hI
  · exact hI.neutral hC ⟨⟨[], code', rfl, hs, by simp⟩, ⟨T, rfl, fun t ht => exitOrSoft_irrel (hT t ht)⟩, HExt.refl _, hp⟩

theorem DispInv.trans {P : Prog} {s : Sig} {c c' : Cfg} (hI : DispInv s c) (hC : CodeInv c) (ht : Trans P c c') : DispInv s c' := by
  cases trans_cases ht with
  | idle hcode h => exact hI.congr hcode h.handlers (h.tr.toP fun _ => softT_irrel)
  | soft hc ho hm hf _ =>
    obtain ⟨pushed, suf, hcode, hsuf, hp, -⟩ := hm.code.suffix_rest
    have hp' : ∀ i ∈ pushed, relI s i = false := fun i hi => softI_irrel (hp i hi)
    have hsuf' : suf <:+ c.code.tail := by rw [hc]; exact hsuf
    exact (hI.neutral hC ⟨⟨pushed, suf, hcode, hsuf', hp'⟩, hm.tr.toP fun _ => softT_irrel, hm.handlers,
      hc ▸ otherI_pend ho _⟩).fin (hC.soft hc hm .done) (pend_nil_of_ext hC hcode hsuf' hp') hf
  | core hc ho h hcode hL htr hlog hf _ =>
    obtain ⟨h1, h2, h3⟩ := h.pushed_ok
    have hm := hI.core hC hc h hcode hL htr
    cases hf with
    | done => exact hm
    | halt => exact hm
    | caught hk =>
      obtain ⟨rfl, -⟩ := h.raises
      exact hm.fin (hC.push hc hcode h1 h2 (hL ▸ h3))
        (pend_nil_of_ext hC (pushed := []) hcode (by rw [hc]; exact List.suffix_refl _) (by simp)) (.caught hk)
    | died hk =>
      obtain ⟨rfl, -⟩ := h.raises
      exact hm.fin (hC.push hc hcode h1 h2 (hL ▸ h3))
        (pend_nil_of_ext hC (pushed := []) hcode (by rw [hc]; exact List.suffix_refl _) (by simp)) (.died hk)

theorem dispInv_reach {P : Prog} {c0 c : Cfg} (h0 : Started c0) (hr : Reach P c0 c) (s : Sig) : DispInv s c := by
  exact reach_induction (.init s h0) (fun c c' hr hI ht => hI.trans (codeInv_reach h0 hr) ht) hr

end Simpleline.Dispatch
